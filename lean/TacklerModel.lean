import TacklerModel.Model.Accept
import TacklerModel.Model.Audit
import TacklerModel.Model.Balance
import TacklerModel.Model.Basic
import TacklerModel.Model.Charts
import TacklerModel.Model.Comb
import TacklerModel.Model.Config
import TacklerModel.Model.Dec
import TacklerModel.Model.Equity
import TacklerModel.Model.Filter
import TacklerModel.Model.FilterDef
import TacklerModel.Model.Group
import TacklerModel.Model.Hash
import TacklerModel.Model.Order
import TacklerModel.Model.Output
import TacklerModel.Model.SubCmd
import TacklerModel.Model.Price
import TacklerModel.Model.PricedReports
import TacklerModel.Model.Print
import TacklerModel.Model.Regex
import TacklerModel.Model.Register
import TacklerModel.Model.ReportSel
import TacklerModel.Model.ReportText
import TacklerModel.Model.Scale
import TacklerModel.Model.BalanceLayout
import TacklerModel.Model.Select
import TacklerModel.Model.Selector
import TacklerModel.Model.Settings
import TacklerModel.Model.Syntax
import TacklerModel.Model.Time
import TacklerModel.Model.Types
import TacklerModel.Lemmas.Accept
import TacklerModel.Lemmas.AcceptOrder
import TacklerModel.Lemmas.AccountSums
import TacklerModel.Lemmas.BalanceSpec
import TacklerModel.Lemmas.ChunkBy
import TacklerModel.Lemmas.Complete
import TacklerModel.Lemmas.Dec
import TacklerModel.Lemmas.Digits
import TacklerModel.Lemmas.E2E
import TacklerModel.Lemmas.E2Eb
import TacklerModel.Lemmas.Equity
import TacklerModel.Lemmas.FilterDef
import TacklerModel.Lemmas.Forward
import TacklerModel.Lemmas.HashVectors
import TacklerModel.Lemmas.KeyOrder
import TacklerModel.Lemmas.ListSum
import TacklerModel.Lemmas.OutcomeRel
import TacklerModel.Lemmas.Order
import TacklerModel.Lemmas.Output
import TacklerModel.Lemmas.ParserTac
import TacklerModel.Lemmas.Period
import TacklerModel.Lemmas.RawLex
import TacklerModel.Lemmas.Regex
import TacklerModel.Lemmas.Register
import TacklerModel.Lemmas.RoundTrip
import TacklerModel.Lemmas.RoundTripLines
import TacklerModel.Lemmas.RoundTripTs
import TacklerModel.Lemmas.RoundTripTxn
import TacklerModel.Lemmas.Syntax
import TacklerModel.Lemmas.Time
import TacklerModel.Lemmas.TreeNodes
import TacklerModel.Props.C01
import TacklerModel.Props.C02
import TacklerModel.Props.C03
import TacklerModel.Props.C04
import TacklerModel.Props.C05
import TacklerModel.Props.C03b
import TacklerModel.Props.C05b
import TacklerModel.Props.C06
import TacklerModel.Props.C06b
import TacklerModel.Props.C07
import TacklerModel.Props.C07b
import TacklerModel.Props.C08
import TacklerModel.Props.C09
import TacklerModel.Props.C09Vectors
import TacklerModel.Props.C10
import TacklerModel.Props.C11
import TacklerModel.Props.C12
import TacklerModel.Props.C13
import TacklerModel.Props.C14
import TacklerModel.Props.C14b
import TacklerModel.Props.C15
import TacklerModel.Props.C16
import TacklerModel.Props.C17
import TacklerModel.Props.C17b
import TacklerModel.Props.C17c
import TacklerModel.Props.C17d
import TacklerModel.Props.C18
import TacklerModel.Props.C19
import TacklerModel.Props.E2E
import TacklerModel.Props.E2Eb
import TacklerModel.Props.E2Ec
