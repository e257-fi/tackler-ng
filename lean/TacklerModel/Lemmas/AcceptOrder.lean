import TacklerModel.Props.C12
import TacklerModel.Lemmas.Order
import TacklerModel.Model.Syntax
/-!
# Acceptance is independent of the order in which transactions (and files) pass through `Settings`

`acceptJournal st rs` threads the settings through the transactions; what they register does not make the
*result* depend on the order:

* `View s s'` — what acceptance can see of the settings: the three switches and, in strict mode, the charts as
  sets (the empty commodity apart: whether it is accepted is decided by `permitEmpty`, not by the chart).
  `acceptTxn_view`: two settings with the same view give the same three-valued outcome and the same
  transaction (`OutV`) — the chart look-ups respect `View` (`view_respects`), so this is `C12.acceptTxn_rel`;
  `acceptTxn_step_view`: a successful step does not change the view.
* `acceptJournal_pointwise` — **each transaction is accepted as if it were alone**:
  `(acceptJournal st rs).map fst = seqO (rs.map (acc st))` with `acc st r = (acceptTxn st r).map fst`, where `seqO`
  is "all results, or the first failure".  `acc st` depends only on the view of `st` (`acc_congr`).
* `accept_perm` and corollaries — for `rs.Perm rs'`: accepted iff accepted; the accepted lists are `rs`/`rs'`
  mapped through the same function (`accept_as_map`), hence permutations of each other by the same
  permutation; both fail together.  The *class* of the failure (`err` / `undef`) is that of the first failing
  transaction, so it agrees whenever the journal does not contain both kinds (`status_perm`); with both kinds
  present it is the order that decides, `status_order_witness` is the concrete example.
* `Eff` — the effect of a successful run on the charts, as sets, in terms of the names the parse trees use
  (`acceptJournal_eff`); `final_state_perm`: the final states of two permuted runs have the same switches and
  the same charts as sets (`SameCharts`), and in lax mode both account charts are ancestor-closed.
* files: `acceptTrees_flatten` (threading through files = threading through the concatenation),
  `loadFiles_eq` (text level: files that parse), `loadTrees`.
-/

namespace Tackler
namespace AcceptOrder
open C12

/-! ## 1. what acceptance sees of the settings -/

/-- same switches; in strict mode the same charts as sets (non-empty commodities) -/
structure View (s s' : Settings) : Prop where
  flags : Flags s' = Flags s
  accts : s.strict = true → ∀ p, p ∈ s'.accounts ↔ p ∈ s.accounts
  comms : s.strict = true → ∀ n, n ≠ "" → (n ∈ s'.commodities ↔ n ∈ s.commodities)
  tags : s.strict = true → ∀ t, t ∈ s'.tags ↔ t ∈ s.tags

theorem View.strict_eq {s s' : Settings} (h : View s s') : s'.strict = s.strict := strict_of_flags h.flags

theorem View.pe {s s' : Settings} (h : View s s') : s'.permitEmpty = s.permitEmpty := by
  have := h.flags; simp only [Flags, Prod.mk.injEq] at this; exact this.2.2

theorem View.audit {s s' : Settings} (h : View s s') : s'.audit = s.audit := by
  have := h.flags; simp only [Flags, Prod.mk.injEq] at this; exact this.2.1

theorem View.refl (s : Settings) : View s s := ⟨rfl, fun _ _ => Iff.rfl, fun _ _ _ => Iff.rfl, fun _ _ => Iff.rfl⟩

theorem View.symm {s s' : Settings} (h : View s s') : View s' s :=
  ⟨h.flags.symm, fun hs p => (h.accts (h.strict_eq ▸ hs) p).symm,
   fun hs n hn => (h.comms (h.strict_eq ▸ hs) n hn).symm, fun hs t => (h.tags (h.strict_eq ▸ hs) t).symm⟩

theorem View.trans {s t u : Settings} (h1 : View s t) (h2 : View t u) : View s u :=
  ⟨h2.flags.trans h1.flags,
   fun hs p => (h2.accts (h1.strict_eq.trans hs) p).trans (h1.accts hs p),
   fun hs n hn => (h2.comms (h1.strict_eq.trans hs) n hn).trans (h1.comms hs n hn),
   fun hs t => (h2.tags (h1.strict_eq.trans hs) t).trans (h1.tags hs t)⟩

theorem View.lax {s s' : Settings} (h : View s s') (hs : s.strict = false) : LaxRel s s' :=
  ⟨hs, h.strict_eq.trans hs, h.pe, h.audit⟩

theorem view_of_lax {s s' : Settings} (h : LaxRel s s') : View s s' := by
  refine ⟨?_, ?_, ?_, ?_⟩
  · simp [Flags, h.l, h.l', h.pe, h.audit]
  all_goals (intro hs; rw [h.l] at hs; cases hs)

theorem view_of_frozen {s t : Settings} (h : Frozen s t) : View s t :=
  ⟨h.flags, fun _ p => by rw [h.accounts], fun _ n hn => h.comms n hn, fun _ x => by rw [h.tags]⟩

/-- same outcome class, same value, same view of the resulting settings -/
def OutV {β : Type} (o o' : Outcome (β × Settings)) : Prop :=
  match o, o' with
  | .ok (b, t), .ok (b', t') => b = b' ∧ View t t'
  | .err, .err => True
  | .undef, .undef => True
  | _, _ => False

theorem OutV.inexact {β : Type} (b : Bool) : OutV (Outcome.inexact b : Outcome (β × Settings)) (Outcome.inexact b) := by
  cases b <;> exact trivial

theorem OutV.iff_rel {β : Type} {o o' : Outcome (β × Settings)} : OutV o o' ↔ OutRel (StateRel View) o o' := by
  constructor
  · intro h
    match o, o', h with
    | .ok (_, _), .ok (_, _), h => exact .ok h
    | .err, .err, _ => exact .err
    | .undef, .undef, _ => exact .undef
  · intro h
    cases h with
    | ok hq => exact hq
    | err => exact trivial
    | undef => exact trivial

/-! ### the view decides whether a name may be used, and registering the name keeps it -/

theorem View.commOk {s s' : Settings} (hv : View s s') (n : String) : CommOk s' n ↔ CommOk s n := by
  unfold CommOk
  rw [hv.pe, hv.strict_eq]
  split
  · exact Iff.rfl
  · rename_i hn
    exact imp_congr_right fun hs => hv.comms hs n hn

theorem View.tagOk {s s' : Settings} (hv : View s s') (n : String) : TagOk s' n ↔ TagOk s n := by
  unfold TagOk
  rw [hv.strict_eq]
  exact and_congr_right fun _ => imp_congr_right fun hs => hv.tags hs n

theorem View.acctOk {s s' : Settings} (hv : View s s') (p : Path) : AcctOk s' p ↔ AcctOk s p := by
  unfold AcctOk
  rw [hv.strict_eq]
  exact imp_congr_right fun hs => hv.accts hs p

theorem View.addComm {s s' : Settings} (hv : View s s') (n : String) :
    View { s with commodities := insertNew s.commodities n } { s' with commodities := insertNew s'.commodities n } :=
  ⟨hv.flags, hv.accts, fun hs m hm => by simp only [mem_insertNew, hv.comms hs m hm], hv.tags⟩

theorem View.withAcct {s s' : Settings} (hv : View s s') (p : Path) : View (withAcct s p) (withAcct s' p) := by
  by_cases hs : s.strict = true
  · simp only [C12.withAcct, hs, hv.strict_eq.trans hs, if_true]
    exact hv
  · exact view_of_lax ((hv.lax (by simpa using hs)).step (withAcct_flags s p) (withAcct_flags s' p))

theorem view_respects : Respects (fun _ => True) (fun _ => True) (fun _ => True) View where
  audit hv := hv.audit
  empty := trivial
  comm n _ hv := .of_ok_iff (hv.commOk n) goc_eq_ok goc_eq_err goc_eq_ok goc_eq_err fun _ => ⟨rfl, hv.addComm n⟩
  tag n _ hv :=
    .of_ok_iff (hv.tagOk n) tag_eq_ok tag_eq_err tag_eq_ok tag_eq_err
      fun _ => ⟨rfl, hv.flags, hv.accts, hv.comms, fun hs t => by simp only [mem_insertNew, hv.tags hs t]⟩
  acct p c _ _ hv :=
    .of_ok_iff (and_congr (hv.commOk c) (hv.acctOk p)) (fun k => gocta_eq_ok k.1 k.2) gocta_eq_err
      (fun k => gocta_eq_ok k.1 k.2) gocta_eq_err fun _ => ⟨rfl, (hv.addComm c).withAcct p⟩

/-- **acceptance sees the settings only through the view**: the same three-valued outcome, the same
    transaction, and again the same view -/
theorem acceptTxn_view (s s' : Settings) (r : RawTxn) (hv : View s s') :
    OutV (acceptTxn s r) (acceptTxn s' r) :=
  OutV.iff_rel.mpr (acceptTxn_rel view_respects r (within_true r) hv)

theorem acceptTxn_step_view (s : Settings) (r : RawTxn) (t : Txn) (s2 : Settings)
    (h : acceptTxn s r = .ok (t, s2)) : View s s2 := by
  by_cases hs : s.strict = true
  · exact view_of_frozen (acceptTxn_spec.frozen s r t s2 hs h)
  · have hfl := acceptTxn_spec.flags s r t s2 h
    have hl : s.strict = false := by simpa using hs
    exact view_of_lax ⟨hl, (strict_of_flags hfl).trans hl, by
      simp only [Flags, Prod.mk.injEq] at hfl; exact hfl.2.2, by
      simp only [Flags, Prod.mk.injEq] at hfl; exact hfl.2.1⟩

/-! ## 2. each transaction is accepted as if it were alone -/

/-- all results, or the first failure (`collect::<Result<Vec<_>, _>>()`) -/
def seqO {β : Type} : List (Outcome β) → Outcome (List β)
  | [] => .ok []
  | .ok b :: os =>
    (match seqO os with
     | .ok bs => .ok (b :: bs)
     | .err => .err
     | .undef => .undef)
  | .err :: _ => .err
  | .undef :: _ => .undef

/-- acceptance of one transaction on its own, from the initial settings: outcome class and transaction -/
def acc (st : Settings) (r : RawTxn) : Outcome Txn := (acceptTxn st r).map Prod.fst

def okOpt {β : Type} : Outcome β → Option β
  | .ok b => some b
  | _ => none

def accO (st : Settings) (r : RawTxn) : Option Txn := okOpt (acc st r)

theorem acc_congr (s s' : Settings) (hv : View s s') (r : RawTxn) : acc s r = acc s' r :=
  (acceptTxn_rel view_respects r (within_true r) hv).map_eq fun _ _ h => h.1

theorem accO_congr (s s' : Settings) (hv : View s s') (r : RawTxn) : accO s r = accO s' r := by
  unfold accO; rw [acc_congr s s' hv r]

theorem acc_lax (s s' : Settings) (hs : s.strict = false) (hs' : s'.strict = false)
    (hpe : s'.permitEmpty = s.permitEmpty) (ha : s'.audit = s.audit) (r : RawTxn) : acc s r = acc s' r :=
  acc_congr s s' (view_of_lax ⟨hs, hs', hpe, ha⟩) r

/-- the induction behind `acceptJournal_pointwise`: the running settings `t` keep the view of the initial `st` -/
theorem accept_from_view (st : Settings) : ∀ (rs : List RawTxn) (t : Settings), View st t →
    (mapMS acceptTxn t rs).map Prod.fst = seqO (rs.map (acc st)) := by
  intro rs
  induction rs with
  | nil => intro t _; simp [mapMS, seqO, Outcome.map]
  | cons a tl ih =>
    intro t hv
    have h := acceptTxn_rel view_respects a (within_true a) hv
    simp only [List.map_cons, mapMS]
    rcases h.elim with ⟨e, e'⟩ | ⟨e, e'⟩ | ⟨⟨b, s1⟩, ⟨_, t1⟩, e, e', rfl, hv1⟩
    · simp [acc, e, e', seqO, Outcome.map]
    · simp [acc, e, e', seqO, Outcome.map]
    · have hv' : View st t1 := (acceptTxn_step_view st a b s1 e).trans hv1
      have := ih t1 hv'
      simp only [acc, e, e', seqO, Outcome.map] at this ⊢
      rw [← this]
      cases mapMS acceptTxn t1 tl with
      | ok r => obtain ⟨bs, s3⟩ := r; rfl
      | err => rfl
      | undef => rfl

/-- **pointwise acceptance.**  The transactions a journal is accepted to, and its three-valued status, are those
    of its transactions taken one by one from the *initial* settings: nothing an earlier transaction registers
    changes how a later one is accepted. -/
theorem acceptJournal_pointwise (st : Settings) (rs : List RawTxn) :
    (acceptJournal st rs).map Prod.fst = seqO (rs.map (acc st)) :=
  accept_from_view st rs st (View.refl st)

theorem seqO_cons {β : Type} (o : Outcome β) (os : List (Outcome β)) :
    seqO (o :: os) = o.bind fun b => (seqO os).map (b :: ·) := by
  cases o with
  | ok b => simp only [seqO, Outcome.bind]; cases seqO os <;> rfl
  | err => rfl
  | undef => rfl

theorem seqO_ok {β : Type} : ∀ (os : List (Outcome β)) (bs : List β), seqO os = .ok bs ↔ os = bs.map Outcome.ok
  | [], bs => by cases bs <;> simp [seqO]
  | o :: os, bs => by
    rw [seqO_cons, Outcome.bind_ok]
    simp only [Outcome.map_ok, seqO_ok os]
    cases bs <;> simp

theorem map_fst_ok {β : Type} (o : Outcome (β × Settings)) (b : β) :
    o.map Prod.fst = .ok b ↔ ∃ s, o = .ok (b, s) := by
  cases o with
  | ok r => obtain ⟨b', s⟩ := r; simp [Outcome.map]
  | err => simp [Outcome.map]
  | undef => simp [Outcome.map]

theorem accO_eq_some (st : Settings) (r : RawTxn) (t : Txn) : accO st r = some t ↔ acc st r = .ok t := by
  unfold accO
  cases acc st r <;> simp [okOpt]

/-- **acceptance as a map.**  A journal is accepted to `ts` iff `ts` is `rs` mapped through `accO st`, every
    transaction being accepted on its own: `ts[i]` is the acceptance of `rs[i]`, wherever it stands. -/
theorem accept_as_map (st : Settings) (rs : List RawTxn) (ts : List Txn) :
    (∃ st', acceptJournal st rs = .ok (ts, st')) ↔ rs.map (accO st) = ts.map some := by
  rw [← map_fst_ok, acceptJournal_pointwise, seqO_ok]
  constructor
  · intro h
    have e1 : rs.map (accO st) = (rs.map (acc st)).map okOpt := by simp [List.map_map, accO, Function.comp_def]
    have e2 : ts.map some = (ts.map Outcome.ok).map (okOpt (β := Txn)) := by simp [List.map_map, okOpt, Function.comp_def]
    rw [e1, e2, h]
  · intro h
    apply List.ext_getElem
    · have := congrArg List.length h; simpa using this
    · intro i h1 h2
      have hi : i < rs.length := by simpa using h1
      have hi' : i < ts.length := by simpa using h2
      have := congrArg (fun l => l[i]?) h
      simp only [List.getElem?_map, List.getElem?_eq_getElem hi, List.getElem?_eq_getElem hi', Option.map_some,
        Option.some.injEq] at this
      simp only [List.getElem_map]
      exact (accO_eq_some st _ _).mp this

theorem accept_members (st st' : Settings) (rs : List RawTxn) (ts : List Txn)
    (h : acceptJournal st rs = .ok (ts, st')) : ts = rs.filterMap (accO st) ∧ ∀ r ∈ rs, ∃ t ∈ ts, accO st r = some t := by
  have hm := (accept_as_map st rs ts).mp ⟨st', h⟩
  constructor
  · have : (rs.map (accO st)).filterMap id = (ts.map some).filterMap id := by rw [hm]
    simpa [List.filterMap_map, Function.comp_def] using this.symm
  · intro r hr
    have : accO st r ∈ ts.map some := by rw [← hm]; exact List.mem_map_of_mem hr
    obtain ⟨t, ht, e⟩ := List.mem_map.mp this
    exact ⟨t, ht, e.symm⟩

theorem map_eq_filterMap_some {α β : Type} (f : α → Option β) : ∀ l : List α, (∀ r ∈ l, (f r).isSome) →
    l.map f = (l.filterMap f).map some := by
  intro l
  induction l with
  | nil => intro _; rfl
  | cons a tl ih =>
    intro hl
    have ha := hl a List.mem_cons_self
    obtain ⟨x, hx⟩ := Option.isSome_iff_exists.mp ha
    simp [hx, ih (fun r hr => hl r (List.mem_cons_of_mem _ hr))]

/-! ## 3. permuting the journal -/

/-- **order independence of acceptance.**  If `rs'` is a permutation of `rs`: one is accepted iff the other is,
    and then the accepted lists are `rs` and `rs'` mapped through the same function `accO st` — so `ts'` is `ts`
    rearranged by the same permutation. -/
theorem accept_perm (st st₁ : Settings) (rs rs' : List RawTxn) (ts : List Txn) (hp : rs.Perm rs')
    (h : acceptJournal st rs = .ok (ts, st₁)) :
    ∃ ts' st₁', acceptJournal st rs' = .ok (ts', st₁') ∧ rs.map (accO st) = ts.map some ∧
      rs'.map (accO st) = ts'.map some ∧ ts.Perm ts' := by
  have hm := (accept_as_map st rs ts).mp ⟨st₁, h⟩
  obtain ⟨e1, hall⟩ := accept_members st st₁ rs ts h
  have hm' : rs'.map (accO st) = (rs'.filterMap (accO st)).map some := by
    apply map_eq_filterMap_some
    intro r hr
    obtain ⟨t, _, e⟩ := hall r (hp.symm.subset hr)
    simp [e]
  obtain ⟨st₁', h'⟩ := (accept_as_map st rs' _).mpr hm'
  refine ⟨_, st₁', h', hm, hm', ?_⟩
  rw [e1]
  exact hp.filterMap _

theorem accept_ok_perm (st : Settings) (rs rs' : List RawTxn) (hp : rs.Perm rs') :
    (∃ r, acceptJournal st rs = .ok r) ↔ ∃ r, acceptJournal st rs' = .ok r := by
  constructor
  · rintro ⟨⟨ts, s1⟩, h⟩
    obtain ⟨ts', s1', h', _⟩ := accept_perm st s1 rs rs' ts hp h
    exact ⟨_, h'⟩
  · rintro ⟨⟨ts, s1⟩, h⟩
    obtain ⟨ts', s1', h', _⟩ := accept_perm st s1 rs' rs ts hp.symm h
    exact ⟨_, h'⟩

/-! ### the class of a failure -/

theorem seqO_fail_mem {β : Type} : ∀ (os : List (Outcome β)),
    (seqO os = .err → Outcome.err ∈ os) ∧ (seqO os = .undef → Outcome.undef ∈ os) := by
  intro os
  induction os with
  | nil => exact ⟨nofun, nofun⟩
  | cons o tl ih =>
    cases o with
    | err => exact ⟨fun _ => List.mem_cons_self, nofun⟩
    | undef => exact ⟨nofun, fun _ => List.mem_cons_self⟩
    | ok b =>
      simp only [seqO]
      cases e : seqO tl with
      | ok bs => exact ⟨nofun, nofun⟩
      | err => exact ⟨fun _ => List.mem_cons_of_mem _ (ih.1 e), nofun⟩
      | undef => exact ⟨nofun, fun _ => List.mem_cons_of_mem _ (ih.2 e)⟩

/-- the status of a load: accepted / rejected / outside the modelled numeric domain -/
def status {β : Type} (o : Outcome β) : Outcome Unit := o.map (fun _ => ())

theorem journal_err_mem (st : Settings) (rs : List RawTxn) (h : acceptJournal st rs = .err) :
    ∃ r ∈ rs, acc st r = .err := by
  have := acceptJournal_pointwise st rs
  rw [h] at this
  have := (seqO_fail_mem _).1 this.symm
  obtain ⟨r, hr, e⟩ := List.mem_map.mp this
  exact ⟨r, hr, e⟩

theorem journal_undef_mem (st : Settings) (rs : List RawTxn) (h : acceptJournal st rs = .undef) :
    ∃ r ∈ rs, acc st r = .undef := by
  have := acceptJournal_pointwise st rs
  rw [h] at this
  have := (seqO_fail_mem _).2 this.symm
  obtain ⟨r, hr, e⟩ := List.mem_map.mp this
  exact ⟨r, hr, e⟩

/-- **three-valued agreement.**  The status of a failing journal is that of its *first* failing transaction.
    Permuted journals therefore fail together, and with the same class whenever the journal does not contain
    both a transaction that is rejected on its own and one that is outside the modelled domain on its own. -/
theorem status_perm (st : Settings) (rs rs' : List RawTxn) (hp : rs.Perm rs')
    (hone : (∀ r ∈ rs, acc st r ≠ .undef) ∨ (∀ r ∈ rs, acc st r ≠ .err)) :
    status (acceptJournal st rs) = status (acceptJournal st rs') := by
  have hok := accept_ok_perm st rs rs' hp
  cases h : acceptJournal st rs with
  | ok r =>
    obtain ⟨r', h'⟩ := hok.mp ⟨r, h⟩
    simp [h', status, Outcome.map]
  | err =>
    cases h' : acceptJournal st rs' with
    | ok r' => obtain ⟨r, h2⟩ := hok.mpr ⟨r', h'⟩; rw [h] at h2; cases h2
    | err => rfl
    | undef =>
      obtain ⟨a, ha, ea⟩ := journal_err_mem st rs h
      obtain ⟨b, hb, eb⟩ := journal_undef_mem st rs' h'
      rcases hone with h1 | h1
      · exact absurd eb (h1 b (hp.symm.subset hb))
      · exact absurd ea (h1 a ha)
  | undef =>
    cases h' : acceptJournal st rs' with
    | ok r' => obtain ⟨r, h2⟩ := hok.mpr ⟨r', h'⟩; rw [h] at h2; cases h2
    | undef => rfl
    | err =>
      obtain ⟨a, ha, ea⟩ := journal_undef_mem st rs h
      obtain ⟨b, hb, eb⟩ := journal_err_mem st rs' h'
      rcases hone with h1 | h1
      · exact absurd ea (h1 a ha)
      · exact absurd eb (h1 b (hp.symm.subset hb))

theorem fail_perm (st : Settings) (rs rs' : List RawTxn) (hp : rs.Perm rs') :
    (acceptJournal st rs).isOk = (acceptJournal st rs').isOk := by
  have ok : ∀ o : Outcome (List Txn × Settings), o.isOk = true ↔ ∃ r, o = .ok r := by
    intro o; cases o <;> simp [Outcome.isOk]
  exact Bool.eq_iff_iff.mpr (by rw [ok, ok]; exact accept_ok_perm st rs rs' hp)

/-! ## 4. the effect of an accepted journal on the charts, as sets -/

def Anc (q p : Path) : Prop := q = p ∨ (q ≠ [] ∧ q <+: p)

/-- the charts of `s2` are those of `s` plus the names `A` (accounts, with their ancestors in lax mode),
    `C` (commodities), `T` (tags); the switches and the synthetic parents are unchanged -/
structure Eff (s s2 : Settings) (A : List Path) (C T : List String) : Prop where
  flags : Flags s2 = Flags s
  synthetic : s2.synthetic = s.synthetic
  comms : ∀ c, c ∈ s2.commodities ↔ c ∈ s.commodities ∨ c ∈ C
  tags : ∀ t, t ∈ s2.tags ↔ t ∈ s.tags ∨ t ∈ T
  acctsStrict : s.strict = true → s2.accounts = s.accounts
  acctsLax : s.strict = false → AncClosed s.accounts →
    AncClosed s2.accounts ∧ ∀ q, q ∈ s2.accounts ↔ q ∈ s.accounts ∨ ∃ p ∈ A, Anc q p

theorem Eff.refl (s : Settings) : Eff s s [] [] [] :=
  ⟨rfl, rfl, by simp, by simp, fun _ => rfl, fun _ h => ⟨h, by simp⟩⟩

theorem Eff.trans {s t u : Settings} {A A' : List Path} {C C' T T' : List String}
    (h1 : Eff s t A C T) (h2 : Eff t u A' C' T') : Eff s u (A ++ A') (C ++ C') (T ++ T') := by
  have hst : t.strict = s.strict := strict_of_flags h1.flags
  refine ⟨h2.flags.trans h1.flags, h2.synthetic.trans h1.synthetic, ?_, ?_, ?_, ?_⟩
  · intro c; simp only [h2.comms, h1.comms, List.mem_append, or_assoc]
  · intro c; simp only [h2.tags, h1.tags, List.mem_append, or_assoc]
  · intro hs; rw [h2.acctsStrict (hst.trans hs), h1.acctsStrict hs]
  · intro hs hcl
    obtain ⟨c1, m1⟩ := h1.acctsLax hs hcl
    obtain ⟨c2, m2⟩ := h2.acctsLax (hst.trans hs) c1
    exact ⟨c2, fun q => by simp only [m2, m1, List.mem_append, or_and_right, exists_or, or_assoc]⟩

theorem Eff.congr {s t : Settings} {A A' : List Path} {C C' T T' : List String} (h : Eff s t A C T)
    (hA : ∀ x, x ∈ A' ↔ x ∈ A) (hC : ∀ x, x ∈ C' ↔ x ∈ C) (hT : ∀ x, x ∈ T' ↔ x ∈ T) : Eff s t A' C' T' :=
  ⟨h.flags, h.synthetic, fun c => by rw [h.comms, hC], fun c => by rw [h.tags, hT], h.acctsStrict,
   fun hs hcl => ⟨(h.acctsLax hs hcl).1, fun q => by simp only [(h.acctsLax hs hcl).2, hA]⟩⟩

/-- `build_account_tree` adds only ancestors of the account -/
theorem build_only (other : List Path) : ∀ (fuel : Nat) (target : List Path) (p q : Path),
    q ∈ buildAccountTree other fuel target p → q ∈ target ∨ (q ≠ [] ∧ q <+: p) := by
  intro fuel
  induction fuel with
  | zero => intro target p q h; simp only [buildAccountTree] at h; exact .inl h
  | succ fuel ih =>
    intro target p q h
    simp only [buildAccountTree] at h
    split at h
    · exact .inl h
    · split at h
      · exact .inl h
      · rename_i h1 _
        have hpre : parentPath p <+: p := List.dropLast_prefix p
        rcases ih _ _ _ h with hq | ⟨hq1, hq2⟩
        · rcases List.mem_append.mp hq with hq | hq
          · exact .inl hq
          · have : q = parentPath p := by simpa using hq
            subst this
            refine .inr ⟨?_, hpre⟩
            intro e
            have := parentPath_length p
            rw [e] at this
            simp at this
            omega
        · exact .inr ⟨hq1, hq2.trans hpre⟩

theorem goc_eff {s s1 : Settings} {n c : String} (h : s.getOrCreateCommodity (some n) = .ok (c, s1)) :
    Eff s s1 [] [n] [] := by
  obtain ⟨_, _, rfl⟩ := goc_inv h
  exact ⟨rfl, rfl, fun m => by simp [mem_insertNew], by simp, fun _ => rfl, fun _ hcl => ⟨hcl, by simp⟩⟩

theorem tag_eff {s s1 : Settings} {n b : String} (h : s.getOrCreateTag n = .ok (b, s1)) : Eff s s1 [] [] [n] := by
  obtain ⟨_, _, rfl⟩ := tag_inv h
  exact ⟨rfl, rfl, by simp, fun m => by simp [mem_insertNew], fun _ => rfl, fun _ hcl => ⟨hcl, by simp⟩⟩

theorem withAcct_eff {s : Settings} {p : Path} (hp : AcctOk s p) : Eff s (withAcct s p) [p] [] [] := by
  obtain ⟨g, hmem⟩ := withAcct_grow s p
  refine ⟨g.flags, g.synthetic, ?_, ?_, fun hs => by rw [withAcct, if_pos hs], fun hs hcl => ⟨g.closed hs hcl, fun q => ?_⟩⟩
  · intro c; unfold withAcct; split <;> simp
  · intro t; unfold withAcct; split <;> simp
  · constructor
    · intro hq
      rw [withAcct, if_neg (by simp [hs])] at hq
      rcases build_only [] _ _ _ _ hq with h1 | h1
      · rcases (mem_insertNew _ _ _).mp h1 with h1 | rfl
        · exact .inl h1
        · exact .inr ⟨q, by simp, .inl rfl⟩
      · exact .inr ⟨p, by simp, .inr h1⟩
    · rintro (hq | ⟨p', hp', ha⟩)
      · exact g.accounts q hq
      · obtain rfl : p' = p := by simpa using hp'
        rcases ha with rfl | ⟨hne, hpre⟩
        · exact hmem hp
        · exact closed_prefix (· ∈ (withAcct s p').accounts) (g.closed hs hcl) p'.length p' q rfl (hmem hp) hne hpre

theorem gocta_eff {s s2 : Settings} {p b : Path} {c : String} (h : s.getOrCreateTxnAccount p c = .ok (b, s2)) :
    Eff s s2 [p] [c] [] := by
  obtain ⟨hc, hp, _, rfl⟩ := gocta_inv h
  exact (goc_eff (goc_eq_ok hc)).trans (withAcct_eff hp)

def postingComms (rp : RawPosting) : List String := unitComms rp.unit ++ [postCommU rp.unit]

theorem mapMS_eff {α β : Type} (f : Settings → α → Outcome (β × Settings))
    (A : α → List Path) (C T : α → List String)
    (hf : ∀ s a b t, f s a = .ok (b, t) → Eff s t (A a) (C a) (T a)) :
    ∀ (l : List α) (s : Settings) (bs : List β) (t : Settings), mapMS f s l = .ok (bs, t) →
      Eff s t (l.flatMap A) (l.flatMap C) (l.flatMap T) := by
  intro l
  induction l with
  | nil => intro s bs t h; simp only [mapMS] at h; cases h; exact Eff.refl _
  | cons a tl ih =>
    intro s bs t h
    obtain ⟨b, s1, bs', h1, h2, rfl⟩ := (mapMS_cons_ok f s t a tl bs).mp h
    simpa [List.flatMap_cons] using (hf s a b s1 h1).trans (ih s1 bs' t h2)

theorem registerUnit_eff (s : Settings) (u : Option PostUnit) (s2 : Settings) (h : registerUnit s u = .ok s2) :
    Eff s s2 [] (unitComms u) [] := by
  obtain ⟨cs, h⟩ := (registerUnit_ok s u s2).mp h
  exact (mapMS_eff _ (fun _ => []) (fun c => [c]) (fun _ => []) (fun _ _ _ _ hh => goc_eff hh) _ _ _ _ h).congr
    (by simp) (by simp) (by simp)

theorem handlePosting_eff (s : Settings) (rp : RawPosting) (p : Posting) (s2 : Settings)
    (h : handlePosting s rp = .ok (p, s2)) :
    Eff s s2 [rp.acct] (postingComms rp) [] ∧ p.txnComm ∈ postingComms rp := by
  obtain ⟨s1, vp, a, h1, h2, h3, h4⟩ := (handlePosting_ok _ _ _ _).mp h
  have := mkPosting_eq _ _ h4
  subst this
  obtain ⟨e1, e2⟩ := valuePosition_names _ _ _ h2
  have := (registerUnit_eff _ _ _ h1).trans (gocta_eff h3)
  rw [e1] at this
  exact ⟨by simpa [postingComms] using this, e2⟩

def txnAccts (r : RawTxn) : List Path :=
  r.posts.flatMap (fun rp => [rp.acct]) ++ (match r.last with | some (a, _) => [a] | none => [])

def txnComms (r : RawTxn) : List String := r.posts.flatMap postingComms

theorem acceptPostings_eff (s : Settings) (r : RawTxn) (all : List Posting) (s2 : Settings)
    (h : acceptPostings s r.posts r.last = .ok (all, s2)) : Eff s s2 (txnAccts r) (txnComms r) [] := by
  obtain ⟨p0, rest, s1, h1, hcase⟩ := (acceptPostings_ok _ _ _ _ _).mp h
  have e1 := mapMS_eff handlePosting (fun rp => [rp.acct]) postingComms (fun _ => [])
    (fun s a b t hh => (handlePosting_eff s a b t hh).1) _ _ _ _ h1
  have e1' : Eff s s1 (r.posts.flatMap (fun rp => [rp.acct])) (txnComms r) [] :=
    e1.congr (fun _ => Iff.rfl) (fun _ => Iff.rfl) (by simp)
  rcases hcase with ⟨hl, _, rfl⟩ | ⟨a, cmt, sm, a', l, hl, _, hg, _, _⟩
  · simpa [txnAccts, hl] using e1'
  · have e2 := e1'.trans (gocta_eff hg)
    -- the last posting's commodity is the first posting's transaction commodity, already registered
    obtain ⟨rp, hrp, sa, sb, hh⟩ := mapMS_ok handlePosting r.posts s s1 (p0 :: rest) h1 p0 List.mem_cons_self
    have hmem : p0.txnComm ∈ txnComms r :=
      List.mem_flatMap.mpr ⟨rp, hrp, (handlePosting_eff _ _ _ _ hh).2⟩
    refine e2.congr ?_ ?_ (by simp)
    · intro x; simp [txnAccts, hl]
    · intro x
      simp only [List.mem_append, List.mem_singleton]
      constructor
      · exact fun hx => .inl hx
      · rintro (hx | rfl)
        · exact hx
        · exact hmem

def txnTagsL (r : RawTxn) : List String := txnTags r

theorem acceptTags_eff (s : Settings) (tags : List String) (s2 : Settings) (h : acceptTags s tags = .ok s2) :
    Eff s s2 [] [] tags := by
  obtain ⟨_, bs, h1⟩ := (acceptTags_ok _ _ _).mp h
  have := mapMS_eff (fun s t => s.getOrCreateTag t) (fun _ => []) (fun _ => []) (fun t => [t])
    (fun _ _ _ _ hh => tag_eff hh) _ _ _ _ h1
  exact this.congr (by simp) (by simp) (by simp)

theorem acceptHeader_eff (s : Settings) (r : RawTxn) (s2 : Settings) (hh : acceptHeader s r.header = .ok s2) :
    Eff s s2 [] [] (txnTags r) := by
  obtain ⟨_, _, hcase⟩ := (acceptHeader_ok _ _ _).mp hh
  rcases hcase with ⟨ht, rfl⟩ | ⟨ts, ht, h1⟩
  · simpa [txnTags, ht] using Eff.refl _
  · simpa [txnTags, ht] using acceptTags_eff _ _ _ h1

theorem acceptTxn_eff (s : Settings) (r : RawTxn) (t : Txn) (s2 : Settings) (h : acceptTxn s r = .ok (t, s2)) :
    Eff s s2 (txnAccts r) (txnComms r) (txnTags r) := by
  obtain ⟨s1, ps, h1, h2, _, _⟩ := (acceptTxn_ok _ _ _ _).mp h
  simpa using (acceptHeader_eff _ _ _ h1).trans (acceptPostings_eff _ _ _ _ h2)

/-- **the final charts** of an accepted journal, as sets: the initial charts plus every commodity and tag the
    journal names, plus (lax mode, from an ancestor-closed chart) every account it names with all its ancestors;
    in strict mode the account chart is unchanged. -/
theorem acceptJournal_eff (s : Settings) (rs : List RawTxn) (ts : List Txn) (s2 : Settings)
    (h : acceptJournal s rs = .ok (ts, s2)) :
    Eff s s2 (rs.flatMap txnAccts) (rs.flatMap txnComms) (rs.flatMap txnTags) :=
  mapMS_eff acceptTxn txnAccts txnComms txnTags acceptTxn_eff _ _ _ _ h

structure SameCharts (s s' : Settings) : Prop where
  flags : Flags s' = Flags s
  accounts : ∀ p, p ∈ s'.accounts ↔ p ∈ s.accounts
  synthetic : s'.synthetic = s.synthetic
  commodities : ∀ c, c ∈ s'.commodities ↔ c ∈ s.commodities
  tags : ∀ t, t ∈ s'.tags ↔ t ∈ s.tags

theorem SameCharts.refl (s : Settings) : SameCharts s s := ⟨rfl, fun _ => Iff.rfl, rfl, fun _ => Iff.rfl, fun _ => Iff.rfl⟩

theorem SameCharts.view {s s' : Settings} (h : SameCharts s s') : View s s' :=
  ⟨h.flags, fun _ p => h.accounts p, fun _ n _ => h.commodities n, fun _ t => h.tags t⟩

theorem SameCharts.getTxnAccount {s s' : Settings} (h : SameCharts s s') (p : Path) (c : String) :
    s'.getTxnAccount p c = s.getTxnAccount p c := by
  unfold Settings.getTxnAccount
  by_cases h1 : c ∈ s.commodities <;> by_cases h2 : p ∈ s.accounts <;> by_cases h3 : p ∈ s.synthetic <;>
    simp [h1, h2, h3, h.commodities, h.accounts, h.synthetic]

theorem SameCharts.getCommodity {s s' : Settings} (h : SameCharts s s') (c : String) :
    s'.getCommodity c = s.getCommodity c := by
  unfold Settings.getCommodity
  by_cases h1 : c ∈ s.commodities <;> simp [h1, h.commodities]

theorem same_of_eff {s t t' : Settings} {A A' : List Path} {C C' T T' : List String}
    (h : Eff s t A C T) (h' : Eff s t' A' C' T') (hcl : s.strict = false → AncClosed s.accounts)
    (hA : ∀ x, x ∈ A ↔ x ∈ A') (hC : ∀ x, x ∈ C ↔ x ∈ C') (hT : ∀ x, x ∈ T ↔ x ∈ T') :
    SameCharts t t' ∧ (s.strict = false → AncClosed t.accounts ∧ AncClosed t'.accounts) := by
  refine ⟨⟨h'.flags.trans h.flags.symm, ?_, h'.synthetic.trans h.synthetic.symm, ?_, ?_⟩, ?_⟩
  · intro p
    by_cases hs : s.strict = true
    · rw [h.acctsStrict hs, h'.acctsStrict hs]
    · have hl : s.strict = false := by simpa using hs
      simp only [(h.acctsLax hl (hcl hl)).2, (h'.acctsLax hl (hcl hl)).2, hA]
  · intro c; rw [h.comms, h'.comms, hC]
  · intro c; rw [h.tags, h'.tags, hT]
  · intro hl; exact ⟨(h.acctsLax hl (hcl hl)).1, (h'.acctsLax hl (hcl hl)).1⟩

/-- **the final states of permuted journals agree on everything observable**: the switches, the synthetic parents,
    and the account / commodity / tag charts as sets; in lax mode both account charts are ancestor-closed.
    (`hcl`: in lax mode the initial account chart is ancestor-closed, as `Settings.ofConfig` builds it —
    `C12.ofConfig_closed`.) -/
theorem final_state_perm (st s₁ s₁' : Settings) (rs rs' : List RawTxn) (ts ts' : List Txn) (hp : rs.Perm rs')
    (hcl : st.strict = false → AncClosed st.accounts)
    (h : acceptJournal st rs = .ok (ts, s₁)) (h' : acceptJournal st rs' = .ok (ts', s₁')) :
    SameCharts s₁ s₁' ∧ (st.strict = false → AncClosed s₁.accounts ∧ AncClosed s₁'.accounts) :=
  same_of_eff (acceptJournal_eff _ _ _ _ h) (acceptJournal_eff _ _ _ _ h') hcl
    (fun _ => (hp.flatMap_right _).mem_iff) (fun _ => (hp.flatMap_right _).mem_iff) (fun _ => (hp.flatMap_right _).mem_iff)

/-! ## 5. headers, distinguishability -/

theorem acc_header (st : Settings) (r : RawTxn) (t : Txn) (h : acc st r = .ok t) : t.header = r.header := by
  obtain ⟨s2, h2⟩ := (map_fst_ok _ _).mp h
  obtain ⟨_, ps, _, _, rfl, _⟩ := (acceptTxn_ok _ _ _ _).mp h2
  rfl

theorem accepted_distinct (st st' : Settings) (rs : List RawTxn) (ts : List Txn)
    (h : acceptJournal st rs = .ok (ts, st'))
    (hd : ∀ a b, a ∈ rs → b ∈ rs → hdrKey a.header = hdrKey b.header → a = b) :
    ∀ a b, a ∈ ts → b ∈ ts → hdrKey a.header = hdrKey b.header → a = b := by
  obtain ⟨e, _⟩ := accept_members st st' rs ts h
  intro a b ha hb hk
  rw [e] at ha hb
  obtain ⟨ra, hra, ea⟩ := List.mem_filterMap.mp ha
  obtain ⟨rb, hrb, eb⟩ := List.mem_filterMap.mp hb
  have h1 := acc_header st ra a ((accO_eq_some _ _ _).mp ea)
  have h2 := acc_header st rb b ((accO_eq_some _ _ _).mp eb)
  have : ra = rb := hd ra rb hra hrb (by rw [← h1, ← h2]; exact hk)
  subst this
  rw [ea] at eb
  exact Option.some.inj eb

/-! ## 6. files: threading the settings through files is threading them through the concatenation -/

/-- an arrangement of parse trees into files, accepted file by file (`paths_to_txns` after parsing) -/
def acceptTrees (st : Settings) (rss : List (List RawTxn)) : Outcome (List Txn × Settings) :=
  (mapMS acceptJournal st rss).map fun r => (r.1.flatten, r.2)

/-- … and loaded: `TxnData::from` sorts the concatenation -/
def loadTrees (st : Settings) (rss : List (List RawTxn)) : Outcome (List Txn × Settings) :=
  (mapMS acceptJournal st rss).map fun r => (sortTxns r.1.flatten, r.2)

/-- **file boundaries are invisible to acceptance** (three-valued, same final settings) -/
theorem acceptTrees_flatten : ∀ (rss : List (List RawTxn)) (st : Settings),
    acceptTrees st rss = acceptJournal st rss.flatten
  | [], st => rfl
  | a :: tl, st => by
    have ih := fun s1 => acceptTrees_flatten tl s1
    rw [acceptTrees, mapMS_cons, List.flatten_cons]
    simp only [acceptTrees, acceptJournal, mapMS_append] at ih ⊢
    cases mapMS acceptTxn st a with
    | err => rfl
    | undef => rfl
    | ok r =>
      simp only [Outcome.bind, ← ih r.2, Outcome.map_map]
      rfl

theorem loadTrees_eq (st : Settings) (rss : List (List RawTxn)) :
    loadTrees st rss = (acceptJournal st rss.flatten).map fun r => (sortTxns r.1, r.2) := by
  rw [← acceptTrees_flatten]
  unfold loadTrees acceptTrees
  cases mapMS acceptJournal st rss with
  | ok r => rfl
  | err => rfl
  | undef => rfl

/-- text level: files that parse (file `i` to the trees `rss[i]`) are loaded as their parse trees -/
theorem loadFiles_eq (cfg : Time.TsCfg) : ∀ (files : List (List Char)) (rss : List (List RawTxn)) (st : Settings),
    files.map (Syntax.parseJournal cfg) = rss.map some →
    loadFiles cfg st files = loadTrees st rss := by
  have key : ∀ (files : List (List Char)) (rss : List (List RawTxn)),
      files.map (Syntax.parseJournal cfg) = rss.map some →
      ∀ st, mapMS (acceptText cfg) st files = mapMS acceptJournal st rss := by
    intro files
    induction files with
    | nil =>
      intro rss h st
      cases rss with
      | nil => rfl
      | cons _ _ => simp at h
    | cons f tl ih =>
      intro rss h st
      cases rss with
      | nil => simp at h
      | cons rs rtl =>
        simp only [List.map_cons, List.cons.injEq] at h
        simp only [mapMS, acceptText, h.1]
        cases acceptJournal st rs with
        | err => rfl
        | undef => rfl
        | ok r => obtain ⟨b, s1⟩ := r; simp only [ih rtl h.2 s1]
  intro files rss st h
  unfold loadFiles loadTrees
  rw [key files rss h st]

theorem loadText_eq (cfg : Time.TsCfg) (s : List Char) (rs : List RawTxn) (st : Settings)
    (h : Syntax.parseJournal cfg s = some rs) (hne : rs ≠ []) :
    loadText cfg st s = loadTrees st [rs] := by
  rw [loadTrees_eq]
  unfold loadText loadJournal
  simp only [h, List.flatten_cons, List.flatten_nil, List.append_nil]
  cases rs with
  | nil => exact absurd rfl hne
  | cons a tl => rfl

/-! ## 7. the class of a failure does depend on the order when both classes are present -/

namespace Witness

def lax0 : Settings := Settings.ofConfig false false true [] [] []

def hdr0 : Header := ⟨⟨0, 0⟩, none, none, none, none, none, none⟩

/-- rejected on its own: the postings do not sum to zero -/
def rErr : RawTxn := ⟨hdr0, [⟨["a"], Dec.ofInt 1, none, none⟩], none⟩

/-- outside the modelled numeric domain on its own: `10⁻²⁰ × 10⁻²⁰` is not representable and not an overflow -/
def rUndef : RawTxn :=
  ⟨hdr0, [⟨["a"], ⟨false, 1, 20⟩, some ⟨"X", none, some (.unitPrice ⟨⟨false, 1, 20⟩, "Y"⟩)⟩, none⟩], none⟩

end Witness

open Witness in

theorem status_order_witness :
    acceptJournal lax0 [rErr, rUndef] = .err ∧ acceptJournal lax0 [rUndef, rErr] = .undef := by
  constructor <;> decide

end AcceptOrder
end Tackler
