import TacklerModel.Model.Print
import TacklerModel.Lemmas.Forward
import TacklerModel.Lemmas.Syntax
import TacklerModel.Lemmas.Digits
/-!
# Print then parse: tokens and single lines of the journal grammar (C06)

`p (print x ++ rest) = .ok x rest`, for a well-formed `x` and a `rest` that starts suitably.  The chain:
* `RoundTrip`: number, identifier, multi-part name, comment, code, description, uuid, metadata line, uuid and location line;
* `RoundTripLines`: tags line, metadata block (`parseTxnMeta_print`), value position and unit of a posting;
* `RoundTripTs`: timestamp (`ts_roundtrip`);
* `RoundTripTxn`: posting line, postings, header, blank lines, transaction, journal (`parseJournal_print`).

What a production is told about the text after it:
* `StartsNot pred r` (`Forward`): empty, or the first character fails `pred` (`numStop`, `nameStop`, `idChar` …);
* `AfterBlanksNot d r` (`NonMeta` is `AfterBlanksNot '#'`): after its blanks it does not continue with `d`;
* `PostTail` (`RoundTripLines`), after a posting's value: blanks, then `;` or a line ending;
* `BlankOrEnd`, after the postings: a blank line or the end; `PostingStart`, after a header: blanks, then an account;
  `TxnStartOrEnd`, after a transaction: no blank, no line ending, or the end (all in `RoundTripTxn`).
-/
namespace Tackler
namespace Syntax
open Comb

/-! ## digits and numbers -/

theorem isDecDigit_eq_isDigit (c : Char) : isDecDigit c = c.isDigit := by
  simp only [isDecDigit, Char.isDigit, Char.toNat, ge_iff_le, UInt32.le_iff_toNat_le]
  have h0 : '0'.val.toNat = 48 := by decide
  have h9 : '9'.val.toNat = 57 := by decide
  rw [h0, h9]

theorem padLeft_all_digits (w n : Nat) : ∀ c ∈ Dec.padLeft w (Nat.toDigits 10 n), isDecDigit c = true := fun c hc => by
  rw [isDecDigit_eq_isDigit]
  exact Dec.padLeft_isDigit w n c hc

/-- representation invariant of a parsed number: what `Dec.ofToken` produces -/
def NumWF (d : Dec) : Prop := d.scale ≤ 28 ∧ d.coeff ≤ max96 ∧ (d.neg = true → d.coeff ≠ 0)

/-- after a number: not a digit and not a decimal point -/
def numStop (c : Char) : Bool := isDecDigit c || c == '.'

theorem ip_digits (d : Dec) : ∀ c ∈ Dec.ipChars d, isDecDigit c = true := fun c hc => by
  rw [isDecDigit_eq_isDigit]
  exact Dec.ip_isDigit d c hc

theorem fp_digits (d : Dec) : ∀ c ∈ Dec.fpChars d, isDecDigit c = true := fun c hc => by
  rw [isDecDigit_eq_isDigit]
  exact Dec.fp_isDigit d c hc

theorem ofToken_print (d : Dec) (h : NumWF d) : Dec.ofToken d.neg (Dec.ipChars d) (Dec.fpChars d) = some d := by
  obtain ⟨hs, hc, hn⟩ := h
  unfold Dec.ofToken
  simp only [Dec.digitsVal_ip_fp, Dec.fp_length]
  have h1 : ¬ d.scale > 28 := by omega
  have h2 : ¬ d.coeff > max96 := by omega
  simp only [h1, h2, if_false]
  cases d with
  | mk neg coeff scale =>
    simp only [Option.some.injEq, Dec.mk.injEq, and_true]
    cases neg with
    | false => rfl
    | true =>
      have := hn rfl
      simp at this
      simp [this]

theorem pNumberLex_print (d : Dec) (rest : List Char) (hr : StartsNot numStop rest) :
    pNumberLex (d.toChars ++ rest) = .ok (d.neg, Dec.ipChars d, Dec.fpChars d) rest := by
  obtain ⟨hrd, hrp⟩ := StartsNot.of_or hr
  -- the integer digits are not a sign, and are taken up to the point or `rest`
  have hm : ∀ r, chr '-' (Dec.ipChars d ++ r) = .bt := by
    obtain ⟨i0, it, hi⟩ := List.exists_cons_of_ne_nil (Dec.ip_ne_nil d)
    have hi0 : isDecDigit i0 = true := ip_digits d i0 (by rw [hi]; exact List.mem_cons_self)
    intro r; rw [hi]; exact chr_ne _ (by intro e; rw [e] at hi0; revert hi0; decide)
  have hip : ∀ r, StartsNot isDecDigit r → takeWhile1 isDecDigit (Dec.ipChars d ++ r) = .ok (Dec.ipChars d) r :=
    fun r => takeWhile1_append isDecDigit _ r (Dec.ip_ne_nil d) (ip_digits d)
  rw [Dec.toChars_eq]
  by_cases hz : d.scale = 0
  · have hfp : Dec.fpChars d = [] := List.eq_nil_of_length_eq_zero (by rw [Dec.fp_length, hz])
    cases d.neg <;>
      simp only [pNumberLex, opt, hz, hfp, if_true, Bool.false_eq_true, if_false, List.append_assoc, List.cons_append,
        List.nil_append, chr_eq, hm, hip _ hrd, chr_startsNot hrp, Res.bind_ok', Res.bind_bt, Option.isSome_some,
        Option.isSome_none, Option.getD_none]
  · have hfp := takeWhile1_append isDecDigit _ rest
      (fun e => hz (by rw [← Dec.fp_length d, e]; rfl)) (fp_digits d) hrd
    cases d.neg <;>
      simp only [pNumberLex, opt, hz, if_true, Bool.false_eq_true, if_false, List.append_assoc, List.cons_append,
        List.nil_append, chr_eq, hm, hip _ (startsNot_cons _ (by decide : isDecDigit '.' = false)), hfp, Res.bind_ok', Option.isSome_some,
        Option.isSome_none, Option.getD_some]

theorem pNumber_print (d : Dec) (rest : List Char) (h : NumWF d) (hr : StartsNot numStop rest) :
    pNumber (d.toChars ++ rest) = .ok d rest := by
  unfold pNumber
  rw [pNumberLex_print d rest hr]
  simp only [Res.bind_ok', ofToken_print d h]

/-! ## identifiers, account names -/

/-- `ID`: a start character followed by name characters -/
def IdentWF (l : List Char) : Prop := ∃ c t, l = c :: t ∧ idStartChar c = true ∧ ∀ d ∈ t, idChar d = true

/-- `SUBID`: a non-empty run of name characters -/
def PartWF (l : List Char) : Prop := l ≠ [] ∧ ∀ d ∈ l, idChar d = true

def PartsWF (parts : List (List Char)) : Prop := ∃ a r, parts = a :: r ∧ IdentWF a ∧ ∀ p ∈ r, PartWF p

theorem pIdentifier_print (l rest : List Char) (h : IdentWF l) (hr : StartsNot idChar rest) :
    pIdentifier (l ++ rest) = .ok l rest := by
  obtain ⟨c, t, rfl, hc, ht⟩ := h
  unfold pIdentifier
  simp only [List.cons_append]
  rw [oneOf_true _ hc, Res.bind_ok', takeWhile0_append idChar t rest ht hr]
  rfl

theorem pIdentifier_startsNot {s : List Char} (h : StartsNot idStartChar s) : pIdentifier s = .bt := by
  unfold pIdentifier
  rw [oneOf_startsNot h]; rfl

theorem intercalate_cons (sep a : List Char) (r : List (List Char)) :
    sep.intercalate (a :: r) = a ++ (r.map (fun p => sep ++ p)).flatten := by
  induction r generalizing a with
  | nil => simp [List.intercalate]
  | cons b t ih =>
    have := ih b
    simp only [List.intercalate, List.intersperse, List.flatten_cons, List.map_cons] at this ⊢
    rw [this]
    simp

theorem joinParts_cons (a : List Char) (r : List (List Char)) :
    joinParts (a :: r) = a ++ (r.map (fun p => ':' :: p)).flatten := intercalate_cons [':'] a r

theorem idChar_colon : idChar ':' = false := by decide

theorem pIdPartHelper_print (p rest : List Char) (h : PartWF p) (hr : StartsNot idChar rest) :
    pIdPartHelper (':' :: (p ++ rest)) = .ok p rest := by
  unfold pIdPartHelper
  have : takeMN 1 1 (fun c => c == ':') ([':'] ++ (p ++ rest)) = .ok [':'] (p ++ rest) :=
    takeMN_exact 1 _ [':'] _ rfl (by simp)
  simp only [List.cons_append, List.nil_append] at this
  rw [this, Res.bind_ok']
  exact cutErr_of_ok (takeWhile1_append idChar p rest h.1 h.2 hr)

/-- after a multi-part name: neither a name character nor a colon -/
def nameStop (c : Char) : Bool := idChar c || c == ':'

theorem pMultiPartId_print (parts : List (List Char)) (rest : List Char) (h : PartsWF parts)
    (hr : StartsNot nameStop rest) : pMultiPartId (joinParts parts ++ rest) = .ok parts rest := by
  obtain ⟨a, r, rfl, ha, hrp⟩ := h
  obtain ⟨hr1, hr2⟩ := StartsNot.of_or hr
  have hrest : pIdPartHelper rest = .bt := by
    unfold pIdPartHelper
    rw [takeMN_startsNot 1 1 _ (by decide) hr2]; rfl
  obtain ⟨hrep, hq⟩ := repeat0_list pIdPartHelper pIdPartHelper_cons (fun p => ':' :: p) id
    (StartsNot idChar) rest hrest hr1 r (by
      intro p hp r' hq
      exact ⟨startsNot_cons _ idChar_colon, by simpa using pIdPartHelper_print p r' (hrp p hp) hq⟩)
  unfold pMultiPartId
  rw [joinParts_cons, List.append_assoc, pIdentifier_print a _ ha hq, Res.bind_ok', cutErr_of_ok hrep]
  simp

theorem pMultiPartId_startsNot {s : List Char} (h : StartsNot idStartChar s) : pMultiPartId s = .bt := by
  unfold pMultiPartId
  rw [pIdentifier_startsNot h]; rfl

theorem toPath_chars (parts : List (List Char)) : (toPath parts).map String.toList = parts := by
  unfold toPath
  induction parts with
  | nil => rfl
  | cons a t ih => simp [String.toList_ofList]

theorem acctName_toPath (parts : List (List Char)) : (acctName (toPath parts)).toList = joinParts parts := by
  unfold acctName joinParts
  rw [String.toList_intercalate, toPath_chars]
  rfl

theorem acctName_toPath' (parts : List (List Char)) : acctName (toPath parts) = String.ofList (joinParts parts) := by
  rw [← acctName_toPath, String.ofList_toList]

/-! ## comments, code, description -/

/-- what holds of the two blanks holds of every blank -/
theorem of_isSpace {f : Char → Bool} {v : Bool} (hs : f ' ' = v) (ht : f '\t' = v) (c : Char) (h : isSpace c = true) :
    f c = v := by
  simp [isSpace] at h
  rcases h with rfl | rfl <;> assumption

/-- text that fits on one line -/
def LineText (l : List Char) : Prop := ∀ c ∈ l, notEol c = true

theorem pComment_print (c : List Char) {eol : List Char} (he : IsEol eol) (rest : List Char) (hc : LineText c) :
    pComment (';' :: ' ' :: (c ++ (eol ++ rest))) = .ok c (eol ++ rest) := by
  unfold pComment
  rw [chr_eq, Res.bind_ok']
  apply cutErr_of_ok
  rw [alt_of_bt]
  · show (oneOf isSpace (' ' :: (c ++ (eol ++ rest)))).bind _ = _
    rw [oneOf_true _ (by decide : isSpace ' ' = true), Res.bind_ok']
    exact tillLineEnding_append c he rest hc
  · show (peek lineEnding (' ' :: (c ++ (eol ++ rest)))).map _ = .bt
    rw [peek_of_bt (by rfl)]; rfl

theorem pComment_startsNot {s : List Char} (h : StartsNot (fun c => c == ';') s) : pComment s = .bt := by
  unfold pComment
  rw [chr_startsNot h]; rfl

def Blanks (l : List Char) : Prop := ∀ c ∈ l, isSpace c = true

theorem blanks_nil : Blanks [] := by intro c hc; cases hc

theorem parseTxnComment_print (indent c : List Char) {eol : List Char} (he : IsEol eol) (rest : List Char)
    (hi : Blanks indent) (hne : indent ≠ []) (hc : LineText c) :
    parseTxnComment (indent ++ (';' :: ' ' :: (c ++ (eol ++ rest)))) = .ok (String.ofList c) rest := by
  unfold parseTxnComment
  rw [space1_append indent _ hne hi (startsNot_cons _ (by decide)), Res.bind_ok',
    pComment_print c he rest hc, Res.bind_ok', lineEnding_append he]
  rfl

/-- after its blanks, `r` does not continue with the character `d` -/
def AfterBlanksNot (d : Char) (r : List Char) : Prop :=
  ∃ b s, r = b ++ s ∧ Blanks b ∧ StartsNot isSpace s ∧ StartsNot (fun c => c == d) s

theorem parseTxnComment_other (b s : List Char) (hb : Blanks b) (hs : StartsNot isSpace s)
    (h : StartsNot (fun c => c == ';') s) : parseTxnComment (b ++ s) = .bt :=
  space1_bind_bt _ b s hb hs fun _ => by rw [pComment_startsNot h]; rfl

theorem trimEnd_append_ws (x w : List Char) (hw : ∀ c ∈ w, isWhitespace c = true) : trimEnd (x ++ w) = trimEnd x := by
  induction x with
  | nil =>
    simp only [List.nil_append]
    induction w with
    | nil => rfl
    | cons c t ih =>
      have hc := hw c List.mem_cons_self
      simp only [trimEnd, ih (fun d hd => hw d (List.mem_cons_of_mem _ hd)), hc, if_true]
  | cons c t ih => simp only [List.cons_append, trimEnd, ih]

theorem parseTxnCode_print (c rest : List Char) (hc : ∀ d ∈ c, validCodeChar d = true) :
    parseTxnCode ('(' :: (c ++ (')' :: rest))) = .ok (String.ofList (trim c)) rest := by
  unfold parseTxnCode
  rw [chr_eq, Res.bind_ok',
    takeWhile0_append validCodeChar c _ hc (startsNot_cons _ (by decide)), Res.bind_ok',
    cutErr_of_ok (chr_eq _ _)]
  rfl

theorem parseTxnCode_startsNot {s : List Char} (h : StartsNot (fun c => c == '(') s) : parseTxnCode s = .bt := by
  unfold parseTxnCode
  rw [chr_startsNot h]; rfl

theorem parseTxnDescription_print (d w : List Char) {eol : List Char} (he : IsEol eol) (rest : List Char)
    (hd : LineText d) (hw : Blanks w) :
    parseTxnDescription ('\'' :: (d ++ (w ++ (eol ++ rest)))) = .ok (String.ofList (trimEnd d)) (eol ++ rest) := by
  unfold parseTxnDescription
  rw [chr_eq, Res.bind_ok']
  rw [← List.append_assoc, tillLineEnding_append (d ++ w) he rest (by
    intro c hc
    rcases List.mem_append.mp hc with h | h
    · exact hd c h
    · exact of_isSpace (by decide) (by decide) c (hw c h))]
  simp only [Res.bind_ok']
  rw [trimEnd_append_ws d w (fun c hc => of_isSpace (by decide) (by decide) c (hw c hc))]

theorem parseTxnDescription_startsNot {s : List Char} (h : StartsNot (fun c => c == '\'') s) :
    parseTxnDescription s = .bt := by
  unfold parseTxnDescription
  rw [chr_startsNot h]; rfl

/-! ## metadata lines -/

theorem toLower_of_not_upper (c : Char) (h : c.toNat < 65 ∨ 90 < c.toNat) : c.toLower = c := by
  unfold Char.toLower
  split
  · rename_i h1
    exfalso
    have a := h1.1
    have b := h1.2
    simp only [ge_iff_le, UInt32.le_iff_toNat_le, Char.toNat] at a b h
    have e1 : 'A'.val.toNat = 65 := by decide
    have e2 : 'Z'.val.toNat = 90 := by decide
    omega
  · rfl

/-- a lower-case hexadecimal digit (what `Uuid`'s `Display` prints) -/
def isLowerHex (c : Char) : Bool := isDecDigit c || (97 ≤ c.toNat && c.toNat ≤ 102)

theorem isHexDigit_of_lower (c : Char) (h : isLowerHex c = true) : isHexDigit c = true := by
  simp only [isLowerHex, Bool.or_eq_true, Bool.and_eq_true, decide_eq_true_eq] at h
  simp only [isHexDigit, Bool.or_eq_true, Bool.and_eq_true, decide_eq_true_eq]
  rcases h with h | h
  · exact Or.inl (Or.inl h)
  · exact Or.inr h

theorem toLower_of_lowerHex (c : Char) (h : isLowerHex c = true) : c.toLower = c := by
  apply toLower_of_not_upper
  simp only [isLowerHex, isDecDigit, Bool.or_eq_true, Bool.and_eq_true, decide_eq_true_eq] at h
  omega

/-- canonical text of a UUID: `8-4-4-4-12` lower-case hex digits -/
def UuidWF (u : List Char) : Prop :=
  ∃ a b c d e, u = a ++ '-' :: (b ++ '-' :: (c ++ '-' :: (d ++ '-' :: e))) ∧
    a.length = 8 ∧ b.length = 4 ∧ c.length = 4 ∧ d.length = 4 ∧ e.length = 12 ∧
    (∀ x ∈ a ++ b ++ c ++ d ++ e, isLowerHex x = true)

theorem hexN_print (n : Nat) (a rest : List Char) (hl : a.length = n) (ha : ∀ x ∈ a, isLowerHex x = true) :
    hexN n (a ++ rest) = .ok a rest := by
  unfold hexN
  exact cutErr_of_ok (takeMN_exact n _ a rest hl (fun x hx => isHexDigit_of_lower x (ha x hx)))

theorem dash_print (rest : List Char) : dash ('-' :: rest) = .ok ['-'] rest := by
  unfold dash
  rw [cutErr_of_ok (chr_eq _ _)]; rfl

theorem map_toLower_lowerHex (l : List Char) (h : ∀ x ∈ l, isLowerHex x = true) : l.map Char.toLower = l := by
  induction l with
  | nil => rfl
  | cons c t ih =>
    rw [List.map_cons, ih (fun x hx => h x (List.mem_cons_of_mem _ hx)), toLower_of_lowerHex c (h c List.mem_cons_self)]

theorem toLower_dash : Char.toLower '-' = '-' := by decide

theorem pUuid_print (u rest : List Char) (h : UuidWF u) : pUuid (u ++ rest) = .ok (String.ofList u) rest := by
  obtain ⟨a, b, c, d, e, rfl, ha, hb, hc, hd, he, hall⟩ := h
  simp only [List.forall_mem_append] at hall
  obtain ⟨⟨⟨⟨xa, xb⟩, xc⟩, xd⟩, xe⟩ := hall
  simp only [pUuid, List.append_assoc, List.cons_append, hexN_print 8 a _ ha xa, hexN_print 4 b _ hb xb,
    hexN_print 4 c _ hc xc, hexN_print 4 d _ hd xd, hexN_print 12 e _ he xe, dash_print, Res.bind_ok',
    List.map_append, List.map_cons, List.map_nil, List.nil_append, toLower_dash, map_toLower_lowerHex _ xa,
    map_toLower_lowerHex _ xb, map_toLower_lowerHex _ xc, map_toLower_lowerHex _ xd, map_toLower_lowerHex _ xe]

theorem space1_one (rest : List Char) (hr : StartsNot isSpace rest) : space1 (' ' :: rest) = .ok [' '] rest := by
  simpa using space1_append [' '] rest (by simp) (by simp [isSpace]) hr

/-- `indent # key value trail eol`.  The value parser may itself consume some of
    the trailing blanks (`p_geo_uri` does); `space0` takes the remaining ones. -/
theorem metaLine_print {α} {key : List Char} (value : P α) (indent vtext trail : List Char) {eol : List Char}
    (he : IsEol eol) (rest : List Char) (v : α) {c : Char} {k : List Char} (hk : key = c :: k) (hc : isSpace c = false)
    (hi : Blanks indent) (hine : indent ≠ [])
    (hvs : StartsNot isSpace (vtext ++ (trail ++ (eol ++ rest))))
    (w2 : List Char) (hw2 : Blanks w2)
    (hv : value (vtext ++ (trail ++ (eol ++ rest))) = .ok v (w2 ++ (eol ++ rest))) :
    metaLine key value (indent ++ ('#' :: ' ' :: (key ++ (' ' :: (vtext ++ (trail ++ (eol ++ rest))))))) = .ok v rest := by
  have heol : StartsNot isSpace (eol ++ rest) := he.startsNot rest (by decide) (by decide)
  unfold metaLine
  rw [space1_append indent _ hine hi (startsNot_cons _ (by decide)), Res.bind_ok', chr_eq, Res.bind_ok',
    cutErr_of_ok (space1_one _ (hk ▸ startsNot_cons _ hc)), Res.bind_ok', lit_append, Res.bind_ok',
    cutErr_of_ok (space1_one _ hvs), Res.bind_ok', cutErr_of_ok hv, Res.bind_ok',
    space0_append w2 _ hw2 heol, Res.bind_ok', cutErr_of_ok (lineEnding_append he rest)]
  rfl

theorem metaLine_other {α} (key : List Char) (value : P α) (b s : List Char) (hb : Blanks b)
    (hs : StartsNot isSpace s) (h : StartsNot (fun c => c == '#') s) : metaLine key value (b ++ s) = .bt :=
  space1_bind_bt _ b s hb hs fun _ => by rw [chr_startsNot h]; rfl

/-! ### the three metadata lines -/

open Print in
/-- what the layouts of C06 may vary -/
structure LayoutOK (L : Print.Layout) : Prop where
  indent : Blanks L.indent
  indent_ne : L.indent ≠ []
  sep : Blanks L.sep
  sep_ne : L.sep ≠ []
  trail : Blanks L.trail
  eol : IsEol L.eol
  order : L.metaOrder ∈ [[0, 1, 2], [0, 2, 1], [1, 0, 2], [1, 2, 0], [2, 0, 1], [2, 1, 0]]
  lead : ∀ l ∈ L.lead, Blanks l
  gap : ∀ l ∈ L.gap, Blanks l
  gap_ne : L.gap ≠ []

theorem layoutOK_identity : LayoutOK Print.Layout.identity := by
  refine ⟨?_, ?_, ?_, ?_, ?_, ?_, ?_, ?_, ?_, ?_⟩ <;> simp [Print.Layout.identity, Blanks, isSpace, IsEol]

theorem uuidKey : "uuid:".toList = 'u' :: ['u', 'i', 'd', ':'] := by decide
theorem locationKey : "location:".toList = 'l' :: ['o', 'c', 'a', 't', 'i', 'o', 'n', ':'] := by decide
theorem tagsKey : "tags:".toList = 't' :: ['a', 'g', 's', ':'] := by decide

theorem metaLineChars_eq (L : Print.Layout) (key value rest : List Char) :
    Print.metaLineChars L key value ++ rest =
      L.indent ++ ('#' :: ' ' :: (key ++ (' ' :: (value ++ (L.trail ++ (L.eol ++ rest)))))) := by
  simp [Print.metaLineChars]

/-- a printed metadata line is not read under another key: the keys differ in their first character -/
theorem metaLine_wrongKey {α} (L : Print.Layout) (hL : LayoutOK L) {key key2 : List Char} (value : P α)
    (v r : List Char) {c d : Char} {k k2 : List Char} (hk : key = c :: k) (hk2 : key2 = d :: k2)
    (hd : isSpace d = false) (hcd : c ≠ d) :
    metaLine key value (Print.metaLineChars L key2 v ++ r) = .bt := by
  rw [metaLineChars_eq, hk, hk2, List.cons_append]
  unfold metaLine
  rw [space1_append L.indent _ hL.indent_ne hL.indent (startsNot_cons _ (by decide)), Res.bind_ok',
    chr_eq, Res.bind_ok', cutErr_of_ok (space1_one _ (startsNot_cons _ hd))]
  simp only [Res.bind_ok', lit, stripPrefix, hcd, if_false]
  rfl

theorem isSpace_of_lowerHex (c : Char) (h : isLowerHex c = true) : isSpace c = false := by
  simp only [isLowerHex, isDecDigit, Bool.or_eq_true, Bool.and_eq_true, decide_eq_true_eq] at h
  simp only [isSpace, Bool.or_eq_false_iff, beq_eq_false_iff_ne, ne_eq]
  constructor <;> (intro e; rw [e] at h; revert h; decide)

theorem uuidWF_startsNot_space (u r : List Char) (h : UuidWF u) : StartsNot isSpace (u ++ r) := by
  obtain ⟨a, b, c, d, e, rfl, ha, _, _, _, _, hall⟩ := h
  cases a with
  | nil => simp at ha
  | cons x t =>
    simp only [List.cons_append]
    exact startsNot_cons _ (isSpace_of_lowerHex x (hall x (by simp)))

theorem parseMetaUuid_print (L : Print.Layout) (hL : LayoutOK L) (u : String) (rest : List Char) (hu : UuidWF u.toList) :
    parseMetaUuid (Print.uuidLine L (some u) ++ rest) = .ok u rest := by
  unfold parseMetaUuid Print.uuidLine
  rw [metaLineChars_eq]
  have hv := pUuid_print u.toList (L.trail ++ (L.eol ++ rest)) hu
  rw [String.ofList_toList] at hv
  exact metaLine_print pUuid L.indent u.toList L.trail hL.eol rest u uuidKey (by decide) hL.indent hL.indent_ne
    (uuidWF_startsNot_space _ _ hu) L.trail hL.trail hv

theorem isSpace_of_digit (c : Char) (h : isDecDigit c = true) : isSpace c = false := by
  simp only [isDecDigit, Bool.and_eq_true, decide_eq_true_eq] at h
  simp only [isSpace, Bool.or_eq_false_iff, beq_eq_false_iff_ne, ne_eq]
  constructor <;> (intro e; rw [e] at h; revert h; decide)

theorem toChars_startsNot (d : Dec) (r : List Char) (pred : Char → Bool) (hm : pred '-' = false)
    (hd : ∀ c, isDecDigit c = true → pred c = false) : StartsNot pred (d.toChars ++ r) := by
  obtain ⟨i0, it, hi⟩ := List.exists_cons_of_ne_nil (Dec.ip_ne_nil d)
  have hi0 : isDecDigit i0 = true := ip_digits d i0 (by rw [hi]; exact List.mem_cons_self)
  rw [Dec.toChars_eq, hi]
  cases d.neg with
  | true => simp only [if_true, List.cons_append, List.append_assoc]; exact startsNot_cons _ hm
  | false => simp only [Bool.false_eq_true, if_false, List.nil_append, List.cons_append, List.append_assoc]; exact startsNot_cons _ (hd i0 hi0)

theorem toChars_startsNot_space (d : Dec) (r : List Char) : StartsNot isSpace (d.toChars ++ r) :=
  toChars_startsNot d r isSpace (by decide) isSpace_of_digit

def GeoWF (g : Geo) : Prop :=
  NumWF g.lat ∧ NumWF g.lon ∧ (∀ a, g.alt = some a → NumWF a) ∧ geoOk g = true

theorem blanks_eol_startsNot {pred : Char → Bool} (w : List Char) {eol : List Char} (he : IsEol eol) (rest : List Char)
    (hw : Blanks w) (hs : ∀ c, isSpace c = true → pred c = false) (hn : pred '\n' = false) (hr : pred '\r' = false) :
    StartsNot pred (w ++ (eol ++ rest)) := by
  cases w with
  | nil => exact he.startsNot rest hn hr
  | cons c t => exact startsNot_cons _ (hs c (hw c List.mem_cons_self))

/-- the geo URI also consumes the trailing blanks, up to those that `space0` of the line frame takes (`w2`) -/
theorem pGeoUri_print (g : Geo) (trail : List Char) {eol : List Char} (he : IsEol eol) (rest : List Char)
    (hg : GeoWF g) (ht : Blanks trail) :
    ∃ w2, Blanks w2 ∧ pGeoUri (Print.geoChars g ++ (trail ++ (eol ++ rest))) = .ok g (w2 ++ (eol ++ rest)) := by
  obtain ⟨lat, lon, alt⟩ := g
  obtain ⟨hlat, hlon, halt, hok⟩ := hg
  have hsp : StartsNot isSpace (eol ++ rest) := he.startsNot rest (by decide) (by decide)
  have hcm : StartsNot (fun c => c == ',') (eol ++ rest) := he.startsNot rest (by decide) (by decide)
  have sp0 : ∀ (d : Dec) r, space0 (d.toChars ++ r) = .ok [] (d.toChars ++ r) :=
    fun d r => space0_none _ (toChars_startsNot_space d r)
  have spc : ∀ r, space0 (',' :: r) = .ok [] (',' :: r) := fun r => space0_none _ (startsNot_cons _ (by decide))
  have numc : ∀ (d : Dec) r, NumWF d → cutErr pNumber (d.toChars ++ (',' :: r)) = .ok d (',' :: r) :=
    fun d r hd => cutErr_of_ok (pNumber_print d _ hd (startsNot_cons _ (by decide)))
  have nume : ∀ d, NumWF d → cutErr pNumber (d.toChars ++ (trail ++ (eol ++ rest))) = .ok d (trail ++ (eol ++ rest)) :=
    fun d hd => cutErr_of_ok (pNumber_print d _ hd
      (blanks_eol_startsNot trail he rest ht (of_isSpace (by decide) (by decide)) (by decide) (by decide)))
  cases alt with
  | none =>
    refine ⟨[], blanks_nil, ?_⟩
    simp only [Print.geoChars, List.append_assoc, List.cons_append, List.nil_append, pGeoUri,
      cutErr_of_ok (lit_append _ _), sp0, spc, numc _ _ hlat, nume _ hlon, cutErr_of_ok (chr_eq _ _),
      space0_append trail _ ht hsp, opt, chr_startsNot hcm, Res.bind_ok', Res.bind_bt, hok, if_true]
  | some a =>
    refine ⟨trail, ht, ?_⟩
    simp only [Print.geoChars, List.append_assoc, List.cons_append, List.nil_append, pGeoUri,
      cutErr_of_ok (lit_append _ _), sp0, spc, numc _ _ hlat, numc _ _ hlon, nume _ (halt a rfl),
      cutErr_of_ok (chr_eq _ _), opt, chr_eq, Res.bind_ok', hok, if_true]

theorem parseMetaLocation_print (L : Print.Layout) (hL : LayoutOK L) (g : Geo) (rest : List Char) (hg : GeoWF g) :
    parseMetaLocation (Print.locationLine L (some g) ++ rest) = .ok g rest := by
  unfold parseMetaLocation Print.locationLine
  rw [metaLineChars_eq]
  obtain ⟨w2, hw2, hv⟩ := pGeoUri_print g L.trail hL.eol rest hg hL.trail
  have hk : "geo:".toList = 'g' :: ['e', 'o', ':'] := by decide
  refine metaLine_print pGeoUri L.indent (Print.geoChars g) L.trail hL.eol rest g locationKey (by decide)
    hL.indent hL.indent_ne ?_ w2 hw2 hv
  rw [Print.geoChars, hk]; exact startsNot_cons _ (by decide)

/-! ### tags: what the parser produces (the lemmas are in `RoundTripLines`) -/

/-- tags as the parser produces them: a non-empty list of `:`-joined multi-part names -/
def TagsWF (tags : List String) : Prop :=
  ∃ p0 ps, tags = (p0 :: ps).map (fun parts => acctName (toPath parts)) ∧ ∀ parts ∈ p0 :: ps, PartsWF parts

theorem idStart_ne (c d : Char) (hc : idStartChar c = true) (hd : idStartChar d = false) : c ≠ d := by
  intro e; rw [e, hd] at hc; cases hc

theorem partsWF_startsNot (parts : List (List Char)) (r : List Char) (h : PartsWF parts) (pred : Char → Bool)
    (hp : ∀ c, idStartChar c = true → pred c = false) : StartsNot pred (joinParts parts ++ r) := by
  obtain ⟨a, t, rfl, ⟨c, u, rfl, hc, _⟩, _⟩ := h
  rw [joinParts_cons]
  simp only [List.cons_append, List.append_assoc]
  exact startsNot_cons _ (hp c hc)

theorem isSpace_of_idStart (c : Char) (h : idStartChar c = true) : isSpace c = false := by
  simp only [isSpace, Bool.or_eq_false_iff, beq_eq_false_iff_ne, ne_eq]
  exact ⟨idStart_ne c ' ' h (by decide), idStart_ne c '\t' h (by decide)⟩

end Syntax
end Tackler
