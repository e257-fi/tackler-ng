import TacklerModel.Lemmas.Dec
import TacklerModel.Lemmas.ListSum
import TacklerModel.Lemmas.KeyOrder
import TacklerModel.Lemmas.ChunkBy
/-! First step of the balance (`accountSums_spec`): `accountSums` (stable sort by account key, `chunk_by`, sum per chunk) yields one entry per
    posted (commodity, account) pair, strictly sorted by `keyLt`, carrying the exact sum of that pair's postings. -/
namespace Tackler
namespace C02

open KeyOrder ListSum ChunkBy

/-- representation invariants of the posting stream: stored scales ≤ 28, non-empty account paths, and account
    names determine paths among all prefixes of posted paths (`namesInj`) -/
structure PostsWF (posts : List BPost) : Prop where
  scale : ∀ p ∈ posts, p.amount.scale ≤ 28
  nonempty : ∀ p ∈ posts, p.acct ≠ []
  namesInj : ∀ p q : Path, (∃ x ∈ posts, p <+: x.acct) → (∃ y ∈ posts, q <+: y.acct) →
    acctName p = acctName q → p = q

/-- `PostsWF.namesInj` follows from the lexical shape of account components -/
theorem namesInj_of_good (posts : List BPost) (h : ∀ x ∈ posts, GoodPath x.acct) :
    ∀ p q : Path, (∃ x ∈ posts, p <+: x.acct) → (∃ y ∈ posts, q <+: y.acct) →
      acctName p = acctName q → p = q := by
  intro p q ⟨x, hx, hpx⟩ ⟨y, hy, hqy⟩ hn
  exact acctName_inj p q (goodPath_prefix (h x hx) hpx) (goodPath_prefix (h y hy) hqy) hn

/-- the keys the balance talks about: a posted (commodity, account) pair or one of its ancestors -/
def InPlay (posts : List BPost) (k : AKey) : Prop :=
  ∃ x ∈ posts, k.1 = x.comm ∧ k.2 ≠ [] ∧ k.2 <+: x.acct

/-- on prefixes of posted paths equal name keys are equal keys -/
theorem key_eq_of_nk (posts : List BPost) (hwf : PostsWF posts) (a b : AKey)
    (ha : ∃ x ∈ posts, a.2 <+: x.acct) (hb : ∃ y ∈ posts, b.2 <+: y.acct) (h : nk a = nk b) : a = b := by
  simp only [nk, Prod.mk.injEq] at h
  have := hwf.namesInj a.2 b.2 ha hb h.2
  exact Prod.ext h.1 this

/-- so there `keyLe` is `=` or `keyLt`: the order is linear -/
theorem eq_or_keyLt_of_keyLe (posts : List BPost) (hwf : PostsWF posts) (a b : AKey)
    (ha : ∃ x ∈ posts, a.2 <+: x.acct) (hb : ∃ y ∈ posts, b.2 <+: y.acct) (h : keyLe a b = true) :
    a = b ∨ keyLt a b = true :=
  if hnk : nk a = nk b then .inl (key_eq_of_nk posts hwf a b ha hb hnk) else .inr (keyLt_of_le_of_ne _ _ h hnk)

/-- what `accountSums` returns: one entry per posted key, in strict key order, with the exact sum -/
structure AccSpec (posts : List BPost) (sums : List (AKey × Dec)) : Prop where
  sorted : (sums.map (·.1)).Pairwise (fun a b => keyLt a b = true)
  keys : ∀ k, k ∈ sums.map (·.1) ↔ ∃ p ∈ posts, p.key = k
  sum : ∀ x ∈ sums, x.2.units = ((posts.filter (fun p => decide (p.key = x.1))).map (·.amount.units)).sum ∧
          x.2.scale ≤ 28

theorem sumGroups_spec : ∀ (cs : List (AKey × List BPost)) (r : List (AKey × Dec)), sumGroups cs = some r →
    r.map (·.1) = cs.map (·.1) ∧
    ∀ x ∈ r, ∃ g, (x.1, g) ∈ cs ∧ Dec.sum (g.map (·.amount)) = some x.2 := by
  intro cs
  induction cs with
  | nil => intro r h; simp [sumGroups] at h; subst h; simp
  | cons c rest ih =>
    intro r h
    obtain ⟨k, g⟩ := c
    simp only [sumGroups] at h
    split at h
    · cases h
    · rename_i s hs
      split at h
      · cases h
      · rename_i r' hr'
        cases h
        obtain ⟨ih1, ih2⟩ := ih r' hr'
        refine ⟨by simp [ih1], ?_⟩
        intro x hx
        rcases List.mem_cons.mp hx with rfl | hx'
        · exact ⟨g, List.mem_cons_self, hs⟩
        · obtain ⟨g', hg', hs'⟩ := ih2 x hx'
          exact ⟨g', List.mem_cons_of_mem _ hg', hs'⟩

theorem accountSums_spec (posts : List BPost) (hwf : PostsWF posts) (sums : List (AKey × Dec))
    (h : accountSums posts = some sums) : AccSpec posts sums := by
  unfold accountSums at h
  generalize hs : posts.mergeSort (fun a b => keyLe a.key b.key) = sorted at h
  have hperm : sorted.Perm posts := by rw [← hs]; exact List.mergeSort_perm _ _
  have hpw : sorted.Pairwise (fun a b => keyLe a.key b.key = true) := by
    rw [← hs]
    exact List.pairwise_mergeSort (le := fun a b : BPost => keyLe a.key b.key)
      (fun a b c => keyLe_trans a.key b.key c.key) (fun a b => keyLe_total a.key b.key) posts
  have hmem : ∀ a, a ∈ sorted ↔ a ∈ posts := fun a => hperm.mem_iff
  have hpw' : sorted.Pairwise (fun a b => a.key = b.key ∨ keyLt a.key b.key = true) := by
    apply List.Pairwise.imp_of_mem _ hpw
    intro a b ha hb hle
    exact eq_or_keyLt_of_keyLe posts hwf a.key b.key ⟨a, (hmem a).mp ha, List.prefix_refl _⟩
      ⟨b, (hmem b).mp hb, List.prefix_refl _⟩ hle
  obtain ⟨hstrict, hkeys, hfil⟩ := chunkBy_sorted BPost.key (fun a b => keyLt a b = true) keyLt_trans
    (fun a h => by rw [keyLt_irrefl] at h; cases h) sorted hpw'
  obtain ⟨hk1, hk2⟩ := sumGroups_spec _ _ h
  refine ⟨by rw [hk1]; exact hstrict, ?_, ?_⟩
  · intro k
    rw [hk1, hkeys k]
    exact ⟨fun ⟨p, hp, hpk⟩ => ⟨p, (hmem p).mp hp, hpk⟩, fun ⟨p, hp, hpk⟩ => ⟨p, (hmem p).mpr hp, hpk⟩⟩
  · intro x hx
    obtain ⟨g, hg, hsum⟩ := hk2 x hx
    have hgf : g = sorted.filter (fun p => decide (p.key = x.1)) := hfil (x.1, g) hg
    have hsc : ∀ d ∈ g.map (·.amount), d.scale ≤ 28 := by
      intro d hd
      obtain ⟨p, hp, rfl⟩ := List.mem_map.mp hd
      exact hwf.scale p ((hmem p).mp (chunk_subset BPost.key sorted (x.1, g) hg p hp))
    obtain ⟨hu, hsc'⟩ := Dec.sum_units _ _ hsc hsum
    refine ⟨?_, hsc'⟩
    rw [hu, List.map_map, hgf]
    exact perm_sum_map _ (hperm.filter _)

end C02
end Tackler
