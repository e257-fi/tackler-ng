import TacklerModel.Lemmas.RawLex
import TacklerModel.Lemmas.KeyOrder
import TacklerModel.Lemmas.AccountSums
import TacklerModel.Props.C01
import TacklerModel.Props.C12
import TacklerModel.Model.Audit
/-!
# From "this text parses" to the well-formedness hypotheses of the per-stage theorems

Helper lemmas of `Props/E2E.lean`, from the per-parser lemmas of `Lemmas/RawLex.lean` and the acceptor
characterisations of `Props/C12.lean`.  Nothing about the journal zone is needed: `C06.CfgOK` serves only the
*timestamp* clause of `C06.RawLex`, and `TxnLex` is `RawLex` without that clause.

* `parseJournal_lex` – every parse tree `Syntax.parseJournal` produces satisfies `TxnLex`, and there is at least one.
* `rawWF_of_lex` – `TxnLex r → C01.RawWF r` (numbers come from `Dec.ofToken`: scale ≤ 28).
* `accepted_acct_lex` – every posting of an accepted transaction, the implicit last one included, is to an account
  written in the parse tree (`AcctLex`), hence a non-empty `GoodPath` (`AcctLex.good`, `goodPath_of_partsWF`).
* `uuidWF_no_newline`, `uuidToString_canonical` – the canonical `8-4-4-4-12` text contains no newline and
  `Uuid::to_string` is the identity on it.
-/
namespace Tackler
namespace E2E
open Comb Syntax KeyOrder

/-! ## names -/

theorem identWF_partWF (l : List Char) (h : IdentWF l) : PartWF l := by
  obtain ⟨c, t, rfl, hc, ht⟩ := h
  refine ⟨by simp, ?_⟩
  intro d hd
  rcases List.mem_cons.mp hd with rfl | hd
  · simp [idChar, hc]
  · exact ht d hd

theorem partWF_good (l : List Char) (h : PartWF l) :
    String.ofList l ≠ "" ∧ ':' ∉ (String.ofList l).toList := by
  obtain ⟨hne, hall⟩ := h
  constructor
  · intro e
    have := congrArg String.toList e
    rw [String.toList_ofList] at this
    exact hne (by simpa using this)
  · rw [String.toList_ofList]
    intro hm
    exact absurd (hall _ hm) (by rw [idChar_colon]; decide)

theorem goodPath_of_partsWF (parts : List (List Char)) (h : PartsWF parts) :
    GoodPath (toPath parts) ∧ toPath parts ≠ [] := by
  obtain ⟨a, r, rfl, ha, hr⟩ := h
  refine ⟨?_, by simp [toPath]⟩
  intro c hc
  simp only [toPath, List.map_cons, List.mem_cons, List.mem_map] at hc
  rcases hc with rfl | ⟨p, hp, rfl⟩
  · exact partWF_good a (identWF_partWF a ha)
  · exact partWF_good p (hr p hp)

/-- an account as the grammar writes it -/
def AcctLex (a : Path) : Prop := ∃ parts, PartsWF parts ∧ a = toPath parts ∧ acctOk parts = true

theorem AcctLex.good {a : Path} (h : AcctLex a) : GoodPath a ∧ a ≠ [] := by
  obtain ⟨parts, hp, rfl, _⟩ := h
  exact goodPath_of_partsWF parts hp

/-! ## the timestamp-free part of `C06.RawLex` -/

/-- lexical well-formedness of a parse tree, without the timestamp clause (so without `C06.CfgOK`) -/
structure TxnLex (r : RawTxn) : Prop where
  posts : ∀ rp ∈ r.posts, PostLex rp
  posts_ne : r.posts ≠ []
  last : ∀ a c, r.last = some (a, c) → AcctLex a ∧ (∀ x, c = some x → LineText x.toList)
  uuid : ∀ u, r.header.uuid = some u → UuidWF u.toList

theorem parseTxnHeader_uuid (cfg : Time.TsCfg) {s r : List Char} {h : Header}
    (hp : parseTxnHeader cfg s = .ok h r) : ∀ u, h.uuid = some u → UuidWF u.toList := by
  unfold parseTxnHeader at hp
  obtain ⟨ts, s1, _, hp⟩ := Res.bind_inv hp
  obtain ⟨code, s2, _, hp⟩ := Res.bind_inv hp
  obtain ⟨desc, s3, _, hp⟩ := Res.bind_inv hp
  obtain ⟨_, s4, _, hp⟩ := Res.bind_inv hp
  obtain ⟨m, s5, hm, hp⟩ := Res.bind_inv hp
  obtain ⟨comments, s6, _, hp⟩ := Res.bind_inv hp
  cases hp
  intro u hu
  simp only at hu
  rcases opt_ok hm with ⟨y, e, hy⟩ | ⟨e, _⟩
  · subst e
    exact (parseTxnMeta_ok_wf hy).uuid u hu
  · subst e
    cases hu

theorem parseTxn_lex (cfg : Time.TsCfg) {s r : List Char} {t : RawTxn}
    (hp : parseTxn cfg s = .ok t r) : TxnLex t := by
  unfold parseTxn at hp
  obtain ⟨h, s1, hh, hp⟩ := Res.bind_inv hp
  obtain ⟨ps, s2, hps, hp⟩ := Res.bind_inv hp
  obtain ⟨_, s3, _, hp⟩ := Res.bind_inv hp
  cases hp
  obtain ⟨hne, hall, hlast⟩ := parseTxnPostings_ok_wf (ps := ps.1) (last := ps.2) (cutErr_ok hps)
  exact ⟨hall, hne, hlast, parseTxnHeader_uuid cfg (cutErr_ok hh)⟩

theorem parseJournal_lex (cfg : Time.TsCfg) (text : List Char) (rs : List RawTxn)
    (hp : parseJournal cfg text = some rs) : rs ≠ [] ∧ ∀ r ∈ rs, TxnLex r := by
  unfold parseJournal at hp
  split at hp
  · rename_i ts hts
    cases hp
    unfold parseTxns at hts
    obtain ⟨_, s1, _, h1⟩ := Res.bind_inv hts
    exact repeatTill1_all (parseTxn cfg) eof TxnLex (fun _ _ _ e => parseTxn_lex cfg e) h1
  · cases hp
  · cases hp
  · cases hp

/-! ## numbers: `C01.RawWF` -/

theorem rawPostingWF_of_postLex (rp : RawPosting) (h : PostLex rp) : C01.RawPostingWF rp := by
  refine ⟨h.amount.1, ?_⟩
  cases hu : rp.unit with
  | none => trivial
  | some u =>
    simp only
    cases hc : u.closing with
    | none => trivial
    | some cl =>
      cases cl with
      | unitPrice v => exact ((h.unit u hu).2.2 v (.inr hc)).2.2.1
      | total v => exact ((h.unit u hu).2.2 v (.inl hc)).2.2.1

theorem rawWF_of_lex (r : RawTxn) (h : TxnLex r) : C01.RawWF r :=
  fun rp hrp => rawPostingWF_of_postLex rp (h.posts rp hrp)

/-! ## accounts of accepted postings -/

theorem accepted_acct_origin (st st' : Settings) (r : RawTxn) (t : Txn) (h : acceptTxn st r = .ok (t, st')) :
    ∀ p ∈ t.posts, (∃ rp ∈ r.posts, p.acct = rp.acct) ∨ (∃ c, r.last = some (p.acct, c)) := by
  obtain ⟨s1, ps, _, h2, rfl, _⟩ := (acceptTxn_ok _ _ _ _).mp h
  obtain ⟨p0, rest, s2, hm, hcase⟩ := (acceptPostings_ok _ _ _ _ _).mp h2
  have hmain : ∀ p ∈ p0 :: rest, ∃ rp ∈ r.posts, p.acct = rp.acct := by
    intro p hp
    obtain ⟨rp, hrp, sa, sb, hh⟩ := mapMS_ok handlePosting r.posts s1 s2 (p0 :: rest) hm p hp
    exact ⟨rp, hrp, (C12.handlePosting_txnComm _ _ _ _ hh).1⟩
  intro p hp
  rcases hcase with ⟨_, rfl, _⟩ | ⟨a, cmt, sm, a', l, hl, _, hg, hmk, rfl⟩
  · exact .inl (hmain p hp)
  · rcases List.mem_append.mp hp with hp | hp
    · exact .inl (hmain p hp)
    · have e : p = l := List.mem_singleton.mp hp
      subst e
      have e2 := mkPosting_eq _ _ hmk
      subst e2
      have hab : a' = a := ((C12.gocta_ok s2 a p0.txnComm a').mp ⟨_, hg⟩).1
      exact .inr ⟨cmt, by rw [hl, hab]⟩

theorem accepted_acct_lex (st st' : Settings) (r : RawTxn) (t : Txn) (hl : TxnLex r)
    (h : acceptTxn st r = .ok (t, st')) : ∀ p ∈ t.posts, AcctLex p.acct := by
  intro p hp
  rcases accepted_acct_origin st st' r t h p hp with ⟨rp, hrp, e⟩ | ⟨c, hc⟩
  · rw [e]; exact (hl.posts rp hrp).acct
  · exact (hl.last _ _ hc).1

/-! ## uuid texts -/

theorem uuidWF_chars (u : List Char) (h : UuidWF u) : ∀ x ∈ u, isLowerHex x = true ∨ x = '-' := by
  obtain ⟨a, b, c, d, e, rfl, _, _, _, _, _, hx⟩ := h
  intro x hm
  by_cases hd : x = '-'
  · exact .inr hd
  · refine .inl (hx x ?_)
    simpa [hd] using hm

theorem uuidWF_length (u : List Char) (h : UuidWF u) : u.length = 36 := by
  obtain ⟨a, b, c, d, e, rfl, la, lb, lc, ld, le, _⟩ := h
  simp [la, lb, lc, ld, le]

theorem uuidWF_no_newline (u : List Char) (h : UuidWF u) : '\n' ∉ u :=
  fun hm => absurd (uuidWF_chars u h _ hm) (by decide)

theorem uuidToString_canonical (u : String) (h : UuidWF u.toList) : uuidToString u = u := by
  unfold uuidToString
  have : u.toList.map Char.toLower = u.toList.map id := by
    apply List.map_congr_left
    intro x hx
    rcases uuidWF_chars _ h x hx with h1 | rfl
    · exact toLower_of_lowerHex x h1
    · decide
  rw [this, List.map_id, String.ofList_toList]

end E2E
end Tackler
