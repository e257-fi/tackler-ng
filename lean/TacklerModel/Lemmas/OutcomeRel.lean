import TacklerModel.Model.Basic
/-!
# Outcomes that agree up to a relation, and the lemmas about `mapMS`

`OutRel Q o o'`: `o` and `o'` are of the same class (`ok` / `err` / `undef`) and, when `ok`, carry `Q`-related
values.  `bind`, `map`, `if` respect it (`OutRel.bind`, `bind_of_ok`, `bind_same`, `map`, `map_same`, `ite`, `inexact`),
so a simulation between two runs of a function written with these is proved by following its text; `of_ok_iff`
builds one from equations, `elim`, `map_eq`, `ok_iff` (for `StateRel R`: same value, `R`-related states) use one.

`mapMS`: `mapMS_cons` (as a `bind`), `mapMS_cons_ok` (its successful case), `mapMS_append`, `mapMS_rel` (two
traversals from related states), `mapMS_invariant` (a state invariant along a successful traversal).
-/

namespace Tackler

theorem Outcome.map_map {α β γ : Type} (o : Outcome α) (f : α → β) (g : β → γ) :
    (o.map f).map g = o.map fun a => g (f a) := by
  cases o <;> rfl

inductive OutRel {α : Type} (Q : α → α → Prop) : Outcome α → Outcome α → Prop
  | ok {a a' : α} : Q a a' → OutRel Q (.ok a) (.ok a')
  | err : OutRel Q .err .err
  | undef : OutRel Q .undef .undef

namespace OutRel

variable {α β : Type} {Q : α → α → Prop} {Q' : β → β → Prop} {o o' : Outcome α}

theorem refl (hQ : ∀ a, Q a a) : ∀ o : Outcome α, OutRel Q o o
  | .ok a => .ok (hQ a)
  | .err => .err
  | .undef => .undef

theorem mono {Q₂ : α → α → Prop} (hQ : ∀ a a', Q a a' → Q₂ a a') (h : OutRel Q o o') : OutRel Q₂ o o' := by
  cases h with
  | ok hq => exact .ok (hQ _ _ hq)
  | err => exact .err
  | undef => exact .undef

/-- the continuations need to agree only on values the two runs can produce -/
theorem bind_of_ok {k k' : α → Outcome β} (h : OutRel Q o o')
    (hk : ∀ a a', o = .ok a → o' = .ok a' → Q a a' → OutRel Q' (k a) (k' a')) :
    OutRel Q' (o.bind k) (o'.bind k') := by
  cases h with
  | ok hq => exact hk _ _ rfl rfl hq
  | err => exact .err
  | undef => exact .undef

theorem bind {k k' : α → Outcome β} (h : OutRel Q o o') (hk : ∀ a a', Q a a' → OutRel Q' (k a) (k' a')) :
    OutRel Q' (o.bind k) (o'.bind k') :=
  h.bind_of_ok fun a a' _ _ => hk a a'

theorem map {f f' : α → β} (h : OutRel Q o o') (hf : ∀ a a', Q a a' → Q' (f a) (f' a')) :
    OutRel Q' (o.map f) (o'.map f') := by
  cases h with
  | ok hq => exact .ok (hf _ _ hq)
  | err => exact .err
  | undef => exact .undef

theorem elim (h : OutRel Q o o') :
    (o = .err ∧ o' = .err) ∨ (o = .undef ∧ o' = .undef) ∨ ∃ a a', o = .ok a ∧ o' = .ok a' ∧ Q a a' := by
  cases h with
  | ok hq => exact .inr (.inr ⟨_, _, rfl, rfl, hq⟩)
  | err => exact .inl ⟨rfl, rfl⟩
  | undef => exact .inr (.inl ⟨rfl, rfl⟩)

/-- a step that does not depend on what the two runs differ in -/
theorem bind_same {k k' : α → Outcome β} (o : Outcome α) (hk : ∀ a, o = .ok a → OutRel Q' (k a) (k' a)) :
    OutRel Q' (o.bind k) (o.bind k') :=
  (refl (Q := Eq) (fun _ => rfl) o).bind_of_ok fun a _ e _ e' => e' ▸ hk a e

theorem map_same {f f' : α → β} (o : Outcome α) (hf : ∀ a, Q' (f a) (f' a)) : OutRel Q' (o.map f) (o.map f') :=
  (refl (Q := Eq) (fun _ => rfl) o).map fun a _ e => e ▸ hf a

theorem ite (c : Prop) [Decidable c] {a a' b b' : Outcome α} (ha : OutRel Q a a') (hb : OutRel Q b b') :
    OutRel Q (if c then a else b) (if c then a' else b') := by
  split
  · exact ha
  · exact hb

theorem inexact (b : Bool) : OutRel Q (Outcome.inexact b) (Outcome.inexact b) :=
  ite _ .err .undef

/-- two runs that succeed under equivalent conditions, with related values, and are errors otherwise -/
theorem of_ok_iff {c c' : Prop} {a a' : α} (hc : c' ↔ c) (ho : c → o = .ok a) (he : ¬ c → o = .err)
    (ho' : c' → o' = .ok a') (he' : ¬ c' → o' = .err) (hQ : c → Q a a') : OutRel Q o o' := by
  by_cases h : c
  · rw [ho h, ho' (hc.mpr h)]; exact .ok (hQ h)
  · rw [he h, he' (mt hc.mp h)]; exact .err

theorem map_eq {f : α → β} (h : OutRel Q o o') (hf : ∀ a a', Q a a' → f a = f a') : o.map f = o'.map f := by
  cases h with
  | ok hq => exact congrArg Outcome.ok (hf _ _ hq)
  | err => rfl
  | undef => rfl

end OutRel

def StateRel {β σ : Type} (R : σ → σ → Prop) (x y : β × σ) : Prop := x.1 = y.1 ∧ R x.2 y.2

theorem OutRel.ok_iff {β σ : Type} {R : σ → σ → Prop} {o o' : Outcome (β × σ)} (h : OutRel (StateRel R) o o')
    (b : β) : (∃ s, o = .ok (b, s)) ↔ ∃ s', o' = .ok (b, s') := by
  cases h with
  | ok hq =>
    rename_i x y
    obtain ⟨x1, x2⟩ := x
    obtain ⟨y1, y2⟩ := y
    obtain ⟨rfl, _⟩ := hq
    simp
  | err => simp
  | undef => simp

/-! ### `mapMS` -/

theorem mapMS_cons {σ α β} (f : σ → α → Outcome (β × σ)) (s : σ) (a : α) (t : List α) :
    mapMS f s (a :: t) = (f s a).bind fun r => (mapMS f r.2 t).map fun q => (r.1 :: q.1, q.2) := by
  rw [mapMS]
  cases f s a with
  | err => rfl
  | undef => rfl
  | ok r =>
    obtain ⟨b, s1⟩ := r
    dsimp only [Outcome.bind]
    cases mapMS f s1 t with
    | err => rfl
    | undef => rfl
    | ok q => rfl

theorem mapMS_rel {σ α β : Type} {R : σ → σ → Prop} {f : σ → α → Outcome (β × σ)} :
    ∀ (l : List α), (∀ a ∈ l, ∀ s s', R s s' → OutRel (StateRel R) (f s a) (f s' a)) →
      ∀ s s' : σ, R s s' → OutRel (StateRel R) (mapMS f s l) (mapMS f s' l)
  | [], _, _, _, h => .ok ⟨rfl, h⟩
  | a :: t, hf, s, s', h => by
    rw [mapMS_cons, mapMS_cons]
    exact (hf a List.mem_cons_self s s' h).bind fun r r' hr =>
      (mapMS_rel t (fun b hb => hf b (List.mem_cons_of_mem _ hb)) r.2 r'.2 hr.2).map
        fun q q' hq => ⟨by rw [hr.1, hq.1], hq.2⟩

theorem mapMS_cons_ok {σ α β} (f : σ → α → Outcome (β × σ)) (s s' : σ) (a : α) (t : List α) (bs : List β) :
    mapMS f s (a :: t) = .ok (bs, s') ↔
      ∃ b s₁ bs', f s a = .ok (b, s₁) ∧ mapMS f s₁ t = .ok (bs', s') ∧ bs = b :: bs' := by
  rw [mapMS_cons, Outcome.bind_ok]
  constructor
  · rintro ⟨⟨b, s₁⟩, h1, h2⟩
    obtain ⟨⟨bs', s''⟩, h3, h4⟩ := (Outcome.map_ok _ _ _).mp h2
    cases h4
    exact ⟨b, s₁, bs', h1, h3, rfl⟩
  · rintro ⟨b, s₁, bs', h1, h2, rfl⟩
    exact ⟨(b, s₁), h1, (Outcome.map_ok _ _ _).mpr ⟨(bs', s'), h2, rfl⟩⟩

theorem mapMS_invariant {σ α β} (f : σ → α → Outcome (β × σ)) (P : σ → Prop)
    (hf : ∀ s a b s', P s → f s a = .ok (b, s') → P s') :
    ∀ (l : List α) (s s' : σ) (bs : List β), P s → mapMS f s l = .ok (bs, s') →
      P s' ∧ (∀ b ∈ bs, ∃ a ∈ l, ∃ s₁ s₂, P s₁ ∧ f s₁ a = .ok (b, s₂)) ∧
      (∀ a ∈ l, ∃ b ∈ bs, ∃ s₁ s₂, P s₁ ∧ f s₁ a = .ok (b, s₂))
  | [], s, s', bs, hP, h => by
    obtain ⟨rfl, rfl⟩ : [] = bs ∧ s = s' := by simpa [mapMS] using h
    exact ⟨hP, fun _ hb => absurd hb List.not_mem_nil, fun _ ha => absurd ha List.not_mem_nil⟩
  | a :: t, s, s', bs, hP, h => by
    obtain ⟨b, s₁, bs', h1, h2, rfl⟩ := (mapMS_cons_ok f s s' a t bs).mp h
    obtain ⟨hP', hout, hin⟩ := mapMS_invariant f P hf t s₁ s' bs' (hf s a b s₁ hP h1) h2
    refine ⟨hP', fun b' hb' => ?_, fun a' ha' => ?_⟩
    · rcases List.mem_cons.mp hb' with rfl | hb'
      · exact ⟨a, List.mem_cons_self, s, s₁, hP, h1⟩
      · obtain ⟨a', ha', hx⟩ := hout b' hb'
        exact ⟨a', List.mem_cons_of_mem _ ha', hx⟩
    · rcases List.mem_cons.mp ha' with rfl | ha'
      · exact ⟨b, List.mem_cons_self, s, s₁, hP, h1⟩
      · obtain ⟨b', hb', hx⟩ := hin a' ha'
        exact ⟨b', List.mem_cons_of_mem _ hb', hx⟩

theorem mapMS_append {σ α β : Type} (f : σ → α → Outcome (β × σ)) : ∀ (l1 l2 : List α) (s : σ),
    mapMS f s (l1 ++ l2) =
      (mapMS f s l1).bind fun r1 => (mapMS f r1.2 l2).map fun r2 => (r1.1 ++ r2.1, r2.2)
  | [], l2, s => by cases h : mapMS f s l2 <;> simp [mapMS, Outcome.bind, Outcome.map, h]
  | a :: t, l2, s => by
    rw [List.cons_append, mapMS_cons, mapMS_cons]
    cases f s a with
    | err => rfl
    | undef => rfl
    | ok r =>
      simp only [Outcome.bind, mapMS_append f t l2 r.2]
      cases mapMS f r.2 t with
      | err => rfl
      | undef => rfl
      | ok q => cases h : mapMS f q.2 l2 <;> simp [Outcome.map, h]

end Tackler
