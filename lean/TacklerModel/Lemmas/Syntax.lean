import TacklerModel.Model.Syntax
import TacklerModel.Lemmas.ParserTac
/-!
# Suffix / consumption lemmas for every parser of `Model/Syntax`

`X_suff : Suff (X s) s` – on success the remainder is a suffix of the input;
`X_cons : Cons (X s) s` – … a strictly shorter one (needed for every parser under `repeat`).
The proofs are mechanical (`psuff`): one combinator lemma per node of the parser's definition; a `Cons` proof names
the part that consumes and leaves the rest to `psuff`.
-/
namespace Tackler
namespace Syntax
open Comb

theorem pIdPart_cons (s : List Char) : Cons (pIdPart s) s := takeWhile1_cons _ s

theorem pIdentifier_cons (s : List Char) : Cons (pIdentifier s) s := by
  unfold pIdentifier
  exact Cons.bind (oneOf_cons _ s) (fun _ _ => by psuff)

theorem pIdPartHelper_cons (s : List Char) : Cons (pIdPartHelper s) s := by
  unfold pIdPartHelper
  exact Cons.bind (takeMN_cons 1 1 _ s (by decide)) (fun _ _ => by psuff)

theorem pMultiPartId_cons (s : List Char) : Cons (pMultiPartId s) s := by
  unfold pMultiPartId
  refine Cons.bind (pIdentifier_cons s) (fun _ s' => ?_)
  refine Suff.bind' (cutErr_suff (repeat0_suff _ (fun s => (pIdPartHelper_cons s).suff) s')) (fun _ _ => by psuff)

theorem pNumberLex_cons (s : List Char) : Cons (pNumberLex s) s := by
  unfold pNumberLex
  refine Cons.bind_right (by psuff) (fun _ s' => ?_)
  exact Cons.bind (takeWhile1_cons _ s') (fun _ _ => by psuff)

theorem pNumber_cons (s : List Char) : Cons (pNumber s) s := by
  unfold pNumber
  refine Cons.bind (pNumberLex_cons s) (fun _ _ => by psuff)

theorem pComment_cons (s : List Char) : Cons (pComment s) s := by
  unfold pComment
  exact Cons.bind (chr_cons _ s) (fun _ _ => by psuff)

theorem parseTxnComment_cons (s : List Char) : Cons (parseTxnComment s) s := by
  unfold parseTxnComment
  exact Cons.bind (space1_cons s) (fun _ _ => by psuff)

theorem pDate_cons (s : List Char) : Cons (pDate s) s := by
  unfold pDate
  exact Cons.bind (takeMN_cons 4 4 _ s (by decide)) (fun _ _ => by unfold twoDigits; psuff)

theorem ofOutcome_suff {α} (o : Outcome α) (s : List Char) : Suff (ofOutcome o s) s := by
  unfold ofOutcome; psuff

theorem parseDate_cons (cfg : Time.TsCfg) (s : List Char) : Cons (parseDate cfg s) s := by
  unfold parseDate
  exact Cons.bind (pDate_cons s) (fun _ _ => by psuff)

theorem pDatetime_cons (s : List Char) : Cons (pDatetime s) s := by
  unfold pDatetime
  exact Cons.bind (pDate_cons s) (fun _ _ => by unfold twoDigits; psuff)

theorem parseDatetime_cons (cfg : Time.TsCfg) (s : List Char) : Cons (parseDatetime cfg s) s := by
  unfold parseDatetime
  exact Cons.bind (pDatetime_cons s) (fun _ _ => by psuff)

theorem pOffset_suff (s : List Char) : Suff (pOffset s) s := by
  unfold pOffset twoDigits; psuff

theorem pZuluOrOffset_suff (s : List Char) : Suff (pZuluOrOffset s) s := by
  unfold pZuluOrOffset; psuff

theorem parseDatetimeTz_cons (cfg : Time.TsCfg) (s : List Char) : Cons (parseDatetimeTz cfg s) s := by
  unfold parseDatetimeTz
  exact Cons.bind (pDatetime_cons s) (fun _ _ => by psuff)

theorem parseTimestamp_cons (cfg : Time.TsCfg) (s : List Char) : Cons (parseTimestamp cfg s) s := by
  unfold parseTimestamp
  exact alt_cons (parseDatetimeTz_cons cfg s) (alt_cons (parseDatetime_cons cfg s)
    (alt_cons (parseDate_cons cfg s) (cons_bt s)))

theorem parseTxnCode_suff (s : List Char) : Suff (parseTxnCode s) s := by
  unfold parseTxnCode; psuff

theorem parseTxnDescription_suff (s : List Char) : Suff (parseTxnDescription s) s := by
  unfold parseTxnDescription; psuff

theorem pUuid_suff (s : List Char) : Suff (pUuid s) s := by
  unfold pUuid hexN dash; psuff

theorem metaLine_cons {α} (key : List Char) (value : P α) (hv : ∀ s, Suff (value s) s) (s : List Char) :
    Cons (metaLine key value s) s := by
  unfold metaLine
  refine Cons.bind (space1_cons s) (fun _ _ => ?_)
  refine Suff.bind' (by psuff) (fun _ _ => ?_)
  refine Suff.bind' (by psuff) (fun _ _ => ?_)
  refine Suff.bind' (by psuff) (fun _ _ => ?_)
  refine Suff.bind' (by psuff) (fun _ _ => ?_)
  refine Suff.bind' (cutErr_suff (hv _)) (fun _ _ => ?_)
  psuff

theorem parseMetaUuid_cons (s : List Char) : Cons (parseMetaUuid s) s :=
  metaLine_cons _ _ pUuid_suff s

theorem pGeoUri_suff (s : List Char) : Suff (pGeoUri s) s := by
  unfold pGeoUri; psuff

theorem parseMetaLocation_cons (s : List Char) : Cons (parseMetaLocation s) s :=
  metaLine_cons _ _ pGeoUri_suff s

theorem pTagTail_cons (s : List Char) : Cons (pTagTail s) s := by
  unfold pTagTail
  refine Cons.bind_right (space0_suff s) (fun _ s' => ?_)
  exact Cons.bind (chr_cons _ s') (fun _ _ => by psuff)

theorem pTags_suff (s : List Char) : Suff (pTags s) s := by
  unfold pTags
  refine Suff.bind' (by psuff) (fun _ s' => ?_)
  exact Suff.bind' (repeat0_suff _ (fun s => (pTagTail_cons s).suff) s') (fun _ _ => by psuff)

theorem parseMetaTags_cons (s : List Char) : Cons (parseMetaTags s) s :=
  metaLine_cons _ _ pTags_suff s

theorem parseTxnMeta_suff (s : List Char) : Suff (parseTxnMeta s) s := by
  unfold parseTxnMeta permutationUuidTagsOLocation permutationUuidLocationOTags permutationUuid
    permutationTagsUuidOLocation permutationTagsLocationOUuid permutationTags
    permutationLocationUuidOTags permutationLocationTagsOUuid permutationLocation
  psuff

theorem parseTxnHeader_cons (cfg : Time.TsCfg) (s : List Char) : Cons (parseTxnHeader cfg s) s := by
  unfold parseTxnHeader
  refine Cons.bind (parseTimestamp_cons cfg s) (fun _ _ => ?_)
  refine Suff.bind' (by psuff) (fun _ _ => ?_)
  refine Suff.bind' (by psuff) (fun _ _ => ?_)
  refine Suff.bind' (by psuff) (fun _ _ => ?_)
  refine Suff.bind' (by psuff) (fun _ s' => ?_)
  refine Suff.bind' (opt_suff (repeat1_cons _ parseTxnComment_cons s').suff) (fun _ _ => by psuff)

theorem pOpeningPos_suff (s : List Char) : Suff (pOpeningPos s) s := by
  unfold pOpeningPos; psuff

theorem pClosingPos_suff (s : List Char) : Suff (pClosingPos s) s := by
  unfold pClosingPos; psuff

theorem pPosition_suff (s : List Char) : Suff (pPosition s) s := by
  unfold pPosition; psuff

theorem pUnit_suff (s : List Char) : Suff (pUnit s) s := by
  unfold pUnit; psuff

theorem parsePostingValue_suff (s : List Char) : Suff (parsePostingValue s) s := by
  unfold parsePostingValue; psuff

theorem parseTxnPosting_cons (s : List Char) : Cons (parseTxnPosting s) s := by
  unfold parseTxnPosting
  exact Cons.bind (space1_cons s) (fun _ _ => by psuff)

theorem parseTxnLastPosting_cons (s : List Char) : Cons (parseTxnLastPosting s) s := by
  unfold parseTxnLastPosting
  exact Cons.bind (space1_cons s) (fun _ _ => by psuff)

theorem parseTxnPostings_cons (s : List Char) : Cons (parseTxnPostings s) s := by
  unfold parseTxnPostings
  exact Cons.bind (repeat1_cons _ parseTxnPosting_cons s) (fun _ _ => by psuff)

theorem blankLine_cons (s : List Char) : Cons (blankLine s) s := by
  unfold blankLine
  exact Cons.bind_right (space0_suff s) (fun _ s' => lineEnding_cons s')

theorem multispace0LineEnding_cons (s : List Char) : Cons (multispace0LineEnding s) s := by
  unfold multispace0LineEnding
  exact Cons.map (repeat1_cons _ blankLine_cons s)

theorem parseTxn_cons (cfg : Time.TsCfg) (s : List Char) : Cons (parseTxn cfg s) s := by
  unfold parseTxn
  exact Cons.bind (cutErr_cons (parseTxnHeader_cons cfg s)) (fun _ _ => by psuff)

theorem parseTxns_suff (cfg : Time.TsCfg) (s : List Char) : Suff (parseTxns cfg s) s := by
  unfold parseTxns
  refine Suff.bind' (by psuff) (fun _ s' => ?_)
  exact repeatTill1_suff _ _ (fun s => (parseTxn_cons cfg s).suff) eof_suff s'

end Syntax
end Tackler
