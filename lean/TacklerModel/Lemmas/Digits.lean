import TacklerModel.Model.Dec
import TacklerModel.Model.Time
/-!
# Decimal digit strings

`Dec.digitsVal` against core's `Nat.ofDigitChars` / `Nat.toDigits`, padding with zeros, and the digit strings
`Display for Decimal` is cut from (`Dec.ipChars`, `Dec.fpChars`).  What is produced is stated with core's `Char.isDigit`;
the bounds `digitVal_lt`, `digitsVal_lt` take the lexer's `Time.isDig`, which `Time.isDig_of_isDigit` gives.
-/
namespace Tackler

theorem Time.isDig_of_isDigit (c : Char) (h : c.isDigit = true) : Time.isDig c = true := by
  unfold Char.isDigit at h
  simp only [Bool.and_eq_true, decide_eq_true_eq] at h
  have h1 : (48 : UInt32) ≤ c.val := h.1
  have h2 : c.val ≤ (57 : UInt32) := h.2
  rw [UInt32.le_iff_toNat_le] at h1 h2
  unfold Time.isDig
  rw [decide_eq_true_eq]
  exact ⟨Char.le_def.mpr h1, Char.le_def.mpr h2⟩

namespace Dec

/-! ### the value of a digit string -/

theorem digitsVal_eq_ofDigitChars (l : List Char) : digitsVal l = Nat.ofDigitChars 10 l 0 := by
  unfold digitsVal Nat.ofDigitChars digitVal
  congr 1
  funext acc c
  rw [Nat.mul_comm]

theorem foldl_digits (l : List Char) (acc : Nat) :
    l.foldl (fun acc c => acc * 10 + digitVal c) acc = acc * 10 ^ l.length + digitsVal l := by
  induction l generalizing acc with
  | nil => simp [digitsVal]
  | cons c t ih =>
    simp only [List.foldl_cons, List.length_cons, digitsVal]
    rw [ih, ih (0 * 10 + digitVal c)]
    simp only [Nat.pow_succ, Nat.zero_mul, Nat.zero_add]
    generalize 10 ^ t.length = p
    rw [Nat.add_mul, Nat.mul_assoc, Nat.mul_comm 10 p, Nat.add_assoc]

theorem digitsVal_append (a b : List Char) : digitsVal (a ++ b) = digitsVal a * 10 ^ b.length + digitsVal b := by
  rw [digitsVal, List.foldl_append, foldl_digits]
  rfl

theorem digitsVal_append_single (l : List Char) (c : Char) : digitsVal (l ++ [c]) = digitsVal l * 10 + digitVal c := by
  simp [digitsVal, List.foldl_append]

theorem digitsVal_le_append (a b : List Char) : digitsVal a ≤ digitsVal (a ++ b) := by
  rw [digitsVal_append]
  exact Nat.le_trans (Nat.le_mul_of_pos_right _ (Nat.pow_pos (by decide))) (Nat.le_add_right _ _)

theorem digitsVal_append_zeros (l : List Char) (n : Nat) :
    digitsVal (l ++ List.replicate n '0') = digitsVal l * 10 ^ n := by
  rw [digitsVal_eq_ofDigitChars, digitsVal_eq_ofDigitChars, Nat.ofDigitChars_append, Nat.ofDigitChars_replicate_zero,
    Nat.mul_comm]

theorem digitsVal_zeros_append (l : List Char) (n : Nat) : digitsVal (List.replicate n '0' ++ l) = digitsVal l := by
  rw [digitsVal_eq_ofDigitChars, digitsVal_eq_ofDigitChars, Nat.ofDigitChars_append, Nat.ofDigitChars_replicate_zero,
    Nat.mul_zero]

theorem digitsVal_toDigits (n : Nat) : digitsVal (Nat.toDigits 10 n) = n := by
  rw [digitsVal_eq_ofDigitChars]
  exact Nat.ofDigitChars_ten_toDigits

theorem digitVal_lt (c : Char) (h : Time.isDig c = true) : digitVal c < 10 := by
  simp [Time.isDig] at h
  unfold digitVal
  have h1 : c.toNat ≤ '9'.toNat := h.2
  have : '9'.toNat = 57 := by decide
  have : '0'.toNat = 48 := by decide
  omega

theorem digitsVal_lt (l : List Char) (h : ∀ c ∈ l, Time.isDig c = true) : digitsVal l < 10 ^ l.length := by
  induction l with
  | nil => simp [digitsVal]
  | cons c t ih =>
    have hc := digitVal_lt c (h c List.mem_cons_self)
    have ht := ih (fun x hx => h x (List.mem_cons_of_mem _ hx))
    rw [show c :: t = [c] ++ t from rfl, digitsVal_append, List.length_append, List.length_singleton, Nat.pow_add,
      show digitsVal [c] = digitVal c by simp [digitsVal]]
    have h2 : digitVal c * 10 ^ t.length ≤ 9 * 10 ^ t.length := Nat.mul_le_mul_right _ (by omega)
    omega

/-! ### left padding -/

theorem padLeft_length_ge (w : Nat) (l : List Char) : w ≤ (padLeft w l).length := by
  unfold padLeft
  rw [List.length_append, List.length_replicate]
  omega

theorem padLeft_length_of_le (w : Nat) (l : List Char) (h : l.length ≤ w) : (padLeft w l).length = w := by
  unfold padLeft
  rw [List.length_append, List.length_replicate]
  omega

theorem digitsVal_padLeft (w n : Nat) : digitsVal (padLeft w (Nat.toDigits 10 n)) = n := by
  rw [padLeft, digitsVal_zeros_append, digitsVal_toDigits]

theorem padLeft_isDigit (w n : Nat) : ∀ c ∈ padLeft w (Nat.toDigits 10 n), c.isDigit = true := by
  intro c hc
  rcases List.mem_append.mp hc with h | h
  · rw [(List.mem_replicate.mp h).2]
    decide
  · exact Nat.isDigit_of_mem_toDigits (by decide) (by decide) h

/-! ### the digits of `Display for Decimal` -/

/-- integer and fraction digits of `Display for Decimal` -/
def ipChars (d : Dec) : List Char :=
  (padLeft (d.scale + 1) (Nat.toDigits 10 d.coeff)).take ((padLeft (d.scale + 1) (Nat.toDigits 10 d.coeff)).length - d.scale)
def fpChars (d : Dec) : List Char :=
  (padLeft (d.scale + 1) (Nat.toDigits 10 d.coeff)).drop ((padLeft (d.scale + 1) (Nat.toDigits 10 d.coeff)).length - d.scale)

theorem toChars_eq (d : Dec) :
    d.toChars = (if d.neg then ['-'] else []) ++ ipChars d ++ (if d.scale = 0 then [] else '.' :: fpChars d) := rfl

theorem ip_fp_append (d : Dec) : ipChars d ++ fpChars d = padLeft (d.scale + 1) (Nat.toDigits 10 d.coeff) :=
  List.take_append_drop _ _

theorem digitsVal_ip_fp (d : Dec) : digitsVal (ipChars d ++ fpChars d) = d.coeff := by
  rw [ip_fp_append, digitsVal_padLeft]

theorem fp_length (d : Dec) : (fpChars d).length = d.scale := by
  have := padLeft_length_ge (d.scale + 1) (Nat.toDigits 10 d.coeff)
  rw [fpChars, List.length_drop]
  omega

theorem ip_ne_nil (d : Dec) : ipChars d ≠ [] := by
  intro h
  have h1 := congrArg List.length (ip_fp_append d)
  have h2 := padLeft_length_ge (d.scale + 1) (Nat.toDigits 10 d.coeff)
  rw [List.length_append, h, fp_length, List.length_nil] at h1
  omega

theorem ip_isDigit (d : Dec) : ∀ c ∈ ipChars d, c.isDigit = true := fun c hc =>
  padLeft_isDigit _ _ c (by rw [← ip_fp_append]; exact List.mem_append_left _ hc)

theorem fp_isDigit (d : Dec) : ∀ c ∈ fpChars d, c.isDigit = true := fun c hc =>
  padLeft_isDigit _ _ c (by rw [← ip_fp_append]; exact List.mem_append_right _ hc)

end Dec
end Tackler
