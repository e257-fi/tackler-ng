import TacklerModel.Lemmas.Time
import TacklerModel.Model.Group
/-!
# Lemmas about period keys (C13)

* the calendar: the day after a civil date (`civil_succ`), the bounds of a civil year (`year_bounds`), the ISO week
  date of a day number (`isoOf_spec`);
* `pcode`: an integer code of the period a day number lies in, for each group-by setting; it never decreases with
  the day number (`pcode_mono`);
* `ptext`: the period text of a day number; it determines the period code and vice versa (`ptext_eq_iff`).  The
  injectivity lemmas for the display texts this needs (`padNat_inj`, `yearText_inj`, `intText_inj`, `sep_inj`)
  stand in the last section.
-/
namespace Tackler
namespace Time

theorem localDays_spec (ns off : Int) :
    localDays ns off * 86400000000000 ≤ ns + off * 1000000000 ∧
    ns + off * 1000000000 < (localDays ns off + 1) * 86400000000000 := by
  unfold localDays; omega

/-! ### the day after -/

theorem succ_month (y : Int) (m : Nat) (hm : 1 ≤ m ∧ m < 12) :
    daysFromCivil y (m + 1) 1 = daysFromCivil y m (daysInMonth y m) + 1 := by
  simp only [daysFromCivil_eq]
  by_cases h2 : m = 2
  · -- February to March: the next March-based year starts
    subst h2
    have := marchDays_feb y
    show marchDays y + 0 + 1 - 1 - 719468 = marchDays (y - 1) + 337 + _ - 1 - 719468 + 1
    omega
  · have hdim := daysInMonth_eq_diff y m ⟨hm.1, by omega⟩ h2
    by_cases h1 : m = 1
    · subst h1
      show marchDays (y - 1) + 337 + 1 - 1 - 719468 = marchDays (y - 1) + 306 + 31 - 1 - 719468 + 1
      omega
    · have h3 : m > 2 := by omega
      have h4 : m + 1 > 2 := by omega
      have e : ((m + 1 : Nat) : Int) - 3 = (m : Int) - 3 + 1 := by omega
      simp only [h3, h4, if_true, if_neg (Nat.not_le.mpr h3), if_neg (Nat.not_le.mpr h4), e] at hdim ⊢
      omega

theorem succ_day (y : Int) (m d : Nat) : daysFromCivil y m (d + 1) = daysFromCivil y m d + 1 :=
  daysFromCivil_add y m d 1

theorem succ_year (y : Int) : daysFromCivil (y + 1) 1 1 = daysFromCivil y 12 31 + 1 := by
  rw [daysFromCivil_jan1, daysFromCivil_eq, Int.add_sub_cancel]
  show _ = marchDays y + 275 + 31 - 1 - 719468 + 1
  omega

theorem daysInMonth_ge (y : Int) (m : Nat) (hm : 1 ≤ m ∧ m ≤ 12) : 28 ≤ daysInMonth y m ∧ daysInMonth y m ≤ 31 := by
  by_cases h2 : m = 2
  · subst h2
    have := marchDays_feb y
    omega
  · have := daysInMonth_eq_diff y m hm h2
    split at this <;> omega

theorem civil_succ (z : Int) (y : Int) (m d : Nat) (hc : civilFromDays z = (y, m, d)) :
    civilFromDays (z + 1) =
      if d < daysInMonth y m then (y, m, d + 1) else if m < 12 then (y, m + 1, 1) else (y + 1, 1, 1) := by
  have hr := days_roundtrip z
  rw [hc] at hr
  obtain ⟨hz, hm1, hm12, hd1, hdim⟩ := hr
  simp only at hz hm1 hm12 hd1 hdim
  split
  · rename_i hlt
    rw [← hz, ← succ_day, civil_roundtrip y m (d + 1) ⟨hm1, hm12⟩ ⟨by omega, by omega⟩]
  · rename_i hnlt
    have hd : d = daysInMonth y m := by omega
    split
    · rename_i hm
      have hdim' := daysInMonth_ge y (m + 1) ⟨by omega, by omega⟩
      rw [← hz, hd, ← succ_month y m ⟨hm1, hm⟩, civil_roundtrip y (m + 1) 1 ⟨by omega, by omega⟩ ⟨by omega, by omega⟩]
    · rename_i hm
      have hm' : m = 12 := by omega
      subst hm'
      have hd31 : d = 31 := by rw [hd]; simp [daysInMonth]
      subst hd31
      rw [← hz, ← succ_year, civil_roundtrip (y + 1) 1 1 (by omega) (by simp [daysInMonth])]

theorem year_bounds (z : Int) :
    daysFromCivil (civilFromDays z).1 1 1 ≤ z ∧ z < daysFromCivil ((civilFromDays z).1 + 1) 1 1 := by
  obtain ⟨Y, doy, h0, h1, rfl⟩ := exists_march z
  have hfeb := marchDays_feb Y
  have hlen := marchDays_feb (Y + 1)
  rw [Int.add_sub_cancel] at hlen
  rw [civilFromDays_march Y doy h0 h1, daysFromCivil_jan1, daysFromCivil_jan1, Int.add_sub_cancel]
  simp only [civilOfMarch]
  -- January 1st is day 306 of the March-based year
  by_cases h10 : (5 * doy + 2) / 153 < 10
  · have h2 : ¬ (5 * doy + 2) / 153 + 3 ≤ 2 := by omega
    simp only [h10, h2, if_true, if_false]
    omega
  · have h2 : (5 * doy + 2) / 153 - 9 ≤ 2 := by omega
    simp only [h10, h2, if_true, if_false, Int.add_sub_cancel]
    omega

/-! ### ISO week dates of day numbers -/

/-- `civil::Date::iso_week_date` as a function of the day number -/
def isoOf (z : Int) : Int × Int × Int := isoWeekOfDays (civilFromDays z).1 z

theorem isoWeekDate_eq_isoOf (z : Int) :
    isoWeekDate (civilFromDays z).1 (civilFromDays z).2.1 (civilFromDays z).2.2 = isoOf z := by
  unfold isoWeekDate isoOf
  rw [(days_roundtrip z).1]

theorem isoWeekOfDays_lt_next (year days : Int)
    (hin : daysFromCivil year 1 1 ≤ days ∧ days < daysFromCivil (year + 1) 1 1) :
    days < isoWeekStart ((isoWeekOfDays year days).1 + 1) := by
  have n1 := isoWeekStart_near (year + 1)
  have s1 := isoWeekStart_step (year + 1)
  have e1 : year - 1 + 1 = year := by omega
  simp only [isoWeekOfDays]
  split
  · rw [isoYear_of_start, e1]; assumption
  · split
    · rw [isoYear_of_start]; omega
    · rw [isoYear_of_start]; omega

theorem isoOf_spec (z : Int) :
    1 ≤ (isoOf z).2.1 ∧ (isoOf z).2.1 ≤ 53 ∧ 1 ≤ (isoOf z).2.2 ∧ (isoOf z).2.2 ≤ 7 ∧
    z = isoWeekStart (isoOf z).1 + ((isoOf z).2.1 - 1) * 7 + ((isoOf z).2.2 - 1) ∧
    z < isoWeekStart ((isoOf z).1 + 1) := by
  have hin := year_bounds z
  obtain ⟨h1, h2, h3, h4, _, h6⟩ := isoWeekOfDays_spec _ z hin
  exact ⟨h1, h2, h3, h4, h6, isoWeekOfDays_lt_next _ z hin⟩

theorem mono_of_le_succ (f : Int → Int) (hf : ∀ z, f z ≤ f (z + 1)) {z z' : Int} (h : z ≤ z') : f z ≤ f z' := by
  obtain ⟨n, rfl⟩ : ∃ n : Nat, z' = z + n := ⟨(z' - z).toNat, by omega⟩
  clear h
  induction n with
  | zero => simp
  | succ n ih =>
    have := hf (z + n)
    rw [show z + ((n + 1 : Nat) : Int) = z + n + 1 by omega]
    omega

theorem isoWeekStart_mono (y y' : Int) (h : y ≤ y') : isoWeekStart y ≤ isoWeekStart y' :=
  mono_of_le_succ isoWeekStart (fun y => by have := isoWeekStart_step y; omega) h

/-! ### period codes -/

/-- an integer code of the period a day number lies in: the code orders as the periods do -/
def pcode (g : GroupBy) (z : Int) : Int :=
  match g with
  | .year => (civilFromDays z).1
  | .month => (civilFromDays z).1 * 100 + (civilFromDays z).2.1
  | .date => (civilFromDays z).1 * 10000 + (civilFromDays z).2.1 * 100 + (civilFromDays z).2.2
  | .isoWeek => (isoOf z).1 * 100 + (isoOf z).2.1
  | .isoWeekDate => (isoOf z).1 * 1000 + (isoOf z).2.1 * 10 + (isoOf z).2.2

theorem civil_range (z : Int) : 1 ≤ (civilFromDays z).2.1 ∧ (civilFromDays z).2.1 ≤ 12 ∧
    1 ≤ (civilFromDays z).2.2 ∧ (civilFromDays z).2.2 ≤ 31 := by
  obtain ⟨_, h1, h2, h3, h4⟩ := days_roundtrip z
  have := daysInMonth_ge (civilFromDays z).1 (civilFromDays z).2.1 ⟨h1, h2⟩
  omega

theorem pcode_succ (g : GroupBy) (z : Int) : pcode g z ≤ pcode g (z + 1) := by
  cases g with
  | year | month | date =>
    have hr := civil_range z
    have hdim := (days_roundtrip z).2.2.2.2
    simp only [pcode]
    generalize hcz : civilFromDays z = c at *
    obtain ⟨y, m, d⟩ := c
    rw [civil_succ z y m d hcz]
    simp only at hr hdim ⊢
    split
    · simp only; omega
    · split
      · simp only; omega
      · simp only; omega
  | isoWeek | isoWeekDate =>
    obtain ⟨a1, a2, a3, a4, a5, a6⟩ := isoOf_spec z
    obtain ⟨b1, b2, b3, b4, b5, b6⟩ := isoOf_spec (z + 1)
    simp only [pcode]
    generalize (isoOf z).1 = wy at *
    generalize (isoOf z).2.1 = w at *
    generalize (isoOf z).2.2 = wd at *
    generalize (isoOf (z + 1)).1 = wy' at *
    generalize (isoOf (z + 1)).2.1 = w' at *
    generalize (isoOf (z + 1)).2.2 = wd' at *
    -- the ISO year cannot go back, and within one ISO year the week date follows the day
    have hy : wy ≤ wy' := by
      apply Classical.byContradiction
      intro hlt
      have := isoWeekStart_mono (wy' + 1) wy (by omega)
      omega
    rcases Int.lt_or_eq_of_le hy with hlt | heq
    · omega
    · subst heq; omega

/-- **the period code never decreases with the day number** -/
theorem pcode_mono (g : GroupBy) (z z' : Int) (h : z ≤ z') : pcode g z ≤ pcode g z' :=
  mono_of_le_succ (pcode g) (pcode_succ g) h

/-! ### period texts -/

/-- the period text of a local day number (what `fmt_year` … `fmt_week_date` print for any instant of that day) -/
def ptext (g : GroupBy) (z : Int) : String :=
  match g with
  | .year => String.ofList (yearText (civilFromDays z).1)
  | .month => String.ofList (yearText (civilFromDays z).1 ++ ['-'] ++ padNat 2 (civilFromDays z).2.1)
  | .date => String.ofList (dateChars (civilFromDays z).1 (civilFromDays z).2.1 (civilFromDays z).2.2)
  | .isoWeek => String.ofList (intText (isoOf z).1 ++ ['-', 'W'] ++ padNat 2 (isoOf z).2.1.toNat)
  | .isoWeekDate =>
    String.ofList (intText (isoOf z).1 ++ ['-', 'W'] ++ padNat 2 (isoOf z).2.1.toNat ++ ['-'] ++ intText (isoOf z).2.2)

theorem periodText_eq (g : GroupBy) (ns off : Int) : periodText g ns off = ptext g (localDays ns off) := by
  have hd := civilAt_date ns off
  have hi := isoWeekDate_eq_isoOf (localDays ns off)
  rw [← hd] at hi
  simp only at hi
  cases g <;> simp only [periodText, ptext, fmtYear, fmtMonth, fmtDate, fmtIsoWeek, fmtIsoWeekDate]
  · rw [← hd]
  · rw [← hd]
  · rw [← hd]
  · rw [hi]
  · rw [hi]

theorem digitsVal_padNat (w n : Nat) : Dec.digitsVal (padNat w n) = n := Dec.digitsVal_padLeft w n

theorem padNat_inj (w a b : Nat) (h : padNat w a = padNat w b) : a = b := by
  rw [← digitsVal_padNat w a, ← digitsVal_padNat w b, h]

theorem padNat_isDigit (w n : Nat) : ∀ c ∈ padNat w n, c.isDigit = true := Dec.padLeft_isDigit w n

theorem padNat2_length (n : Nat) (h : n < 100) : (padNat 2 n).length = 2 := by
  have h1 : (Nat.toDigits 10 n).length ≤ 2 := (Nat.length_toDigits_le_iff (by decide) (by decide)).mpr h
  have h2 : 0 < (Nat.toDigits 10 n).length := Nat.length_toDigits_pos
  unfold padNat Dec.padLeft
  rw [List.length_append, List.length_replicate]; omega

theorem toDigits_inj (a b : Nat) (h : Nat.toDigits 10 a = Nat.toDigits 10 b) : a = b := by
  rw [← Nat.ofDigitChars_ten_toDigits (n := a), ← Nat.ofDigitChars_ten_toDigits (n := b), h]

theorem minus_not_digit (l : List Char) (h : ∀ c ∈ l, c.isDigit = true) (r : List Char) : l ≠ '-' :: r := by
  intro e
  have := h '-' (by rw [e]; exact List.mem_cons_self)
  exact absurd this (by decide)

theorem yearText_inj (y y' : Int) (h : yearText y = yearText y') : y = y' := by
  unfold yearText at h
  split at h <;> split at h
  · have := padNat_inj 4 _ _ (List.cons.inj h).2; omega
  · exact absurd h.symm (minus_not_digit _ (padNat_isDigit 4 _) _)
  · exact absurd h (minus_not_digit _ (padNat_isDigit 4 _) _)
  · have := padNat_inj 4 _ _ h; omega

theorem intText_inj (y y' : Int) (h : intText y = intText y') : y = y' := by
  have hd : ∀ n, ∀ c ∈ Nat.toDigits 10 n, c.isDigit = true :=
    fun n c hc => Nat.isDigit_of_mem_toDigits (by decide) (by decide) hc
  unfold intText at h
  split at h <;> split at h
  · have := toDigits_inj _ _ (List.cons.inj h).2; omega
  · exact absurd h.symm (minus_not_digit _ (hd _) _)
  · exact absurd h (minus_not_digit _ (hd _) _)
  · have := toDigits_inj _ _ h; omega

theorem intText_digit_length (wd : Int) (h : 0 ≤ wd ∧ wd ≤ 9) : (intText wd).length = 1 := by
  unfold intText
  have : ¬ wd < 0 := by omega
  simp only [this, if_false]
  have h1 : (Nat.toDigits 10 wd.toNat).length ≤ 1 :=
    (Nat.length_toDigits_le_iff (by decide) (by decide)).mpr (by omega)
  have h2 : 0 < (Nat.toDigits 10 wd.toNat).length := Nat.length_toDigits_pos
  omega

theorem sep_inj (a a' : List Char) (c : Char) (p p' : List Char) (h : a ++ [c] ++ p = a' ++ [c] ++ p')
    (hl : p.length = p'.length) : a = a' ∧ p = p' := by
  obtain ⟨h1, h2⟩ := List.append_inj' h hl
  exact ⟨(List.append_inj' h1 rfl).1, h2⟩

theorem pcode_of_ptext (g : GroupBy) (z z' : Int) (h : ptext g z = ptext g z') : pcode g z = pcode g z' := by
  have r := civil_range z
  have r' := civil_range z'
  obtain ⟨i1, i2, i3, i4, -⟩ := isoOf_spec z
  obtain ⟨i1', i2', i3', i4', -⟩ := isoOf_spec z'
  cases g <;> simp only [ptext, String.ofList_inj] at h <;> simp only [pcode]
  · rw [yearText_inj _ _ h]
  · obtain ⟨h1, h2⟩ := sep_inj _ _ _ _ _ h (by rw [padNat2_length _ (by omega), padNat2_length _ (by omega)])
    have := padNat_inj 2 _ _ h2
    rw [yearText_inj _ _ h1]; omega
  · unfold dateChars at h
    obtain ⟨h1, h2⟩ := sep_inj _ _ _ _ _ h (by rw [padNat2_length _ (by omega), padNat2_length _ (by omega)])
    obtain ⟨h3, h4⟩ := sep_inj _ _ _ _ _ h1 (by rw [padNat2_length _ (by omega), padNat2_length _ (by omega)])
    have := padNat_inj 2 _ _ h2
    have := padNat_inj 2 _ _ h4
    rw [yearText_inj _ _ h3]; omega
  · have e : ∀ (a p : List Char), a ++ ['-', 'W'] ++ p = (a ++ ['-']) ++ ['W'] ++ p := by intro a p; simp
    rw [e, e] at h
    obtain ⟨h1, h2⟩ := sep_inj _ _ _ _ _ h (by rw [padNat2_length _ (by omega), padNat2_length _ (by omega)])
    have h3 := (List.append_inj' h1 rfl).1
    have := padNat_inj 2 _ _ h2
    rw [intText_inj _ _ h3]; omega
  · have e : ∀ (a p q : List Char), a ++ ['-', 'W'] ++ p ++ ['-'] ++ q = ((a ++ ['-']) ++ ['W'] ++ p) ++ ['-'] ++ q := by
      intro a p q; simp
    rw [e, e] at h
    obtain ⟨h1, h2⟩ := sep_inj _ _ _ _ _ h (by
      rw [intText_digit_length _ (by omega), intText_digit_length _ (by omega)])
    obtain ⟨h3, h4⟩ := sep_inj _ _ _ _ _ h1 (by rw [padNat2_length _ (by omega), padNat2_length _ (by omega)])
    have h5 := (List.append_inj' h3 rfl).1
    have := padNat_inj 2 _ _ h4
    rw [intText_inj _ _ h5, intText_inj _ _ h2]; omega

theorem ptext_of_pcode (g : GroupBy) (z z' : Int) (h : pcode g z = pcode g z') : ptext g z = ptext g z' := by
  have r := civil_range z
  have r' := civil_range z'
  obtain ⟨i1, i2, i3, i4, -⟩ := isoOf_spec z
  obtain ⟨i1', i2', i3', i4', -⟩ := isoOf_spec z'
  cases g <;> simp only [pcode] at h <;> simp only [ptext]
  · rw [h]
  · have h1 : (civilFromDays z).1 = (civilFromDays z').1 := by omega
    have h2 : (civilFromDays z).2.1 = (civilFromDays z').2.1 := by omega
    rw [h1, h2]
  · have h1 : (civilFromDays z).1 = (civilFromDays z').1 := by omega
    have h2 : (civilFromDays z).2.1 = (civilFromDays z').2.1 := by omega
    have h3 : (civilFromDays z).2.2 = (civilFromDays z').2.2 := by omega
    rw [h1, h2, h3]
  · have h1 : (isoOf z).1 = (isoOf z').1 := by omega
    have h2 : (isoOf z).2.1 = (isoOf z').2.1 := by omega
    rw [h1, h2]
  · have h1 : (isoOf z).1 = (isoOf z').1 := by omega
    have h2 : (isoOf z).2.1 = (isoOf z').2.1 := by omega
    have h3 : (isoOf z).2.2 = (isoOf z').2.2 := by omega
    rw [h1, h2, h3]

theorem ptext_eq_iff (g : GroupBy) (z z' : Int) : ptext g z = ptext g z' ↔ pcode g z = pcode g z' :=
  ⟨pcode_of_ptext g z z', ptext_of_pcode g z z'⟩

end Time
end Tackler
