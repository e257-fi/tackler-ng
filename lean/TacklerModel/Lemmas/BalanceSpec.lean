import TacklerModel.Lemmas.TreeNodes
/-! `balance` as a whole.  Inversion of `balance` and `fromIter` (`balance_ok_iff`, `fromIter_ok`), their evaluation on
    concrete input (`balance_of_steps`, `fromIter_of_balance`), the commodity chunks of the rows (`comm_chunks`), and
    `balance_spec`: the rows are a permutation of the completed entry list (account sums + zero gap entries),
    strictly sorted by `keyLt`, each with tree sum = sum of the own sums at or below it. -/
namespace Tackler
namespace C02

open KeyOrder ListSum

/-! ### `balance` and `fromIter` step by step -/

theorem balance_ok_iff (st : Settings) (posts : List BPost) (bal : List BalRow) :
    balance st posts = .ok bal ↔ ∃ sums C all, accountSums posts = some sums ∧ completeTree st sums = .ok C ∧
      flattenOpt ((C.filter (fun s => s.1.2.length == 1)).map (treeNodes C (maxDepth C + 1))) = some all ∧
      all.mergeSort (fun a b => keyLe a.key b.key) = bal := by
  constructor
  · intro h
    unfold balance at h
    split at h
    · cases h
    · rename_i sums hsums
      split at h
      · cases h
      · cases h
      · rename_i C hC
        split at h
        · cases h
        · rename_i all hall
          cases h
          exact ⟨sums, C, all, hsums, hC, hall, rfl⟩
  · rintro ⟨sums, C, all, hsums, hC, hall, rfl⟩
    simp only [balance, hsums, hC, hall]

/-- `balance` on a concrete stream whose postings and resulting rows are written down in key order -/
theorem balance_of_steps {st : Settings} {posts : List BPost} {sums C : List (AKey × Dec)} {bal : List BalRow}
    (hposts : posts.Pairwise (fun a b => keyLe a.key b.key))
    (hsums : sumGroups (chunkBy BPost.key posts) = some sums)
    (hC : completeTree st sums = .ok C)
    (hwalk : flattenOpt ((C.filter (fun s => s.1.2.length == 1)).map (treeNodes C (maxDepth C + 1))) = some bal)
    (hbal : bal.Pairwise (fun a b => keyLe a.key b.key)) : balance st posts = .ok bal :=
  (balance_ok_iff st posts bal).mpr ⟨sums, C, bal,
    by rw [accountSums, List.mergeSort_of_pairwise hposts, hsums], hC, hwalk, List.mergeSort_of_pairwise hbal⟩

theorem balance_nil (st : Settings) : balance st [] = .ok [] := by
  simp [balance, accountSums, chunkBy, sumGroups, completeTree, bubbleAll, Outcome.map, btreeCollect, flattenOpt]

theorem balance_sorted {st : Settings} {posts : List BPost} {bal : List BalRow} (h : balance st posts = .ok bal) :
    bal.Pairwise (fun a b => keyLe a.key b.key = true) := by
  obtain ⟨_, _, all, _, _, _, rfl⟩ := (balance_ok_iff st posts bal).mp h
  exact List.pairwise_mergeSort (le := fun a b : BalRow => keyLe a.key b.key)
    (fun a b c => keyLe_trans a.key b.key c.key) (fun a b => keyLe_total a.key b.key) all

theorem fromIter_ok (st : Settings) (sel : BalRow → Bool) (posts : List BPost) (b : Balance) :
    fromIter st sel posts = .ok b ↔
      ∃ bal ds, balance st posts = .ok bal ∧ deltaGroups (chunkBy (·.comm) (bal.filter sel)) = some ds ∧
        b = ⟨bal.filter sel, ds⟩ := by
  unfold fromIter
  cases hb : balance st posts with
  | err => simp
  | undef => simp
  | ok bal =>
    simp only
    cases hd : deltaGroups (chunkBy (·.comm) (bal.filter sel)) with
    | none =>
      simp only [Outcome.ok.injEq, reduceCtorEq, false_iff]
      rintro ⟨bal', ds', h1, h2, -⟩
      cases h1
      rw [hd] at h2
      cases h2
    | some ds =>
      simp only [Outcome.ok.injEq]
      constructor
      · rintro rfl; exact ⟨bal, ds, rfl, hd, rfl⟩
      · rintro ⟨bal', ds', h1, h2, rfl⟩
        cases h1
        rw [hd] at h2
        cases h2
        rfl

theorem fromIter_of_balance {st : Settings} {posts : List BPost} {bal : List BalRow} (sel : BalRow → Bool)
    (hb : balance st posts = .ok bal) :
    fromIter st sel posts = match deltaGroups (chunkBy (·.comm) (bal.filter sel)) with
      | none => .undef
      | some ds => .ok ⟨bal.filter sel, ds⟩ := by
  simp only [fromIter, hb]
  rfl

/-- the commodity chunks of rows in key order (what the deltas and the equity export are computed from): one
    chunk per commodity that has a row, in increasing commodity order, holding all rows of that commodity -/
theorem comm_chunks (rows : List BalRow) (h : rows.Pairwise (fun a b => keyLe a.key b.key = true)) :
    ((chunkBy (·.comm) rows).map (·.1)).Pairwise (· < ·) ∧
    (∀ c, c ∈ (chunkBy (·.comm) rows).map (·.1) ↔ ∃ r ∈ rows, r.comm = c) ∧
    ∀ cg ∈ chunkBy (·.comm) rows, cg.2 = rows.filter (fun r => decide (r.comm = cg.1)) :=
  ChunkBy.chunkBy_sorted (·.comm) (· < ·) (fun _ _ _ => String.lt_trans) String.lt_irrefl rows
    (h.imp fun hab => comm_of_keyLe hab)

/-! ### the specification of `balance` -/

theorem ctree_of_complete (posts : List BPost) (sums C : List (AKey × Dec))
    (hA : AccSpec posts sums) (hB : CompleteSpec sums C) : CTree C := by
  refine ⟨nodup_of_pairwise_keyLt _ hB.sorted, ?_, ?_, ?_⟩
  · intro x hx
    obtain ⟨s, _, _, h2, _⟩ := (hB.keys x.1).mp (List.mem_map.mpr ⟨x, hx, rfl⟩)
    exact h2
  · intro x hx q hq hpre
    obtain ⟨s, hs, h1, _, h3⟩ := (hB.keys x.1).mp (List.mem_map.mpr ⟨x, hx, rfl⟩)
    exact (hB.keys (x.1.1, q)).mpr ⟨s, hs, h1, hq, hpre.trans h3⟩
  · intro x hx
    rcases hB.mem x hx with h | ⟨h, _⟩
    · exact (hA.sum x h).2
    · rw [h]; simp [Dec.zero]

theorem complete_inplay (posts : List BPost) (sums C : List (AKey × Dec))
    (hA : AccSpec posts sums) (hB : CompleteSpec sums C) (k : AKey) :
    k ∈ C.map (·.1) ↔ InPlay posts k := by
  rw [hB.keys k]
  constructor
  · intro ⟨s, hs, h1, h2, h3⟩
    obtain ⟨p, hp, hpk⟩ := (hA.keys s.1).mp (List.mem_map.mpr ⟨s, hs, rfl⟩)
    have e1 : p.comm = s.1.1 := by rw [← hpk]; rfl
    have e2 : p.acct = s.1.2 := by rw [← hpk]; rfl
    exact ⟨p, hp, by rw [e1]; exact h1, h2, by rw [e2]; exact h3⟩
  · intro ⟨p, hp, h1, h2, h3⟩
    obtain ⟨s, hs, hsk⟩ := List.mem_map.mp ((hA.keys p.key).mpr ⟨p, hp, rfl⟩)
    have e1 : s.1.1 = p.comm := by rw [hsk]; rfl
    have e2 : s.1.2 = p.acct := by rw [hsk]; rfl
    exact ⟨s, hs, by rw [e1]; exact h1, h2, by rw [e2]; exact h3⟩

/-- the rows of `balance` against the completed entry list `C` -/
structure BalSpec (C : List (AKey × Dec)) (bal : List BalRow) : Prop where
  perm : (bal.map kv).Perm C
  sorted : (bal.map (·.key)).Pairwise (fun a b => keyLt a b = true)
  tree : ∀ r ∈ bal, r.tree.units = descSum C r.key

/-- everything `balance` computed on the way, with its specification -/
theorem balance_spec (st : Settings) (posts : List BPost) (hwf : PostsWF posts) (bal : List BalRow)
    (h : balance st posts = .ok bal) :
    ∃ sums C, AccSpec posts sums ∧ CompleteSpec sums C ∧ CTree C ∧ BalSpec C bal := by
  obtain ⟨sums, C, all, hsums, hCt, hall, rfl⟩ := (balance_ok_iff st posts bal).mp h
  have hA := accountSums_spec posts hwf sums hsums
  have hB := completeTree_spec st posts hwf sums C hA hCt
  have hC := ctree_of_complete posts sums C hA hB
  have hCnd : C.Nodup := nodup_of_nodup_map _ hC.nodup
  refine ⟨sums, C, hA, hB, hC, ?_⟩
  obtain ⟨hallnd, hallmem, g, hall', hg⟩ := forest_spec hC (maxDepth C + 1) 1 _ all
    (hCnd.sublist List.filter_sublist)
    (fun c hc => ⟨(List.mem_filter.mp hc).1, by simpa using (List.mem_filter.mp hc).2⟩)
    (fun c hc l hl => treeNodes_spec hC _ c l (List.mem_filter.mp hc).1 hl) hall
  have hpermall : (all.map kv).Perm C := by
    apply (List.perm_ext_iff_of_nodup hallnd hCnd).mpr
    intro x
    rw [hallmem]
    refine ⟨fun hx => hx.1, fun hxC => ⟨hxC, ?_⟩⟩
    have hlen : 1 ≤ x.1.2.length := by
      cases hx : x.1.2 with
      | nil => exact absurd hx (hC.nonempty x hxC)
      | cons _ _ => simp
    obtain ⟨c, hcC, _, _, hcl, hcd⟩ := anc_at hC x hxC 1 (by omega) hlen
    exact ⟨c, List.mem_filter.mpr ⟨hcC, by simp [hcl]⟩, hcd⟩
  have hbperm : (all.mergeSort (fun a b => keyLe a.key b.key)).Perm all := List.mergeSort_perm _ _
  have hperm : ((all.mergeSort (fun a b => keyLe a.key b.key)).map kv).Perm C :=
    (hbperm.map kv).trans hpermall
  refine ⟨hperm, ?_, ?_⟩
  · -- strictly sorted
    have hpw := balance_sorted h
    have hknd : (((all.mergeSort (fun a b => keyLe a.key b.key)).map kv).map (·.1)).Nodup :=
      ((hperm.map (·.1)).nodup_iff).mpr hC.nodup
    rw [List.map_map] at hknd
    have hplay : ∀ r ∈ all.mergeSort (fun a b => keyLe a.key b.key), ∃ y ∈ posts, r.key.2 <+: y.acct := by
      intro r hr
      have : kv r ∈ C := hperm.mem_iff.mp (List.mem_map.mpr ⟨r, hr, rfl⟩)
      obtain ⟨p, hp, _, _, h3⟩ := (complete_inplay posts sums C hA hB r.key).mp
        (List.mem_map.mpr ⟨kv r, this, rfl⟩)
      exact ⟨p, hp, h3⟩
    rw [List.pairwise_map]
    apply List.Pairwise.imp_of_mem _ (hpw.and (List.pairwise_map.mp hknd))
    intro a b ha hb ⟨hle, hab⟩
    exact (eq_or_keyLt_of_keyLe posts hwf a.key b.key (hplay a ha) (hplay b hb) hle).resolve_left hab
  · intro r hr
    have hrall : r ∈ all := hbperm.mem_iff.mp hr
    rw [hall'] at hrall
    obtain ⟨l, hl, hrl⟩ := List.mem_flatten.mp hrall
    obtain ⟨c, hc, rfl⟩ := List.mem_map.mp hl
    exact ((hg c hc).tree r hrl).1

end C02
end Tackler
