import TacklerModel.Model.FilterDef
import TacklerModel.Lemmas.Regex
import TacklerModel.Lemmas.Time
import TacklerModel.Lemmas.Digits
/-!
# Lemmas about `Model/FilterDef.lean`: each layer read back from what is written, and what the readers accept

* base64: `b64decode_encode`, `b64encode_decode` (only canonical encodings are accepted), `b64decode_length`, `b64decode_symbols`
* UTF-8: `utf8decode_encode`
* decimals: `decOfText_toChars`; `decOfText_normal`, `decField_normal` (whatever is read is normal)
* UUIDs: `CanonUuid` (digits that are `LowerHex`), `uuidParse_out`, `uuidParse_canon`, `uuidParse_idem`
* timestamps: `parseTsJson_tsJsonChars`, `parseTsJson_ok` (what is read is inside jiff's range); `atOffset` names the last step of `resolveJ` (`resolveJ_eq`)
* `ite_eq_elim`, `of_ite_eq`: case analysis on a hypothesis `(if c then x else y) = z` as a term
-/
namespace Tackler
namespace FilterDef

theorem ite_eq_elim {α} {c : Prop} [Decidable c] {x y z : α} {P : Prop} (h : (if c then x else y) = z)
    (hx : c → x = z → P) (hy : ¬ c → y = z → P) : P := by
  split at h
  · exact hx ‹_› h
  · exact hy ‹_› h

theorem of_ite_eq {α} {c : Prop} [Decidable c] {x y z : α} {P : Prop} (h : (if c then x else y) = z)
    (hx : x = z → P) (hy : y = z → P) : P :=
  ite_eq_elim h (fun _ => hx) (fun _ => hy)

/-! ## base64 -/

theorem char_le_iff (a b : Char) : a ≤ b ↔ a.toNat ≤ b.toNat := Char.le_def

theorem b64val_chr : ∀ v : Fin 64, b64val (b64chr v.val) = some v.val := by decide

theorem b64val_b64chr (v : Nat) (h : v < 64) : b64val (b64chr v) = some v := b64val_chr ⟨v, h⟩

theorem b64val_pad : b64val '=' = none := by decide

theorem b64chr_ne_pad (v : Nat) (h : v < 64) : b64chr v ≠ '=' := by
  intro e
  have := b64val_b64chr v h
  rw [e, b64val_pad] at this
  cases this

theorem b64chr_of_val (c : Char) (x : Nat) (h : b64val c = some x) : x < 64 ∧ b64chr x = c := by
  have hc : Char.ofNat c.toNat = c := Char.ofNat_toNat c
  unfold b64val at h
  simp only [char_le_iff] at h
  rw [show ('A' : Char).toNat = 65 from rfl, show ('Z' : Char).toNat = 90 from rfl, show ('a' : Char).toNat = 97 from rfl,
    show ('z' : Char).toNat = 122 from rfl, show ('0' : Char).toNat = 48 from rfl, show ('9' : Char).toNat = 57 from rfl] at h
  unfold b64chr
  refine ite_eq_elim h (fun hr h => ?_) fun _ h => ite_eq_elim h (fun hr h => ?_) fun _ h =>
    ite_eq_elim h (fun hr h => ?_) fun _ h => ite_eq_elim h (fun hp h => ?_) fun _ h => ite_eq_elim h (fun hp h => ?_) fun _ h => nomatch h
  · cases h
    refine ⟨by omega, ?_⟩
    rw [if_pos (by omega), show 65 + (c.toNat - 65) = c.toNat by omega, hc]
  · cases h
    refine ⟨by omega, ?_⟩
    rw [if_neg (by omega), if_pos (by omega), show 97 + (c.toNat - 97 + 26 - 26) = c.toNat by omega, hc]
  · cases h
    refine ⟨by omega, ?_⟩
    rw [if_neg (by omega), if_neg (by omega), if_pos (by omega), show 48 + (c.toNat - 48 + 52 - 52) = c.toNat by omega, hc]
  · cases h
    exact ⟨by decide, hp.symm⟩
  · cases h
    exact ⟨by decide, hp.symm⟩

theorem byte_toNat (n : Nat) (h : n < 256) : (byte n).toNat = n := by
  unfold byte
  simp
  omega

theorem byte_of_toNat (x : UInt8) : byte x.toNat = x := by
  unfold byte
  exact UInt8.ofNat_toNat

theorem sextets_lt (x y z : UInt8) : x.toNat / 4 < 64 ∧ x.toNat % 4 * 16 + y.toNat / 16 < 64 ∧
    y.toNat % 16 * 4 + z.toNat / 64 < 64 ∧ z.toNat % 64 < 64 := by
  have hx := x.toNat_lt
  have hy := y.toNat_lt
  have hz := z.toNat_lt
  omega

theorem quad3_enc (x y z : UInt8) :
    quad3 (b64chr (x.toNat / 4)) (b64chr (x.toNat % 4 * 16 + y.toNat / 16)) (b64chr (y.toNat % 16 * 4 + z.toNat / 64))
      (b64chr (z.toNat % 64)) = some [x, y, z] := by
  have hx := x.toNat_lt
  have hy := y.toNat_lt
  have hz := z.toNat_lt
  obtain ⟨s1, s2, s3, s4⟩ := sextets_lt x y z
  unfold quad3
  rw [b64val_b64chr _ s1, b64val_b64chr _ s2, b64val_b64chr _ s3, b64val_b64chr _ s4]
  simp only [Option.some.injEq]
  have e1 : x.toNat / 4 * 4 + (x.toNat % 4 * 16 + y.toNat / 16) / 16 = x.toNat := by omega
  have e2 : (x.toNat % 4 * 16 + y.toNat / 16) % 16 * 16 + (y.toNat % 16 * 4 + z.toNat / 64) / 4 = y.toNat := by omega
  have e3 : (y.toNat % 16 * 4 + z.toNat / 64) % 4 * 64 + z.toNat % 64 = z.toNat := by omega
  rw [e1, e2, e3, byte_of_toNat, byte_of_toNat, byte_of_toNat]

theorem b64encode_ne_nil (x : UInt8) (rest : List UInt8) : ∃ a b c d t, b64encode (x :: rest) = a :: b :: c :: d :: t := by
  cases rest with
  | nil => exact ⟨_, _, _, _, _, rfl⟩
  | cons y rest =>
    cases rest with
    | nil => exact ⟨_, _, _, _, _, rfl⟩
    | cons z rest => exact ⟨_, _, _, _, _, rfl⟩

/-- **decode ∘ encode = id** for every byte string -/
theorem b64decode_encode : ∀ (bs : List UInt8), b64decode (b64encode bs) = some bs
  | [] => rfl
  | [x] => by
    have hx := x.toNat_lt
    simp only [b64encode, b64decode, quadLast, if_true]
    rw [b64val_b64chr _ (by omega), b64val_b64chr _ (by omega)]
    have e0 : x.toNat % 4 * 16 % 16 = 0 := by omega
    have e1 : x.toNat / 4 * 4 + x.toNat % 4 * 16 / 16 = x.toNat := by omega
    simp only [e0, if_true, e1, byte_of_toNat]
  | [x, y] => by
    have hx := x.toNat_lt
    have hy := y.toNat_lt
    obtain ⟨s1, s2, _, _⟩ := sextets_lt x y 0
    simp only [b64encode, b64decode, quadLast, if_true]
    rw [if_neg (b64chr_ne_pad _ (by omega))]
    rw [b64val_b64chr _ s1, b64val_b64chr _ s2, b64val_b64chr _ (by omega)]
    have e0 : y.toNat % 16 * 4 % 4 = 0 := by omega
    have e1 : x.toNat / 4 * 4 + (x.toNat % 4 * 16 + y.toNat / 16) / 16 = x.toNat := by omega
    have e2 : (x.toNat % 4 * 16 + y.toNat / 16) % 16 * 16 + y.toNat % 16 * 4 / 4 = y.toNat := by omega
    simp only [e0, if_true, e1, e2, byte_of_toNat]
  | x :: y :: z :: rest => by
    obtain ⟨_, _, s3, s4⟩ := sextets_lt x y z
    have ih := b64decode_encode rest
    cases rest with
    | nil =>
      simp only [b64encode, List.append_nil, b64decode, quadLast]
      rw [if_neg (b64chr_ne_pad _ s3), if_neg (b64chr_ne_pad _ s4)]
      exact quad3_enc x y z
    | cons w rest =>
      obtain ⟨a, b, c, d, t, ht⟩ := b64encode_ne_nil w rest
      simp only [b64encode] at ih ⊢
      rw [ht] at ih ⊢
      simp only [List.cons_append, List.nil_append, b64decode]
      rw [quad3_enc x y z, ih]
      rfl

theorem quad3_dec (a b c d : Char) (bs : List UInt8) (h : quad3 a b c d = some bs) :
    a ≠ '=' ∧ b ≠ '=' ∧ c ≠ '=' ∧ d ≠ '=' ∧ ∃ x y z, bs = [x, y, z] ∧
      [b64chr (x.toNat / 4), b64chr (x.toNat % 4 * 16 + y.toNat / 16), b64chr (y.toNat % 16 * 4 + z.toNat / 64),
       b64chr (z.toNat % 64)] = [a, b, c, d] := by
  unfold quad3 at h
  split at h
  · rename_i x y z w ha hb hc hd
    cases h
    obtain ⟨hx, rfl⟩ := b64chr_of_val _ _ ha
    obtain ⟨hy, rfl⟩ := b64chr_of_val _ _ hb
    obtain ⟨hz, rfl⟩ := b64chr_of_val _ _ hc
    obtain ⟨hw, rfl⟩ := b64chr_of_val _ _ hd
    refine ⟨b64chr_ne_pad _ hx, b64chr_ne_pad _ hy, b64chr_ne_pad _ hz, b64chr_ne_pad _ hw, _, _, _, rfl, ?_⟩
    rw [byte_toNat _ (by omega), byte_toNat _ (by omega), byte_toNat _ (by omega)]
    have e1 : (x * 4 + y / 16) / 4 = x := by omega
    have e2 : (x * 4 + y / 16) % 4 * 16 + (y % 16 * 16 + z / 4) / 16 = y := by omega
    have e3 : (y % 16 * 16 + z / 4) % 16 * 4 + (z % 4 * 64 + w) / 64 = z := by omega
    have e4 : (z % 4 * 64 + w) % 64 = w := by omega
    rw [e1, e2, e3, e4]
  · cases h

/-- **the decoder accepts canonical encodings only**: whatever decodes is the encoding of what it decodes to -/
theorem b64encode_decode : ∀ (e : List Char) (bs : List UInt8), b64decode e = some bs → b64encode bs = e
  | [], bs, h => by
    simp only [b64decode, Option.some.injEq] at h
    subst h
    rfl
  | [_], _, h => by simp [b64decode] at h
  | [_, _], _, h => by simp [b64decode] at h
  | [_, _, _], _, h => by simp [b64decode] at h
  | [a, b, c, d], bs, h => by
    simp only [b64decode, quadLast] at h
    refine ite_eq_elim h (fun hc h => ite_eq_elim h (fun hd h => ?_) fun _ h => nomatch h) fun _ h =>
      ite_eq_elim h (fun hd h => ?_) fun _ h => ?_
    · -- `xx==`: one byte, the low four bits of the second symbol are zero
      split at h
      · rename_i x y ha hb
        refine ite_eq_elim h (fun hy h => ?_) fun _ h => nomatch h
        cases h
        obtain ⟨hx, rfl⟩ := b64chr_of_val _ _ ha
        obtain ⟨hy', rfl⟩ := b64chr_of_val _ _ hb
        subst hc hd
        simp only [b64encode]
        rw [byte_toNat _ (by omega), show (x * 4 + y / 16) / 4 = x by omega, show (x * 4 + y / 16) % 4 * 16 = y by omega]
      · cases h
    · -- `xxx=`: two bytes, the low two bits of the third symbol are zero
      split at h
      · rename_i x y z ha hb hcc
        refine ite_eq_elim h (fun hz h => ?_) fun _ h => nomatch h
        cases h
        obtain ⟨hx, rfl⟩ := b64chr_of_val _ _ ha
        obtain ⟨hy', rfl⟩ := b64chr_of_val _ _ hb
        obtain ⟨hz', rfl⟩ := b64chr_of_val _ _ hcc
        subst hd
        simp only [b64encode]
        rw [byte_toNat _ (by omega), byte_toNat _ (by omega), show (x * 4 + y / 16) / 4 = x by omega,
          show (x * 4 + y / 16) % 4 * 16 + (y % 16 * 16 + z / 4) / 16 = y by omega,
          show (y % 16 * 16 + z / 4) % 16 * 4 = z by omega]
      · cases h
    · obtain ⟨_, _, _, _, x, y, z, rfl, he⟩ := quad3_dec a b c d bs h
      simp only [b64encode, List.append_nil]
      exact he
  | a :: b :: c :: d :: e :: rest, bs, h => by
    simp only [b64decode] at h
    split at h
    · rename_i q r hq hr
      cases h
      obtain ⟨_, _, _, _, x, y, z, rfl, he⟩ := quad3_dec a b c d q hq
      have ih := b64encode_decode (e :: rest) r hr
      simp only [List.cons_append, List.nil_append, b64encode]
      rw [ih]
      simp only [List.cons.injEq] at he
      obtain ⟨h1, h2, h3, h4, _⟩ := he
      rw [h1, h2, h3, h4]
    · cases h

theorem b64encode_length : ∀ (bs : List UInt8), (b64encode bs).length % 4 = 0
  | [] => rfl
  | [_] => by simp [b64encode]
  | [_, _] => by simp [b64encode]
  | _ :: _ :: _ :: rest => by
    simp only [b64encode, List.length_append, List.length_cons, List.length_nil]
    have := b64encode_length rest
    omega

theorem b64chr_symbol {v : Nat} (h : v < 64) : (b64val (b64chr v)).isSome = true ∨ b64chr v = '=' :=
  .inl (by rw [b64val_b64chr v h]; rfl)

theorem b64encode_symbols : ∀ (bs : List UInt8), ∀ c ∈ b64encode bs, (b64val c).isSome = true ∨ c = '='
  | [] => nofun
  | [x] => by
    have hx := x.toNat_lt
    simp only [b64encode, List.forall_mem_cons]
    exact ⟨b64chr_symbol (by omega), b64chr_symbol (by omega), .inr trivial, .inr trivial, nofun⟩
  | [x, y] => by
    have hy := y.toNat_lt
    obtain ⟨s1, s2, _, _⟩ := sextets_lt x y 0
    simp only [b64encode, List.forall_mem_cons]
    exact ⟨b64chr_symbol s1, b64chr_symbol s2, b64chr_symbol (by omega), .inr trivial, nofun⟩
  | x :: y :: z :: rest => by
    obtain ⟨s1, s2, s3, s4⟩ := sextets_lt x y z
    simp only [b64encode, List.forall_mem_append, List.forall_mem_cons]
    exact ⟨⟨b64chr_symbol s1, b64chr_symbol s2, b64chr_symbol s3, b64chr_symbol s4, nofun⟩, b64encode_symbols rest⟩

theorem b64decode_length (e : List Char) (bs : List UInt8) (h : b64decode e = some bs) : e.length % 4 = 0 := by
  rw [← b64encode_decode e bs h]
  exact b64encode_length bs

theorem b64decode_symbols (e : List Char) (bs : List UInt8) (h : b64decode e = some bs) :
    ∀ c ∈ e, (b64val c).isSome = true ∨ c = '=' := by
  rw [← b64encode_decode e bs h]
  exact b64encode_symbols bs

/-! ## UTF-8 -/

theorem char_range (c : Char) : c.toNat < 55296 ∨ (57343 < c.toNat ∧ c.toNat < 1114112) := by
  have h := c.valid
  unfold UInt32.isValidChar Nat.isValidChar at h
  exact h

theorem isCont_byte (n : Nat) (h : n < 64) : isCont (byte (128 + n)) = true := by
  unfold isCont
  rw [byte_toNat _ (by omega)]
  simp only [Bool.and_eq_true, decide_eq_true_eq]
  omega

theorem utf8decode_step1 (n : Nat) (rest : List UInt8) (cs : List Char) (h : n < 128) (hr : utf8decode rest = some cs) :
    utf8decode (byte n :: rest) = some (Char.ofNat n :: cs) := by
  rw [utf8decode.eq_def]
  simp only [byte_toNat n (by omega), if_pos h, hr]

theorem utf8decode_step2 (a b : Nat) (rest : List UInt8) (cs : List Char) (ha : 2 ≤ a ∧ a < 32) (hb : b < 64)
    (hr : utf8decode rest = some cs) :
    utf8decode (byte (192 + a) :: byte (128 + b) :: rest) = some (Char.ofNat (a * 64 + b) :: cs) := by
  rw [utf8decode.eq_def]
  simp only [byte_toNat (192 + a) (by omega)]
  rw [if_neg (by omega), if_pos (by omega)]
  simp only [isCont_byte b hb, if_true, hr, byte_toNat (128 + b) (by omega), Nat.add_sub_cancel_left]

theorem utf8decode_step3 (a b c : Nat) (rest : List UInt8) (cs : List Char) (ha : a < 16) (hb : b < 64) (hc : c < 64)
    (hlo : 2048 ≤ a * 4096 + b * 64 + c) (hs : ¬ (55296 ≤ a * 4096 + b * 64 + c ∧ a * 4096 + b * 64 + c ≤ 57343))
    (hr : utf8decode rest = some cs) :
    utf8decode (byte (224 + a) :: byte (128 + b) :: byte (128 + c) :: rest) = some (Char.ofNat (a * 4096 + b * 64 + c) :: cs) := by
  rw [utf8decode.eq_def]
  simp only [byte_toNat (224 + a) (by omega)]
  rw [if_neg (by omega), if_neg (by omega), if_pos (by omega)]
  simp only [isCont_byte b hb, isCont_byte c hc, byte_toNat (128 + b) (by omega), byte_toNat (128 + c) (by omega),
    Nat.add_sub_cancel_left, Bool.and_self, Bool.true_and, decide_eq_true hlo, hr]
  have : (decide (55296 ≤ a * 4096 + b * 64 + c) && decide (a * 4096 + b * 64 + c ≤ 57343)) = false := by
    rw [Bool.and_eq_false_iff]
    simp only [decide_eq_false_iff_not]
    omega
  simp only [this, Bool.not_false, if_true]

theorem utf8decode_step4 (a b c d : Nat) (rest : List UInt8) (cs : List Char) (ha : a < 5) (hb : b < 64) (hc : c < 64) (hd : d < 64)
    (hlo : 65536 ≤ a * 262144 + b * 4096 + c * 64 + d) (hhi : a * 262144 + b * 4096 + c * 64 + d ≤ 1114111)
    (hr : utf8decode rest = some cs) :
    utf8decode (byte (240 + a) :: byte (128 + b) :: byte (128 + c) :: byte (128 + d) :: rest) =
      some (Char.ofNat (a * 262144 + b * 4096 + c * 64 + d) :: cs) := by
  rw [utf8decode.eq_def]
  simp only [byte_toNat (240 + a) (by omega)]
  rw [if_neg (by omega), if_neg (by omega), if_neg (by omega), if_pos (by omega)]
  simp only [isCont_byte b hb, isCont_byte c hc, isCont_byte d hd, byte_toNat (128 + b) (by omega), byte_toNat (128 + c) (by omega),
    byte_toNat (128 + d) (by omega), Nat.add_sub_cancel_left, Bool.and_self, decide_eq_true hlo, decide_eq_true hhi, if_true, hr]

theorem sextets3 (n : Nat) : n / 4096 * 4096 + n / 64 % 64 * 64 + n % 64 = n := by omega

theorem sextets4 (n : Nat) : n / 262144 * 262144 + n / 4096 % 64 * 4096 + n / 64 % 64 * 64 + n % 64 = n := by omega

/-- **UTF-8: decode ∘ encode = id** for every text -/
theorem utf8decode_encode : ∀ (cs : List Char), utf8decode (utf8encode cs) = some cs
  | [] => rfl
  | c :: cs => by
    have ih := utf8decode_encode cs
    have hr := char_range c
    have hc : Char.ofNat c.toNat = c := Char.ofNat_toNat c
    simp only [utf8encode, utf8encodeChar]
    generalize c.toNat = n at hr hc ⊢
    -- In each case the 6-bit groups of `n` become variables, tied to `n` by one equation: what is left is linear.
    have h0 : n % 64 < 64 := Nat.mod_lt _ (by decide)
    split
    · next hn =>
      rw [List.cons_append, List.nil_append, utf8decode_step1 _ _ _ hn ih, hc]
    split
    · have d : n / 64 * 64 + n % 64 = n := Nat.div_add_mod' n 64
      generalize n / 64 = a at d ⊢
      generalize n % 64 = b at d h0 ⊢
      simp only [List.cons_append, List.nil_append]
      rw [utf8decode_step2 _ _ _ _ (by omega) h0 ih, d, hc]
    split
    · have d := sextets3 n
      have h1 : n / 64 % 64 < 64 := Nat.mod_lt _ (by decide)
      generalize n / 4096 = a at d ⊢
      generalize n / 64 % 64 = b at d h1 ⊢
      generalize n % 64 = b' at d h0 ⊢
      simp only [List.cons_append, List.nil_append]
      rw [utf8decode_step3 _ _ _ _ _ (by omega) h1 h0 (by omega) (by omega) ih, d, hc]
    · have d := sextets4 n
      have h1 : n / 64 % 64 < 64 := Nat.mod_lt _ (by decide)
      have h2 : n / 4096 % 64 < 64 := Nat.mod_lt _ (by decide)
      generalize n / 262144 = a at d ⊢
      generalize n / 4096 % 64 = b at d h2 ⊢
      generalize n / 64 % 64 = b' at d h1 ⊢
      generalize n % 64 = b'' at d h0 ⊢
      simp only [List.cons_append, List.nil_append]
      rw [utf8decode_step4 _ _ _ _ _ _ (by omega) h2 h1 h0 (by omega) (by omega) ih, d, hc]

/-! ## decimals -/

section Decimals
open Dec

theorem isDig_iff (c : Char) : Time.isDig c = true ↔ 48 ≤ c.toNat ∧ c.toNat ≤ 57 := by
  unfold Time.isDig
  simp only [decide_eq_true_eq, char_le_iff]
  have e1 : ('0' : Char).toNat = 48 := rfl
  have e2 : ('9' : Char).toNat = 57 := rfl
  rw [e1, e2]

theorem scanDec_fp (neg : Bool) (ip : List Char) (hip : digitsVal ip ≤ max96) :
    ∀ (ds fp : List Char), (∀ c ∈ ds, Time.isDig c = true) → fp.length + ds.length ≤ 28 →
      digitsVal (ip ++ (fp ++ ds)) ≤ max96 →
      scanDec neg true true ip fp ds =
        .ok ⟨neg && digitsVal (ip ++ (fp ++ ds)) != 0, digitsVal (ip ++ (fp ++ ds)), (fp ++ ds).length⟩ := by
  intro ds
  induction ds with
  | nil =>
    intro fp _ hlen hv
    simp only [List.append_nil] at hv ⊢
    rw [scanDec, if_neg (by omega), if_neg (by simp only [List.length_nil, Nat.add_zero] at hlen; omega)]
    simp
  | cons c ds ih =>
    intro fp hd hlen hv
    have hpre : digitsVal (ip ++ fp) ≤ max96 := by
      have := digitsVal_le_append (ip ++ fp) (c :: ds)
      rw [List.append_assoc] at this
      omega
    simp only [List.length_cons] at hlen
    rw [scanDec, if_neg (by omega), if_neg (by omega), if_pos (hd c List.mem_cons_self)]
    simp only [if_true]
    have := ih (fp ++ [c]) (fun x hx => hd x (List.mem_cons_of_mem _ hx))
      (by simp only [List.length_append, List.length_cons, List.length_nil]; omega)
      (by simpa [List.append_assoc] using hv)
    simpa [List.append_assoc] using this

theorem scanDec_ip (neg : Bool) (rest : List Char) :
    ∀ (ds ip : List Char) (seen : Bool), (∀ c ∈ ds, Time.isDig c = true) → digitsVal (ip ++ ds) ≤ max96 →
      scanDec neg seen false ip [] (ds ++ rest) = scanDec neg (seen || !ds.isEmpty) false (ip ++ ds) [] rest := by
  intro ds
  induction ds with
  | nil => intro ip seen _ _; simp
  | cons c ds ih =>
    intro ip seen hd hv
    have hpre : digitsVal ip ≤ max96 := Nat.le_trans (digitsVal_le_append ip (c :: ds)) hv
    simp only [List.cons_append]
    rw [scanDec, if_neg (by omega), if_neg (by simp only [List.length_nil, List.append_nil]; omega),
      if_pos (hd c List.mem_cons_self)]
    simp only [Bool.false_eq_true, if_false]
    rw [ih (ip ++ [c]) true (fun x hx => hd x (List.mem_cons_of_mem _ hx)) (by simpa [List.append_assoc] using hv)]
    simp [List.append_assoc]

theorem isDig_ne (c : Char) (h : Time.isDig c = true) : c ≠ '-' ∧ c ≠ '+' ∧ c ≠ '.' ∧ c ≠ '_' := by
  rw [isDig_iff] at h
  refine ⟨?_, ?_, ?_, ?_⟩ <;> (intro e; subst e; revert h; decide)

theorem scanDec_disp (x : Dec) (h : DecNormal x) :
    scanDec x.neg false false [] [] (ipChars x ++ (if x.scale = 0 then [] else '.' :: fpChars x)) = .ok x := by
  obtain ⟨⟨hs, hc⟩, hz⟩ := h
  have hval := digitsVal_ip_fp x
  have hfl := fp_length x
  have hipd : ∀ c ∈ ipChars x, Time.isDig c = true := fun c hc => Time.isDig_of_isDigit c (ip_isDigit x c hc)
  have hfpd : ∀ c ∈ fpChars x, Time.isDig c = true := fun c hc => Time.isDig_of_isDigit c (fp_isDigit x c hc)
  have hipv : digitsVal (ipChars x) ≤ max96 := by
    have := digitsVal_le_append (ipChars x) (fpChars x)
    omega
  have hne : (ipChars x).isEmpty = false := Bool.eq_false_iff.mpr (mt List.isEmpty_iff.mp (ip_ne_nil x))
  rw [scanDec_ip x.neg _ _ [] false hipd (by simpa using hipv)]
  simp only [List.nil_append, hne, Bool.not_false, Bool.or_true]
  have hnz : (x.neg && x.coeff != 0) = x.neg := by
    by_cases h0 : x.coeff = 0
    · simp [h0, hz h0]
    · simp [h0]
  by_cases h0 : x.scale = 0
  · have hfp : fpChars x = [] := List.eq_nil_of_length_eq_zero (by rw [hfl, h0])
    rw [hfp, List.append_nil] at hval
    rw [if_pos h0, scanDec, if_neg (by omega), if_neg (by simp only [List.length_nil, List.append_nil]; omega)]
    simp only [List.append_nil, List.length_nil, if_true]
    rw [hval, hnz, ← h0]
  · rw [if_neg h0, scanDec, if_neg (by omega), if_neg (by simp only [List.length_nil, List.append_nil]; omega),
      if_neg (by decide)]
    simp only [and_self, if_true]
    rw [scanDec_fp x.neg _ hipv _ [] hfpd (by simp only [List.length_nil, hfl]; omega)
      (by simp only [List.nil_append, hval]; omega)]
    simp only [List.nil_append, hval, hfl, hnz]

theorem decFromStr_toChars (x : Dec) (h : DecNormal x) : decFromStr x.toChars = .ok x := by
  have key := scanDec_disp x h
  rw [toChars_eq]
  cases hn : x.neg with
  | true =>
    rw [hn] at key
    simp only [if_true, List.cons_append, List.nil_append, decFromStr]
    exact key
  | false =>
    rw [hn] at key
    simp only [Bool.false_eq_true, if_false, List.nil_append]
    -- the first character is a digit
    obtain ⟨c, t, hx⟩ := List.exists_cons_of_ne_nil (ip_ne_nil x)
    have hc : Time.isDig c = true := Time.isDig_of_isDigit c (ip_isDigit x c (by rw [hx]; exact List.mem_cons_self))
    obtain ⟨h1, h2, _, _⟩ := isDig_ne c hc
    rw [hx] at key ⊢
    simp only [List.cons_append, decFromStr, if_neg h1, if_neg h2]
    exact key

theorem decOfText_toChars (x : Dec) (h : DecNormal x) : decOfText x.toChars = .ok x := by
  unfold decOfText
  rw [decFromStr_toChars x h]

theorem scanDec_normal (neg : Bool) : ∀ (cs : List Char) (seen point : Bool) (ip fp : List Char) (d : Dec),
    scanDec neg seen point ip fp cs = .ok d → DecNormal d := by
  intro cs
  induction cs with
  | nil =>
    intro seen point ip fp d h
    rw [scanDec] at h
    split at h
    · cases h
    · split at h
      · cases h
      · rename_i h2
        split at h
        · cases h
          refine ⟨⟨?_, ?_⟩, ?_⟩
          · show fp.length ≤ 28
            omega
          · show digitsVal (ip ++ fp) ≤ max96
            omega
          · intro h0
            show (neg && digitsVal (ip ++ fp) != 0) = false
            have h0' : digitsVal (ip ++ fp) = 0 := h0
            simp [h0']
        · cases h
  | cons c cs ih =>
    intro seen point ip fp d h
    rw [scanDec] at h
    refine of_ite_eq h (fun h => nomatch h) fun h => of_ite_eq h (fun h => nomatch h) fun h => ?_
    -- a digit, the point, a separator: each goes on with the rest
    refine of_ite_eq h (fun h => of_ite_eq h (ih _ _ _ _ _) (ih _ _ _ _ _)) fun h => ?_
    exact of_ite_eq h (ih _ _ _ _ _) fun h => of_ite_eq h (ih _ _ _ _ _) (fun h => nomatch h)

theorem decFromStr_normal (cs : List Char) (d : Dec) (h : decFromStr cs = .ok d) : DecNormal d := by
  unfold decFromStr at h
  split at h
  · cases h
  · split at h
    · exact scanDec_normal _ _ _ _ _ _ _ h
    · split at h
      · exact scanDec_normal _ _ _ _ _ _ _ h
      · exact scanDec_normal _ _ _ _ _ _ _ h

theorem normalize_go_spec : ∀ (fuel c s : Nat), c ≠ 0 →
    (Dec.normalize.go fuel c s).1 ≠ 0 ∧ (Dec.normalize.go fuel c s).1 ≤ c ∧ (Dec.normalize.go fuel c s).2 ≤ s := by
  intro fuel
  induction fuel with
  | zero => intro c s h; simp [Dec.normalize.go, h]
  | succ n ih =>
    intro c s h
    rw [Dec.normalize.go]
    split
    · rename_i hc
      have hne : c / 10 ≠ 0 := by omega
      obtain ⟨h1, h2, h3⟩ := ih (c / 10) (s - 1) hne
      exact ⟨h1, by omega, by omega⟩
    · exact ⟨h, Nat.le_refl _, Nat.le_refl _⟩

theorem normalize_normal (r : Dec) (h : r.WF) : DecNormal r.normalize := by
  unfold Dec.normalize
  split
  · exact ⟨⟨by decide, by decide⟩, fun _ => rfl⟩
  · rename_i h0
    obtain ⟨h1, h2, h3⟩ := normalize_go_spec r.scale r.coeff r.scale h0
    obtain ⟨hs, hc⟩ := h
    refine ⟨⟨?_, ?_⟩, ?_⟩
    · show (Dec.normalize.go r.scale r.coeff r.scale).2 ≤ 28
      omega
    · show (Dec.normalize.go r.scale r.coeff r.scale).1 ≤ max96
      omega
    · intro hz
      exact absurd hz h1

theorem mul_wf (a b r : Dec) (h : Dec.mul a b = some r) : r.WF := by
  unfold Dec.mul at h
  split at h
  · cases h; exact ⟨by decide, by decide⟩
  · split at h
    · rename_i hg
      cases h
      exact ⟨hg.1, hg.2⟩
    · cases h

theorem applyExp_normal (ret : Dec) (ex : List Char) (d : Dec) (hr : DecNormal ret) (h : applyExp ret ex = .ok d) :
    DecNormal d := by
  obtain ⟨⟨hs, hc⟩, hz⟩ := hr
  unfold applyExp at h
  split at h
  · split at h
    · cases h
    · split at h
      · cases h
      · split at h
        · cases h
        · cases h
          exact ⟨⟨by show ret.scale + _ ≤ 28; omega, hc⟩, hz⟩
  · split at h
    · cases h
    · split at h
      · cases h
        exact ⟨⟨by show ret.scale - _ ≤ 28; omega, hc⟩, hz⟩
      · split at h
        · cases h
        · split at h
          · rename_i r hm
            cases h
            exact normalize_normal r (mul_wf _ _ _ hm)
          · exact absurd h (Outcome.inexact_ne_ok _ _)

theorem decFromSci_normal (cs : List Char) (d : Dec) (h : decFromSci cs = .ok d) : DecNormal d := by
  unfold decFromSci at h
  split at h
  · cases h
  · rename_i base ex _
    obtain ⟨ret, hret, hd⟩ := (Outcome.bind_ok _ _ _).mp h
    exact applyExp_normal ret ex d (decFromStr_normal _ _ hret) hd

theorem decOfText_normal (cs : List Char) (d : Dec) (h : decOfText cs = .ok d) : DecNormal d := by
  unfold decOfText at h
  split at h
  · rename_i d' hd
    cases h
    exact decFromStr_normal _ _ hd
  · exact decFromSci_normal _ _ h
  · cases h

theorem decField_normal (v : JVal) (d : Dec) (h : decField v = .ok d) : DecNormal d := by
  unfold decField at h
  split at h
  · exact decOfText_normal _ _ h
  · exact decOfText_normal _ _ h
  · split at h
    · exact decOfText_normal _ _ h
    · cases h
  · cases h

end Decimals

/-! ## UUIDs -/

/-- canonical hexadecimal digit: lower case, ASCII -/
def LowerHex (c : Char) : Prop := hexLower c = some c ∧ c.toNat < 128

theorem hexLower_out (c x : Char) (h : hexLower c = some x) : LowerHex x := by
  unfold hexLower at h
  refine ite_eq_elim h (fun hr h => ?_) fun _ h => ite_eq_elim h (fun hr h => ?_) fun _ h => nomatch h
  · cases h
    refine ⟨by unfold hexLower; rw [if_pos hr], ?_⟩
    simp only [char_le_iff, show ('9' : Char).toNat = 57 from rfl, show ('f' : Char).toNat = 102 from rfl] at hr
    omega
  · cases h
    have hc : Char.ofNat c.toNat = c := Char.ofNat_toNat c
    simp only [char_le_iff, show ('A' : Char).toNat = 65 from rfl, show ('F' : Char).toNat = 70 from rfl] at hr
    have : c.toNat = 65 ∨ c.toNat = 66 ∨ c.toNat = 67 ∨ c.toNat = 68 ∨ c.toNat = 69 ∨ c.toNat = 70 := by omega
    rcases this with e | e | e | e | e | e <;> (rw [e] at hc ⊢; subst hc; unfold LowerHex; decide)

theorem hexN_out : ∀ (n : Nat) (cs a r : List Char), hexN n cs = some (a, r) →
    a.length = n ∧ (∀ c ∈ a, LowerHex c) ∧ cs = cs.take n ++ r ∧ n ≤ cs.length := by
  intro n
  induction n with
  | zero =>
    intro cs a r h
    simp only [hexN, Option.some.injEq, Prod.mk.injEq] at h
    obtain ⟨rfl, rfl⟩ := h
    simp
  | succ n ih =>
    intro cs a r h
    cases cs with
    | nil => simp [hexN] at h
    | cons c cs =>
      simp only [hexN] at h
      split at h
      · rename_i x xs rest hx hxs
        cases h
        obtain ⟨h1, h2, h3, h4⟩ := ih cs xs r hxs
        refine ⟨by simp [h1], ?_, ?_, by simp; omega⟩
        · intro y hy
          rcases List.mem_cons.mp hy with rfl | hy
          · exact hexLower_out c _ hx
          · exact h2 y hy
        · simp only [List.take_succ_cons, List.cons_append]
          rw [← h3]
      · cases h

theorem hexN_fix {n : Nat} : ∀ (a rest : List Char), a.length = n → (∀ c ∈ a, LowerHex c) →
    hexN n (a ++ rest) = some (a, rest) := by
  intro a
  induction a generalizing n with
  | nil => intro rest hn _; subst hn; rfl
  | cons c a ih =>
    intro rest hn h
    subst hn
    simp only [List.length_cons, List.cons_append, hexN]
    rw [(h c List.mem_cons_self).1, ih rest rfl (fun x hx => h x (List.mem_cons_of_mem _ hx))]

/-- the canonical text of a UUID: 8-4-4-4-12 lower-case hexadecimal digits -/
def CanonUuid (u : List Char) : Prop :=
  ∃ a b c d e : List Char, u = a ++ '-' :: (b ++ '-' :: (c ++ '-' :: (d ++ '-' :: e))) ∧
    a.length = 8 ∧ b.length = 4 ∧ c.length = 4 ∧ d.length = 4 ∧ e.length = 12 ∧
    (∀ x ∈ a, LowerHex x) ∧ (∀ x ∈ b, LowerHex x) ∧ (∀ x ∈ c, LowerHex x) ∧ (∀ x ∈ d, LowerHex x) ∧ (∀ x ∈ e, LowerHex x)

theorem uuidHyph_out (cs u : List Char) (h : uuidHyph cs = some u) : CanonUuid u := by
  unfold uuidHyph at h
  split at h
  · cases h
  · rename_i a r1 h1
    split at h
    · cases h
    · split at h
      · cases h
      · rename_i b r3 h3
        split at h
        · cases h
        · split at h
          · cases h
          · rename_i c r5 h5
            split at h
            · cases h
            · split at h
              · cases h
              · rename_i d r7 h7
                split at h
                · cases h
                · split at h
                  · cases h
                  · rename_i e r9 h9
                    split at h
                    · cases h
                      obtain ⟨la, ha, _, _⟩ := hexN_out _ _ _ _ h1
                      obtain ⟨lb, hb, _, _⟩ := hexN_out _ _ _ _ h3
                      obtain ⟨lc, hc, _, _⟩ := hexN_out _ _ _ _ h5
                      obtain ⟨ld, hd, _, _⟩ := hexN_out _ _ _ _ h7
                      obtain ⟨le, he, _, _⟩ := hexN_out _ _ _ _ h9
                      exact ⟨a, b, c, d, e, rfl, la, lb, lc, ld, le, ha, hb, hc, hd, he⟩
                    · cases h

theorem uuidHyph_canon (u : List Char) (h : CanonUuid u) : uuidHyph u = some u := by
  obtain ⟨a, b, c, d, e, rfl, la, lb, lc, ld, le, ha, hb, hc, hd, he⟩ := h
  have h9 := hexN_fix e [] le he
  rw [List.append_nil] at h9
  simp only [uuidHyph, hexN_fix a _ la ha, hexN_fix b _ lb hb, hexN_fix c _ lc hc, hexN_fix d _ ld hd, h9, dash, if_true,
    List.isEmpty_nil]

theorem lowerHex_take {l : List Char} (h : ∀ x ∈ l, LowerHex x) (n : Nat) : ∀ x ∈ l.take n, LowerHex x :=
  fun x hx => h x (List.mem_of_mem_take hx)

theorem lowerHex_drop {l : List Char} (h : ∀ x ∈ l, LowerHex x) (n : Nat) : ∀ x ∈ l.drop n, LowerHex x :=
  fun x hx => h x (List.mem_of_mem_drop hx)

theorem uuidSimple_out (cs u : List Char) (h : uuidSimple cs = some u) : CanonUuid u := by
  unfold uuidSimple at h
  split at h
  · cases h
  · rename_i x r hx
    split at h
    · cases h
      obtain ⟨lx, hh, _, _⟩ := hexN_out _ _ _ _ hx
      refine ⟨_, _, _, _, _, rfl, ?_, ?_, ?_, ?_, ?_, lowerHex_take hh _, lowerHex_take (lowerHex_drop hh _) _,
        lowerHex_take (lowerHex_drop hh _) _, lowerHex_take (lowerHex_drop hh _) _, lowerHex_drop hh _⟩ <;>
        simp [List.length_take, List.length_drop, lx]
    · cases h

theorem canon_length (u : List Char) (h : CanonUuid u) : u.length = 36 ∧ u.all (fun c => decide (c.toNat < 128)) = true := by
  obtain ⟨a, b, c, d, e, rfl, la, lb, lc, ld, le, ha, hb, hc, hd, he⟩ := h
  refine ⟨by simp [la, lb, lc, ld, le], ?_⟩
  have ascii {l : List Char} (h : ∀ x ∈ l, LowerHex x) : l.all (fun c => decide (c.toNat < 128)) = true :=
    List.all_eq_true.mpr fun x hx => decide_eq_true (h x hx).2
  simp only [List.all_append, List.all_cons, ascii ha, ascii hb, ascii hc, ascii hd, ascii he]
  decide

theorem uuidParse_out (cs u : List Char) (h : uuidParse cs = some u) : CanonUuid u := by
  unfold uuidParse at h
  refine of_ite_eq h (fun h => ?_) (fun h => nomatch h)
  refine of_ite_eq h (uuidSimple_out _ _) fun h => of_ite_eq h (uuidHyph_out _ _) fun h => ?_
  refine of_ite_eq h (fun h => of_ite_eq h (uuidHyph_out _ _) (fun h => nomatch h)) fun h => ?_
  refine of_ite_eq h (fun h => ?_) (fun h => nomatch h)
  split at h
  · exact uuidHyph_out _ _ h
  · cases h

theorem uuidParse_canon (u : List Char) (h : CanonUuid u) : uuidParse u = some u := by
  obtain ⟨hl, ha⟩ := canon_length u h
  unfold uuidParse
  rw [if_pos ha, if_neg (by omega), if_pos hl]
  exact uuidHyph_canon u h

/-- the canonical text reads back as itself -/
theorem uuidParse_idem (cs u : List Char) (h : uuidParse cs = some u) : uuidParse u = some u :=
  uuidParse_canon u (uuidParse_out cs u h)

/-! ## timestamps -/

section Timestamps
open Time Dec

theorem year_bounds (y : Int) (m d : Nat) (hm : 1 ≤ m ∧ m ≤ 12) (hd : d ≤ 31)
    (hlo : -4371586 ≤ daysFromCivil y m d) (hhi : daysFromCivil y m d ≤ 2932895) : -9999 ≤ y ∧ y ≤ 9999 := by
  rw [daysFromCivil_eq] at hlo hhi
  generalize hb : (153 * (if m > 2 then (m : Int) - 3 else (m : Int) + 9) + 2) / 5 = b at hlo hhi
  -- at most 337 days lie before a month of the March-based year, 275 before a month of the same civil year
  have hb' : 0 ≤ b ∧ b ≤ 337 ∧ (m > 2 → b ≤ 275) := by split at hb <;> omega
  unfold marchDays at hlo hhi
  split at hlo <;> omega

/-- the decimal digit character of `k % 10` -/
def dch (k : Nat) : Char := Char.ofNat (48 + k % 10)

theorem dch_cases (k : Nat) (P : Char → Prop) (h : ∀ r : Fin 10, P (Char.ofNat (48 + r.val))) : P (dch k) :=
  h ⟨k % 10, Nat.mod_lt _ (by decide)⟩

theorem isDig_dch (k : Nat) : isDig (dch k) = true := dch_cases k (fun c => isDig c = true) (by decide)

theorem digitVal_dch (k : Nat) : digitVal (dch k) = k % 10 := by
  have : ∀ r : Fin 10, digitVal (Char.ofNat (48 + r.val)) = r.val := by decide
  exact this ⟨k % 10, Nat.mod_lt _ (by decide)⟩

theorem dch_ne (k : Nat) : dch k ≠ '-' ∧ dch k ≠ '+' ∧ dch k ≠ '.' ∧ dch k ≠ 'T' ∧ dch k ≠ 'Z' :=
  dch_cases k (fun c => c ≠ '-' ∧ c ≠ '+' ∧ c ≠ '.' ∧ c ≠ 'T' ∧ c ≠ 'Z') (by decide)

theorem dch_zero (k : Nat) (h : k % 10 = 0) : dch k = '0' := by unfold dch; rw [h]

theorem digitsW_two (n : Nat) : digitsW 2 n = [dch (n / 10), dch n] := rfl
theorem digitsW_four (n : Nat) : digitsW 4 n = [dch (n / 10 / 10 / 10), dch (n / 10 / 10), dch (n / 10), dch n] := rfl
theorem digitsW_six (n : Nat) : digitsW 6 n =
    [dch (n / 10 / 10 / 10 / 10 / 10), dch (n / 10 / 10 / 10 / 10), dch (n / 10 / 10 / 10), dch (n / 10 / 10), dch (n / 10), dch n] := rfl

theorem digitsW_eq : ∀ (k n : Nat), digitsW k n = digitsOf k n
  | 0, _ => rfl
  | k + 1, n => by simp only [digitsW, digitsOf, digitChar, digitsW_eq k]

theorem lexDate_text (y m d : Nat) (rest : List Char) (hy : y < 10000) (hm : m < 100) (hd : d < 100) :
    lexDate (digitsW 4 y ++ '-' :: (digitsW 2 m ++ '-' :: (digitsW 2 d ++ rest))) = some (y, m, d, rest) := by
  simp only [digitsW_four, digitsW_two, List.cons_append, List.nil_append, lexDate, isDig_dch, Bool.and_true,
    beq_self_eq_true, if_true, num2, digitsVal, List.foldl_cons, List.foldl_nil, digitVal_dch, Option.some.injEq, Prod.mk.injEq,
    and_true]
  refine ⟨by omega, by omega, by omega⟩

theorem lexClock_text (h mi s : Nat) (rest : List Char) (hh : h < 100) (hmi : mi < 100) (hs : s < 100) :
    lexClock (digitsW 2 h ++ ':' :: (digitsW 2 mi ++ ':' :: (digitsW 2 s ++ rest))) = some (h, mi, s, rest) := by
  simp only [digitsW_two, List.cons_append, List.nil_append, lexClock, isDig_dch, Bool.and_true,
    beq_self_eq_true, if_true, num2, digitVal_dch, Option.some.injEq, Prod.mk.injEq, and_true]
  refine ⟨by omega, by omega, by omega⟩

theorem trimZeros_decomp (l : List Char) :
    l = trimZeros l ++ List.replicate (l.length - (trimZeros l).length) '0' := by
  have hz : ∀ c ∈ l.reverse.takeWhile (· == '0'), c = '0' := fun c hc => by
    simpa using List.all_eq_true.mp List.all_takeWhile c hc
  have e : l = trimZeros l ++ (l.reverse.takeWhile (· == '0')).reverse := by
    rw [trimZeros, ← List.reverse_append, List.takeWhile_append_dropWhile, List.reverse_reverse]
  have hk := congrArg List.length e
  rw [List.length_append, List.length_reverse] at hk
  rw [show l.length - (trimZeros l).length = (l.reverse.takeWhile (· == '0')).length by omega,
    ← List.reverse_replicate, ← List.eq_replicate_of_mem hz]
  exact e

theorem trimZeros_sub (l : List Char) : ∀ c ∈ trimZeros l, c ∈ l := fun _ hc =>
  List.mem_reverse.mp ((List.dropWhile_sublist _).subset (List.mem_reverse.mp hc))

theorem trimZeros_length (l : List Char) : (trimZeros l).length ≤ l.length := by
  rw [trimZeros, List.length_reverse, ← List.length_reverse (as := l)]
  exact (List.dropWhile_sublist _).length_le

theorem length_digitsW (k n : Nat) : (digitsW k n).length = k := by
  rw [digitsW_eq]
  exact length_digitsOf k n

theorem isDig_digitsW (k n : Nat) : ∀ c ∈ digitsW k n, isDig c = true := by
  induction k generalizing n with
  | zero => intro c hc; simp [digitsW] at hc
  | succ k ih =>
    intro c hc
    simp only [digitsW, List.mem_append, List.mem_singleton] at hc
    rcases hc with hc | rfl
    · exact ih _ c hc
    · exact isDig_dch n

theorem fracNs_trim (sub : Nat) (h : sub < 1000000000) : fracNs (trimZeros (digitsW 9 sub)) = sub := by
  have hd := trimZeros_decomp (digitsW 9 sub)
  have hv : digitsVal (digitsW 9 sub) = sub := by
    rw [digitsW_eq, digitsVal_digitsOf]; omega
  rw [length_digitsW] at hd
  unfold fracNs
  rw [hd, digitsVal_append_zeros] at hv
  exact hv

theorem trim_ne_nil (sub : Nat) (h : sub < 1000000000) (h0 : sub ≠ 0) : trimZeros (digitsW 9 sub) ≠ [] := by
  intro e
  have := fracNs_trim sub h
  rw [e] at this
  simp [fracNs, digitsVal] at this
  omega

theorem lexFrac_text (sub : Nat) (h : sub < 1000000000) :
    lexFrac (fracJ sub ++ ['Z']) = some (if sub = 0 then none else some (trimZeros (digitsW 9 sub)), ['Z']) := by
  unfold fracJ
  by_cases h0 : sub = 0
  · simp only [h0, if_true, List.nil_append]
    rfl
  · simp only [h0, if_false, List.cons_append]
    have hdig : ∀ c ∈ trimZeros (digitsW 9 sub), isDig c = true :=
      fun c hc => isDig_digitsW 9 sub c (trimZeros_sub _ c hc)
    have hlen := trimZeros_length (digitsW 9 sub)
    rw [length_digitsW] at hlen
    have hne := trim_ne_nil sub h h0
    have htw : List.takeWhile isDig (trimZeros (digitsW 9 sub) ++ ['Z']) = trimZeros (digitsW 9 sub) := by
      rw [List.takeWhile_append_of_pos hdig]
      simp [List.takeWhile, show isDig 'Z' = false by decide]
    simp only [lexFrac, beq_self_eq_true, if_true, htw, List.take_of_length_le hlen, List.isEmpty_iff, hne, if_false,
      List.drop_left']

theorem lexTs_text (y m d h mi s sub : Nat) (hy : y < 10000) (hm : m < 100) (hd : d < 100) (hh : h < 100) (hmi : mi < 100)
    (hs : s < 100) (hsub : sub < 1000000000) :
    lexTs (digitsW 4 y ++ '-' :: (digitsW 2 m ++ '-' :: (digitsW 2 d ++ 'T' :: (digitsW 2 h ++ ':' :: (digitsW 2 mi ++ ':' ::
      (digitsW 2 s ++ (fracJ sub ++ ['Z']))))))) =
      some ⟨y, m, d, some (h, mi, s, if sub = 0 then none else some (trimZeros (digitsW 9 sub))), some none⟩ := by
  unfold lexTs
  rw [lexDate_text y m d _ hy hm hd]
  simp only [bne_self_eq_false, Bool.false_eq_true, if_false]
  rw [lexClock_text h mi s _ hh hmi hs]
  simp only
  rw [lexFrac_text sub hsub]
  simp only
  rfl

theorem daysInMonth_le (y : Int) (m : Nat) : daysInMonth y m ≤ 31 := by
  unfold daysInMonth
  split <;> try omega
  split <;> omega

/-- the last step of `resolveJ`: the civil time `loc` read at offset `z`, if that is an instant inside jiff's range -/
def atOffset (loc : Int) : Option (Bool × Nat × Nat) → Outcome Int
  | none => if instantOk loc then .ok loc else .err
  | some (neg, hh, mm) =>
    if hh > 25 ∨ mm > 59 then .err
    else if instantOk (loc - (if neg then -1 else 1) * ((hh * 3600 + mm * 60 : Nat) : Int) * 1000000000)
    then .ok (loc - (if neg then -1 else 1) * ((hh * 3600 + mm * 60 : Nat) : Int) * 1000000000)
    else .err

/-- `resolveJ` with its last step named, so that the civil time is written once -/
theorem resolveJ_eq (negYear : Bool) (t : TsToken) : resolveJ negYear t =
    if negYear = true ∧ t.year = 0 then .undef else
    match t.time with
    | none => .err
    | some (h, mi, s, frac) =>
      match t.zone with
      | none => .err
      | some z =>
        if !(decide (1 ≤ t.month ∧ t.month ≤ 12) &&
             decide (1 ≤ t.day ∧ t.day ≤ daysInMonth (if negYear then -(t.year : Int) else t.year) t.month)) then .err
        else if h > 23 ∨ mi > 59 ∨ s > 60 then .err
        else if s = 60 then .undef
        else atOffset (civilNsI (if negYear then -(t.year : Int) else t.year) t.month t.day h mi s
              (match frac with | some ds => fracNs ds | none => 0)) z :=
  rfl

theorem atOffset_ok (loc : Int) (z : Option (Bool × Nat × Nat)) (ns : Int) (h : atOffset loc z = .ok ns) : instantOk ns = true := by
  have ok (x : Int) (h : (if instantOk x = true then Outcome.ok x else .err) = .ok ns) : instantOk ns = true := by
    split at h
    · cases h; assumption
    · cases h
  match z with
  | none => exact ok _ h
  | some (neg, hh, mm) =>
    unfold atOffset at h
    exact of_ite_eq h (fun h => nomatch h) (ok _)

theorem resolveJ_ok (b : Bool) (t : TsToken) (ns : Int) (h : resolveJ b t = .ok ns) : instantOk ns = true := by
  rw [resolveJ_eq] at h
  -- with the year named no conditional is left inside a condition, and `split` goes from the outside in
  generalize (if b = true then -(t.year : Int) else (t.year : Int)) = y at h
  split at h
  · cases h
  split at h
  · cases h
  split at h
  · cases h
  split at h
  · cases h
  split at h
  · cases h
  split at h
  · cases h
  exact atOffset_ok _ _ _ h

theorem parseTsJson_ok (cs : List Char) (ns : Int) (h : parseTsJson cs = .ok ns) : instantOk ns = true := by
  have lexed {b : Bool} {cs : List Char}
      (h : (match lexTs cs with | some t => resolveJ b t | none => .undef) = .ok ns) : instantOk ns = true := by
    split at h
    · exact resolveJ_ok _ _ _ h
    · cases h
  unfold parseTsJson at h
  split at h
  · exact lexed h
  · split at h
    · exact lexed h
    · exact lexed h

/-- jiff prints a negative year as `-00YYYY` -/
theorem yearJ_eq (y : Int) (h : y.natAbs < 10000) :
    yearJ y = (if y < 0 then ['-', '0', '0'] else []) ++ digitsW 4 y.natAbs := by
  unfold yearJ
  split
  · rw [digitsW_six, digitsW_four, dch_zero _ (by omega), dch_zero _ (by omega)]
    rfl
  · rw [show y.toNat = y.natAbs by omega]
    rfl

/-- the sign of the year is the prefix `-00`; a text that starts with a digit has neither that prefix nor `+00` -/
theorem parseTsJson_year (neg : Prop) [Decidable neg] (y : Nat) (rest : List Char) :
    parseTsJson ((if neg then ['-', '0', '0'] else []) ++ (digitsW 4 y ++ rest)) =
      match lexTs (digitsW 4 y ++ rest) with
      | some t => resolveJ (decide neg) t
      | none => .undef := by
  have hfirst := dch_ne (y / 10 / 10 / 10)
  unfold parseTsJson
  by_cases hn : neg
  · simp only [hn, if_true, decide_true, List.cons_append, List.nil_append, Regex.stripPrefix, List.isPrefixOf, beq_self_eq_true,
      Bool.and_self, List.drop_succ_cons, List.drop_zero, List.length_cons, List.length_nil]
    rfl
  · have e1 : ('-' == dch (y / 10 / 10 / 10)) = false := beq_eq_false_iff_ne.mpr (Ne.symm hfirst.1)
    have e2 : ('+' == dch (y / 10 / 10 / 10)) = false := beq_eq_false_iff_ne.mpr (Ne.symm hfirst.2.1)
    simp only [hn, if_false, decide_false, List.nil_append, digitsW_four, List.cons_append, Regex.stripPrefix, List.isPrefixOf,
      e1, e2, Bool.false_and, Bool.false_eq_true]
    rfl

/-- **the serialised text of an instant reads back as that instant** -/
theorem parseTsJson_tsJsonChars (ns : Int) (hok : instantOk ns = true) : parseTsJson (tsJsonChars ns) = .ok ns := by
  unfold tsJsonChars
  rcases hc : civilAt ns 0 with ⟨y, m, d, h, mi, s, sub⟩
  obtain ⟨hm1, hm2, hd1, hd2, hh, hmi, hs, hsub, hns⟩ := civilNs_civilAt ns 0 y m d h mi s sub hc
  have hd31 : d ≤ 31 := Nat.le_trans hd2 (daysInMonth_le y m)
  have hok' : -377705023201 * 1000000000 ≤ ns ∧ ns ≤ 253402207200 * 1000000000 + 999999999 := by
    unfold instantOk at hok
    simpa using hok
  have hdays : -4371586 ≤ daysFromCivil y m d ∧ daysFromCivil y m d ≤ 2932895 := by omega
  obtain ⟨hy1, hy2⟩ := year_bounds y m d ⟨hm1, hm2⟩ hd31 hdays.1 hdays.2
  have hY : (if decide (y < 0) = true then -((y.natAbs : Nat) : Int) else y.natAbs) = y := by
    split <;> rename_i c <;> simp only [decide_eq_true_eq] at c <;> omega
  simp only [List.append_assoc, List.cons_append, List.nil_append]
  rw [yearJ_eq y (by omega), List.append_assoc, parseTsJson_year,
    lexTs_text y.natAbs m d h mi s sub (by omega) (by omega) (by omega) (by omega) (by omega) (by omega) hsub]
  simp only
  rw [resolveJ_eq]
  simp only [hY, hm1, hm2, hd1, hd2, and_self, decide_true, Bool.and_self, Bool.not_true, Bool.false_eq_true, if_false]
  rw [if_neg (by simp only [decide_eq_true_eq]; omega), if_neg (by omega), if_neg (by omega)]
  have hfrac : (match (if sub = 0 then none else some (trimZeros (digitsW 9 sub))) with
      | some ds => fracNs ds | none => 0) = sub := by
    by_cases h0 : sub = 0
    · simp only [h0, if_true]
    · simp only [h0, if_false]
      exact fracNs_trim sub hsub
  have hcivil : civilNsI y m d h mi s sub = ns := by
    unfold civilNsI
    omega
  rw [hfrac, hcivil, atOffset, if_pos hok]

end Timestamps

end FilterDef
end Tackler
