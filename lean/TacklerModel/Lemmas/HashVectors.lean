import TacklerModel.Model.Hash
/-!
# Known-answer tests of `Model/Hash`

The one-block examples of FIPS 180-4 and FIPS 202 (`"abc"`, the empty message) and the vector of the repository's
unit tests (`checksum_repo_vector`) are evaluated by the kernel (`decide +kernel`: no compiler trust, no extra axiom).
A string literal is `String.ofList` of its characters, so `rw [String.toList_ofList]` hands the kernel the characters
of the expected hex text; it would be slow to decode them.  The multi-block examples are checked with `#guard` at
build time; random comparisons with `sha2`/`sha3` and `hashlib` are made by the correspondence check (op `hash`).
-/
namespace Tackler
namespace Hash

def abc : Bytes := [0x61, 0x62, 0x63]

theorem sha256_abc : hexChars (sha256 abc) =
    "ba7816bf8f01cfea414140de5dae2223b00361a396177a9cb410ff61f20015ad".toList := by
  rw [String.toList_ofList]
  decide +kernel

theorem sha256_empty : hexChars (sha256 []) =
    "e3b0c44298fc1c149afbf4c8996fb92427ae41e4649b934ca495991b7852b855".toList := by
  rw [String.toList_ofList]
  decide +kernel

theorem sha512_abc : hexChars (sha512 abc) =
    "ddaf35a193617abacc417349ae20413112e6fa4e89a97ea20a9eeee64b55d39a2192992a274fc1a836ba3c23a3feebbd454d4423643ce80e2a9ac94fa54ca49f".toList := by
  rw [String.toList_ofList]
  decide +kernel

theorem sha512_256_abc : hexChars (sha512_256 abc) =
    "53048e2681941ef99b2e29b76b4c7dabe4c2d0c634fc6d46e0e2f13107e7af23".toList := by
  rw [String.toList_ofList]
  decide +kernel

theorem sha3_256_abc : hexChars (sha3_256 abc) =
    "3a985da74fe225b2045c172d6bd390bd855f086e3e9d525b46bfe24511431532".toList := by
  rw [String.toList_ofList]
  decide +kernel

theorem sha3_512_abc : hexChars (sha3_512 abc) =
    "b751850b1a57168a5693cd924b6b096e08f621827444f70d884f5d0240d2712e10e116e9192af3c91a7ec57647e3934057340b4cf408d5a56592f8274eec53f0".toList := by
  rw [String.toList_ofList]
  decide +kernel

def m448 : Bytes := "abcdbcdecdefdefgefghfghighijhijkijkljklmklmnlmnomnopnopq".toUTF8.data.toList
def m896 : Bytes :=
  "abcdefghbcdefghicdefghijdefghijkefghijklfghijklmghijklmnhijklmnoijklmnopjklmnopqklmnopqrlmnopqrsmnopqrstnopqrstu".toUTF8.data.toList
def a3x200 : Bytes := List.replicate 200 0xa3

#guard hex (sha256 m448) = "248d6a61d20638b8e5c026930c3e6039a33ce45964ff2167f6ecedd419db06c1"
#guard hex (sha512 m896) = "8e959b75dae313da8cf4f72814fc143f8f7779c6eb9f7fa17299aeadb6889018501d289e4900f7e4331b99dec4b5433ac7d329eeb6dd26545e96e55b874be909"
#guard hex (sha512_256 m896) = "3928e184fb8690f840da3988121d31be65cb9d3ef83ee6146feac861e19b563a"
#guard hex (sha512 []) = "cf83e1357eefb8bdf1542850d66d8007d620e4050b5715dc83f4a921d36ce9ce47d0d13c5d85f2b0ff8318d2877eec2f63b931bd47417a81a538327af927da3e"
#guard hex (sha512_256 []) = "c672b8d1ef56ed28ab87c3622c5114069bdd3ad7b8f9737498d0c01ecef0967a"
#guard hex (sha3_256 []) = "a7ffc6f8bf1ed76651c14756a061d662f580ff4de43b49fa82d80a4b80f8434a"
#guard hex (sha3_512 []) = "a69f73cca23a9ac5c8b567dc185a756e97c982164fe25859e0d1dcc1475c80a615b2123af1f5f94c11e3e9402c3ac558f500199d95b6d3e301758586281dcd26"
#guard hex (sha3_256 a3x200) = "79f38adec5c20307a98ef76e8324afbfd46cfd81b22e3973c65fa1bd9de31787"
#guard hex (sha3_512 a3x200) = "e76dfad22084a8b1467fcf2ffa58361bec7628edf5f3fdc0e4805dc48caeeca81b7c13c30adf52a3659584739a2df46be589c51ca1a4a8416df6545a1ce8ba00"

/-- the vector of the unit tests in `tackler-core/src/kernel/hash.rs` (`hasher_sha2_256`): three UUIDs, in
    the order given, each followed by `"\n"` -/
theorem checksum_repo_vector :
    checksum .sha256 ["9c123cbe-4acd-475d-bbcf-96c1fcba58cb", "2e546b18-6ce6-4bb3-9f4b-21b77a768a4c",
      "67bdab27-da08-4647-b0d1-57c9ed129657"] [0x0a] =
    ⟨"SHA-256", "16418783ef294f830721159ee59cc3388c8b69c13afba2256cf756c6097fe687"⟩ :=
  congrArg (Checksum.mk "SHA-256") (congrArg String.ofList (by decide +kernel))

end Hash
end Tackler
