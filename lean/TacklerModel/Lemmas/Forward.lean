import TacklerModel.Model.Comb
/-!
# The combinators of `Model/Comb` on printed text

* success: `p (token ++ rest) = .ok value rest`, under a condition on how `rest` starts (`StartsNot pred rest`), which
  is what a greedy `take_while` needs to stop at the end of the token;
* failure: `p s = .bt` on a text that starts otherwise (`*_startsNot`, `space1_bind_bt`);
* algebra of `alt` (`alt_assoc`, `bind_alt`);
* `repeat0_list`, `repeat1_list`, `repeatTill1_list`: a repetition over a printed list.  An item is parsed back given
  what it needs to know about the text after it; that knowledge is the invariant `Q`, which every printed item must
  re-establish for the item before it.

`Model/Comb` itself proves what a successful combinator returned (`oneOf_ok`, `takeWhile0_append`, `lit_append`, `Suff`,
`Cons`); the inversion of `alt`, `opt`, `cutErr`, `repeat` is at the head of `Lemmas/RawLex`.
-/
namespace Tackler
namespace Comb

/-- `l` is empty or does not start with a character satisfying `pred` -/
def StartsNot (pred : Char → Bool) (l : List Char) : Prop := ∀ c r, l = c :: r → pred c = false

theorem startsNot_nil (pred : Char → Bool) : StartsNot pred [] := by intro c r h; cases h

theorem startsNot_cons {pred : Char → Bool} {c : Char} (r : List Char) (h : pred c = false) :
    StartsNot pred (c :: r) := by
  intro d r' e; cases e; exact h

theorem startsNot_cons_append {pred : Char → Bool} {c : Char} (r r' : List Char) (h : pred c = false) :
    StartsNot pred (c :: r ++ r') := startsNot_cons _ h

theorem startsNot_append_of_ne_nil {pred : Char → Bool} {a : List Char} (r : List Char) (hne : a ≠ [])
    (h : StartsNot pred a) : StartsNot pred (a ++ r) := by
  cases a with
  | nil => exact absurd rfl hne
  | cons c t => exact startsNot_cons _ (h c t rfl)

theorem startsNot_of_all {pred : Char → Bool} {a : List Char} (h : ∀ c ∈ a, pred c = false) : StartsNot pred a := by
  intro c r e; subst e; exact h c List.mem_cons_self

theorem startsNot_append {pred : Char → Bool} {a r : List Char} (ha : StartsNot pred a) (hr : StartsNot pred r) :
    StartsNot pred (a ++ r) := by
  cases a with
  | nil => simpa using hr
  | cons c t => exact startsNot_cons _ (ha c t rfl)

theorem StartsNot.of_or {f g : Char → Bool} {r : List Char} (h : StartsNot (fun c => f c || g c) r) :
    StartsNot f r ∧ StartsNot g r :=
  ⟨fun c t e => (Bool.or_eq_false_iff.mp (h c t e)).1, fun c t e => (Bool.or_eq_false_iff.mp (h c t e)).2⟩

/-! ### one character, literals -/

theorem oneOf_true {pred : Char → Bool} {c : Char} (t : List Char) (h : pred c = true) :
    oneOf pred (c :: t) = .ok c t := by simp [oneOf, h]

theorem oneOf_false {pred : Char → Bool} {c : Char} (t : List Char) (h : pred c = false) :
    oneOf pred (c :: t) = .bt := by simp [oneOf, h]

theorem oneOf_nil (pred : Char → Bool) : oneOf pred [] = .bt := rfl

theorem oneOf_startsNot {pred : Char → Bool} {s : List Char} (h : StartsNot pred s) : oneOf pred s = .bt := by
  cases s with
  | nil => rfl
  | cons c t => exact oneOf_false t (h c t rfl)

theorem chr_eq (c : Char) (t : List Char) : chr c (c :: t) = .ok c t := by simp [chr, oneOf]

theorem chr_ne {c d : Char} (t : List Char) (h : d ≠ c) : chr c (d :: t) = .bt := by
  simp [chr, oneOf, h]

theorem chr_nil (c : Char) : chr c [] = .bt := rfl

theorem chr_startsNot {c : Char} {s : List Char} (h : StartsNot (fun d => d == c) s) : chr c s = .bt :=
  oneOf_startsNot h

/-! ### choice -/

theorem opt_of_ok {α} {p : P α} {s r : List Char} {a : α} (h : p s = .ok a r) : opt p s = .ok (some a) r := by
  simp [opt, h]

theorem opt_of_bt {α} {p : P α} {s : List Char} (h : p s = .bt) : opt p s = .ok none s := by
  simp [opt, h]

theorem alt_of_ok {α} {p q : P α} {s r : List Char} {a : α} (h : p s = .ok a r) : alt p q s = .ok a r := by
  simp [alt, h]

theorem alt_of_bt {α} {p q : P α} {s : List Char} (h : p s = .bt) : alt p q s = q s := by
  simp [alt, h]

theorem alt_assoc {α} (p q r : P α) : alt (alt p q) r = alt p (alt q r) := by
  funext s; simp only [alt]; cases p s <;> rfl

/-- two alternatives that begin with the same parser run it once -/
theorem bind_alt {α β} (p : P α) (f g : α → P β) :
    (fun s => (p s).bind fun a s' => alt (f a) (g a) s') =
      alt (fun s => (p s).bind f) (fun s => (p s).bind g) := by
  funext s; simp only [alt]; cases p s <;> rfl

theorem cutErr_of_ok {α} {p : P α} {s r : List Char} {a : α} (h : p s = .ok a r) : cutErr p s = .ok a r := by
  simp [cutErr, h]

theorem peek_of_ok {α} {p : P α} {s r : List Char} {a : α} (h : p s = .ok a r) : peek p s = .ok a s := by
  simp [peek, h]

theorem peek_of_bt {α} {p : P α} {s : List Char} (h : p s = .bt) : peek p s = .bt := by
  simp [peek, h]

/-! ### runs -/

theorem space0_append (b rest : List Char) (hb : ∀ c ∈ b, isSpace c = true) (hr : StartsNot isSpace rest) :
    space0 (b ++ rest) = .ok b rest := takeWhile0_append _ b rest hb hr

theorem space0_none (rest : List Char) (hr : StartsNot isSpace rest) : space0 rest = .ok [] rest := by
  simpa using space0_append [] rest (by simp) hr

theorem space1_append (b rest : List Char) (hne : b ≠ []) (hb : ∀ c ∈ b, isSpace c = true)
    (hr : StartsNot isSpace rest) : space1 (b ++ rest) = .ok b rest := takeWhile1_append _ b rest hne hb hr

theorem takeWhile1_startsNot {pred : Char → Bool} {s : List Char} (h : StartsNot pred s) :
    takeWhile1 pred s = .bt := by
  cases s with
  | nil => rfl
  | cons c t => simp [takeWhile1, List.takeWhile, h c t rfl]

theorem space1_none {rest : List Char} (hr : StartsNot isSpace rest) : space1 rest = .bt :=
  takeWhile1_startsNot hr

theorem space1_bind_bt {β} (f : List Char → List Char → Res β) (b s : List Char) (hb : ∀ c ∈ b, isSpace c = true)
    (hs : StartsNot isSpace s) (hf : ∀ w, f w s = .bt) : (space1 (b ++ s)).bind f = .bt := by
  by_cases hne : b = []
  · subst hne; rw [List.nil_append, space1_none hs]; rfl
  · rw [space1_append b s hne hb hs, Res.bind_ok', hf]

theorem spanN_exact (pred : Char → Bool) : ∀ (a rest : List Char), (∀ c ∈ a, pred c = true) →
    spanN pred a.length (a ++ rest) = (a, rest) := by
  intro a
  induction a with
  | nil => intro rest _; rfl
  | cons c t ih =>
    intro rest h
    have hc : pred c = true := h c List.mem_cons_self
    simp only [List.length_cons, List.cons_append, spanN, hc, if_true]
    rw [ih rest (fun d hd => h d (List.mem_cons_of_mem _ hd))]

theorem takeMN_exact (n : Nat) (pred : Char → Bool) (a rest : List Char) (hlen : a.length = n)
    (ha : ∀ c ∈ a, pred c = true) : takeMN n n pred (a ++ rest) = .ok a rest := by
  subst hlen
  unfold takeMN
  rw [spanN_exact pred a rest ha]
  simp

theorem spanN_upto (pred : Char → Bool) : ∀ (n : Nat) (a rest : List Char), a.length ≤ n →
    (∀ c ∈ a, pred c = true) → StartsNot pred rest → spanN pred n (a ++ rest) = (a, rest) := by
  intro n
  induction n with
  | zero => intro a rest hl _ _; have : a = [] := List.length_eq_zero_iff.mp (by omega); subst this; rfl
  | succ n ih =>
    intro a rest hl ha hr
    cases a with
    | nil =>
      cases rest with
      | nil => rfl
      | cons c t => simp [spanN, hr c t rfl]
    | cons c t =>
      have hc : pred c = true := ha c List.mem_cons_self
      simp only [List.cons_append, spanN, hc, if_true]
      rw [ih t rest (by simpa using hl) (fun d hd => ha d (List.mem_cons_of_mem _ hd)) hr]

theorem takeMN_upto (m n : Nat) (pred : Char → Bool) (a rest : List Char) (hm : m ≤ a.length) (hn : a.length ≤ n)
    (ha : ∀ c ∈ a, pred c = true) (hr : StartsNot pred rest) : takeMN m n pred (a ++ rest) = .ok a rest := by
  unfold takeMN
  rw [spanN_upto pred n a rest hn ha hr]
  simp; omega

theorem takeMN_startsNot (m n : Nat) (pred : Char → Bool) {s : List Char} (hm : 0 < m) (h : StartsNot pred s) :
    takeMN m n pred s = .bt := by
  have := spanN_upto pred n [] s (by simp) (by simp) h
  simp only [List.nil_append] at this
  unfold takeMN
  rw [this]; simp; omega

/-! ### lines -/

/-- `"\n"` or `"\r\n"` -/
def IsEol (eol : List Char) : Prop := eol = ['\n'] ∨ eol = ['\r', '\n']

theorem lineEnding_append {eol : List Char} (h : IsEol eol) (rest : List Char) :
    lineEnding (eol ++ rest) = .ok () rest := by
  rcases h with rfl | rfl <;> rfl

theorem IsEol.startsNot {eol : List Char} (h : IsEol eol) (rest : List Char) {pred : Char → Bool}
    (hn : pred '\n' = false) (hr : pred '\r' = false) : StartsNot pred (eol ++ rest) := by
  rcases h with rfl | rfl
  · exact startsNot_cons _ hn
  · exact startsNot_cons _ hr

theorem IsEol.ne_nil {eol : List Char} (h : IsEol eol) : eol ≠ [] := by
  rcases h with rfl | rfl <;> simp

theorem dropWhile_notEol_eol {eol : List Char} (h : IsEol eol) (rest : List Char) :
    (eol ++ rest).dropWhile notEol = eol ++ rest ∧ (eol ++ rest).takeWhile notEol = [] := by
  rcases h with rfl | rfl <;> simp [notEol]

theorem tillLineEnding_append (x : List Char) {eol : List Char} (h : IsEol eol) (rest : List Char)
    (hx : ∀ c ∈ x, notEol c = true) : tillLineEnding (x ++ (eol ++ rest)) = .ok x (eol ++ rest) := by
  obtain ⟨hd, ht⟩ := dropWhile_notEol_eol h rest
  unfold tillLineEnding
  rw [List.dropWhile_append_of_pos hx, List.takeWhile_append_of_pos hx, hd, ht]
  rcases h with rfl | rfl <;> simp

theorem lineEnding_startsNot {s : List Char} (h : StartsNot (fun c => c == '\n' || c == '\r') s) : lineEnding s = .bt := by
  cases s with
  | nil => rfl
  | cons c t =>
    have := h c t rfl
    simp at this
    unfold lineEnding
    split
    · rename_i e; cases e; exact absurd rfl this.1
    · rename_i e; cases e; exact absurd rfl this.2
    · rfl

/-! ### repetition -/

theorem repeat0G_fuel {α} (p : P α) (hp : ∀ s, Cons (p s) s) :
    ∀ (f1 f2 : Nat) (s : List Char), s.length < f1 → s.length < f2 →
      repeat0G .cut p f1 s = repeat0G .cut p f2 s := by
  intro f1
  induction f1 with
  | zero => intro f2 s h; omega
  | succ n ih =>
    intro f2 s h1 h2
    cases f2 with
    | zero => omega
    | succ m =>
      simp only [repeat0G]
      split
      · rename_i a r hps
        have hc := hp s a r hps
        simp only [hc.2, if_true]
        rw [ih m r (by omega) (by omega)]
      · rfl
      · rfl

theorem repeat0_unfold {α} (p : P α) (hp : ∀ s, Cons (p s) s) (s : List Char) :
    repeat0 p s = match p s with
      | .ok a r => (repeat0 p r).map (a :: ·)
      | .bt => .ok [] s
      | .cut => .cut := by
  have succ : ∀ n, repeat0G .cut p (n + 1) s = match p s with
      | .ok a r => if r.length < s.length then (repeat0G .cut p n r).map (a :: ·) else .cut
      | .bt => .ok [] s
      | .cut => .cut := fun _ => rfl
  cases hps : p s with
  | ok a r =>
    have hc := hp s a r hps
    calc repeat0 p s
        = (if r.length < s.length then (repeat0G .cut p s.length r).map (a :: ·) else .cut) := by
          unfold repeat0; rw [succ, hps]
      _ = (repeat0G .cut p s.length r).map (a :: ·) := by simp [hc.2]
      _ = (repeat0 p r).map (a :: ·) := by
          unfold repeat0; rw [repeat0G_fuel p hp s.length (r.length + 1) r hc.2 (by omega)]
  | bt => unfold repeat0; rw [succ, hps]
  | cut => unfold repeat0; rw [succ, hps]

theorem repeat0_of_bt {α} (p : P α) (hp : ∀ s, Cons (p s) s) {s : List Char} (h : p s = .bt) :
    repeat0 p s = .ok [] s := by
  rw [repeat0_unfold p hp, h]

theorem repeat0_list {α β} (p : P α) (hp : ∀ s, Cons (p s) s) (pr : β → List Char) (g : β → α)
    (Q : List Char → Prop) (rest : List Char) (hrest : p rest = .bt) (hQ : Q rest) :
    ∀ (xs : List β), (∀ x ∈ xs, ∀ r, Q r → Q (pr x ++ r) ∧ p (pr x ++ r) = .ok (g x) r) →
      repeat0 p ((xs.map pr).flatten ++ rest) = .ok (xs.map g) rest ∧ Q ((xs.map pr).flatten ++ rest) := by
  intro xs
  induction xs with
  | nil => intro _; exact ⟨by simpa using repeat0_of_bt p hp hrest, by simpa using hQ⟩
  | cons x t ih =>
    intro h
    obtain ⟨ih1, ih2⟩ := ih (fun y hy => h y (List.mem_cons_of_mem _ hy))
    obtain ⟨hq, hx⟩ := h x List.mem_cons_self _ ih2
    simp only [List.map_cons, List.flatten_cons, List.append_assoc]
    refine ⟨?_, hq⟩
    rw [repeat0_unfold p hp, hx]
    simp only []
    rw [ih1]
    rfl

theorem repeat1_list {α β} (p : P α) (hp : ∀ s, Cons (p s) s) (pr : β → List Char) (g : β → α)
    (Q : List Char → Prop) (rest : List Char) (hrest : p rest = .bt) (hQ : Q rest) (x : β) (xs : List β)
    (h : ∀ y ∈ x :: xs, ∀ r, Q r → Q (pr y ++ r) ∧ p (pr y ++ r) = .ok (g y) r) :
    repeat1 p (((x :: xs).map pr).flatten ++ rest) = .ok ((x :: xs).map g) rest := by
  obtain ⟨h1, h2⟩ := repeat0_list p hp pr g Q rest hrest hQ xs (fun y hy => h y (List.mem_cons_of_mem _ hy))
  unfold repeat1
  simp only [List.map_cons, List.flatten_cons, List.append_assoc]
  rw [(h x List.mem_cons_self _ h2).2]
  simp only [Res.bind_ok']
  rw [h1]
  rfl

theorem repeatTillG_fuel {α β} (f : P α) (g : P β) (hf : ∀ s, Cons (f s) s) :
    ∀ (f1 f2 : Nat) (s : List Char), s.length < f1 → s.length < f2 →
      repeatTillG .cut f g f1 s = repeatTillG .cut f g f2 s := by
  intro f1
  induction f1 with
  | zero => intro f2 s h; omega
  | succ n ih =>
    intro f2 s h1 h2
    cases f2 with
    | zero => omega
    | succ m =>
      simp only [repeatTillG]
      split
      · rfl
      · rfl
      · split
        · rename_i a r hfs
          have hc := hf s a r hfs
          simp only [hc.2, if_true]
          rw [ih m r (by omega) (by omega)]
        · rfl
        · rfl

/-- one unfolding of the loop of `repeat_till` at the fuel `repeatTill1` gives it -/
theorem repeatTillG_unfold {α β} (f : P α) (g : P β) (hf : ∀ s, Cons (f s) s) (s : List Char) :
    repeatTillG .cut f g (s.length + 1) s = match g s with
      | .ok _ r => .ok [] r
      | .cut => .cut
      | .bt => match f s with
        | .ok a r => (repeatTillG .cut f g (r.length + 1) r).map (a :: ·)
        | .bt => .bt
        | .cut => .cut := by
  rw [repeatTillG]
  cases g s with
  | ok _ _ => rfl
  | cut => rfl
  | bt =>
    cases hfs : f s with
    | ok a r =>
      have hc := hf s a r hfs
      simp only [hc.2, if_true]
      rw [repeatTillG_fuel f g hf s.length (r.length + 1) r hc.2 (by omega)]
    | bt => rfl
    | cut => rfl

/-- the terminator is `eof`, so the items are non-empty and `Q` holds of the empty text -/
theorem repeatTillG_list {α β} (f : P α) (hf : ∀ s, Cons (f s) s) (pr : β → List Char) (g : β → α)
    (Q : List Char → Prop) (hQ : Q []) (xs : List β)
    (h : ∀ x ∈ xs, pr x ≠ [] ∧ ∀ r, Q r → Q (pr x ++ r) ∧ f (pr x ++ r) = .ok (g x) r) :
    repeatTillG .cut f eof (((xs.map pr).flatten).length + 1) ((xs.map pr).flatten) = .ok (xs.map g) [] ∧
      Q ((xs.map pr).flatten) := by
  induction xs with
  | nil => exact ⟨rfl, hQ⟩
  | cons x t ih =>
    obtain ⟨hne, hx⟩ := h x List.mem_cons_self
    obtain ⟨ih1, ih2⟩ := ih fun y hy => h y (List.mem_cons_of_mem _ hy)
    obtain ⟨hq, hfx⟩ := hx _ ih2
    have heof : eof (pr x ++ (t.map pr).flatten) = .bt := by
      cases hpx : pr x with
      | nil => exact absurd hpx hne
      | cons c r => rfl
    refine ⟨?_, hq⟩
    rw [List.map_cons, List.flatten_cons, repeatTillG_unfold f eof hf, heof, hfx]
    simp only [ih1]
    rfl

theorem repeatTill1_list {α β} (f : P α) (hf : ∀ s, Cons (f s) s) (pr : β → List Char) (g : β → α)
    (Q : List Char → Prop) (hQ : Q [])
    (x : β) (xs : List β) (h : ∀ y ∈ x :: xs, pr y ≠ [] ∧ ∀ r, Q r → Q (pr y ++ r) ∧ f (pr y ++ r) = .ok (g y) r) :
    repeatTill1 f eof (((x :: xs).map pr).flatten) = .ok ((x :: xs).map g) [] ∧
      Q (((x :: xs).map pr).flatten) := by
  obtain ⟨h1, h2⟩ := repeatTillG_list f hf pr g Q hQ xs fun y hy => h y (List.mem_cons_of_mem _ hy)
  obtain ⟨hq, hfx⟩ := (h x List.mem_cons_self).2 _ h2
  refine ⟨?_, by simpa using hq⟩
  unfold repeatTill1
  simp only [List.map_cons, List.flatten_cons]
  rw [hfx]
  simp only [Res.bind_ok']
  rw [h1]
  rfl

end Comb
end Tackler
