import TacklerModel.Lemmas.RoundTrip
/-!
# Print then parse, continued (namespace `Syntax`): tags, the metadata block, value position and unit of a posting

The metadata block (`parseTxnMeta_print`) is the one place where the grammar is not a sequence: `parse_txn_meta` lists
nine alternatives.  `parseTxnMeta_eq_tree` reads them as a decision tree over arbitrary line parsers (`metaTree`,
`metaRest`); see `Lemmas/RoundTrip` for the map of the chain.
-/
namespace Tackler
namespace Syntax
open Comb

/-- after a tag: blanks and the line ending, or the next `, tag` -/
def TagRest (r : List Char) : Prop := StartsNot nameStop r ∧ StartsNot isSpace r ∨ (∃ w eol rest, r = w ++ (eol ++ rest) ∧ Blanks w ∧ IsEol eol)

theorem pTagTail_print (parts : List (List Char)) (r : List Char) (h : PartsWF parts) (hr : StartsNot nameStop r) :
    pTagTail (',' :: ' ' :: (joinParts parts ++ r)) = .ok parts r := by
  unfold pTagTail
  rw [space0_none _ (startsNot_cons _ (by decide)), Res.bind_ok', chr_eq, Res.bind_ok']
  have : space0 ([' '] ++ (joinParts parts ++ r)) = .ok [' '] (joinParts parts ++ r) :=
    space0_append [' '] _ (by simp [isSpace]) (partsWF_startsNot parts r h isSpace isSpace_of_idStart)
  simp only [List.cons_append, List.nil_append] at this
  rw [this, Res.bind_ok']
  exact cutErr_of_ok (pMultiPartId_print parts r h hr)

theorem pTagTail_end (w : List Char) {eol : List Char} (he : IsEol eol) (rest : List Char) (hw : Blanks w) :
    pTagTail (w ++ (eol ++ rest)) = .bt := by
  unfold pTagTail
  rw [space0_append w _ hw (he.startsNot rest (by decide) (by decide)), Res.bind_ok']
  rw [chr_startsNot (he.startsNot rest (by decide) (by decide))]; rfl

theorem tagsChars_eq (p0 : List (List Char)) (ps : List (List (List Char))) :
    Print.tagsChars ((p0 :: ps).map (fun parts => acctName (toPath parts))) =
      joinParts p0 ++ (ps.map (fun parts => ',' :: ' ' :: joinParts parts)).flatten := by
  unfold Print.tagsChars
  simp only [List.map_cons, List.map_map]
  have h1 : ", ".toList = [',', ' '] := by decide
  rw [intercalate_cons, acctName_toPath, h1]
  congr 2
  rw [List.map_map]
  apply List.map_congr_left
  intro parts _
  simp [acctName_toPath]

theorem pTags_print (tags : List String) (w : List Char) {eol : List Char} (he : IsEol eol) (rest : List Char)
    (ht : TagsWF tags) (hw : Blanks w) :
    pTags (Print.tagsChars tags ++ (w ++ (eol ++ rest))) = .ok tags (w ++ (eol ++ rest)) := by
  obtain ⟨p0, ps, rfl, hall⟩ := ht
  have hstop : StartsNot nameStop (w ++ (eol ++ rest)) :=
    blanks_eol_startsNot w he rest hw (of_isSpace (by decide) (by decide)) (by decide) (by decide)
  obtain ⟨hrep, hq⟩ := repeat0_list pTagTail pTagTail_cons (fun parts => ',' :: ' ' :: joinParts parts) id
    (StartsNot nameStop) (w ++ (eol ++ rest)) (pTagTail_end w he rest hw) hstop ps (by
      intro parts hp r hq
      refine ⟨startsNot_cons _ (by decide), ?_⟩
      simpa using pTagTail_print parts r (hall parts (List.mem_cons_of_mem _ hp)) hq)
  unfold pTags
  rw [tagsChars_eq, List.append_assoc,
    cutErr_of_ok (pMultiPartId_print p0 _ (hall p0 List.mem_cons_self) hq), Res.bind_ok']
  rw [hrep]; simp

theorem tagsWF_startsNot_space (tags : List String) (r : List Char) (ht : TagsWF tags) :
    StartsNot isSpace (Print.tagsChars tags ++ r) := by
  obtain ⟨p0, ps, rfl, hall⟩ := ht
  rw [tagsChars_eq, List.append_assoc]
  exact partsWF_startsNot p0 _ (hall p0 List.mem_cons_self) isSpace isSpace_of_idStart

theorem parseMetaTags_print (L : Print.Layout) (hL : LayoutOK L) (tags : List String) (rest : List Char)
    (ht : TagsWF tags) : parseMetaTags (Print.tagsLine L (some tags) ++ rest) = .ok tags rest := by
  unfold parseMetaTags Print.tagsLine
  rw [metaLineChars_eq]
  exact metaLine_print pTags L.indent (Print.tagsChars tags) L.trail hL.eol rest tags tagsKey (by decide)
    hL.indent hL.indent_ne (tagsWF_startsNot_space tags _ ht) L.trail hL.trail
    (pTags_print tags L.trail hL.eol rest ht hL.trail)

/-! ## the metadata block -/

/-- a line that is not a metadata line (`AfterBlanksNot '#'`) -/
def NonMeta (r : List Char) : Prop :=
  ∃ b s, r = b ++ s ∧ Blanks b ∧ StartsNot isSpace s ∧ StartsNot (fun c => c == '#') s

theorem metaLine_nonMeta {α} (key : List Char) (value : P α) {r : List Char} (h : NonMeta r) :
    metaLine key value r = .bt := by
  obtain ⟨b, s, rfl, hb, hs, hh⟩ := h; exact metaLine_other _ _ b s hb hs hh

section otherKey
variable (L : Print.Layout) (hL : LayoutOK L)
include hL

theorem parseMetaUuid_location (g : Geo) (r : List Char) : parseMetaUuid (Print.locationLine L (some g) ++ r) = .bt :=
  metaLine_wrongKey L hL pUuid _ r uuidKey locationKey (by decide) (by decide)

theorem parseMetaUuid_tags (t : List String) (r : List Char) : parseMetaUuid (Print.tagsLine L (some t) ++ r) = .bt :=
  metaLine_wrongKey L hL pUuid _ r uuidKey tagsKey (by decide) (by decide)

theorem parseMetaLocation_uuid (u : String) (r : List Char) : parseMetaLocation (Print.uuidLine L (some u) ++ r) = .bt :=
  metaLine_wrongKey L hL pGeoUri _ r locationKey uuidKey (by decide) (by decide)

theorem parseMetaLocation_tags (t : List String) (r : List Char) : parseMetaLocation (Print.tagsLine L (some t) ++ r) = .bt :=
  metaLine_wrongKey L hL pGeoUri _ r locationKey tagsKey (by decide) (by decide)

theorem parseMetaTags_uuid (u : String) (r : List Char) : parseMetaTags (Print.uuidLine L (some u) ++ r) = .bt :=
  metaLine_wrongKey L hL pTags _ r tagsKey uuidKey (by decide) (by decide)

theorem parseMetaTags_location (g : Geo) (r : List Char) : parseMetaTags (Print.locationLine L (some g) ++ r) = .bt :=
  metaLine_wrongKey L hL pTags _ r tagsKey locationKey (by decide) (by decide)

end otherKey

structure MetaWF (h : Header) : Prop where
  uuid : ∀ u, h.uuid = some u → UuidWF u.toList
  location : ∀ g, h.location = some g → GeoWF g
  tags : ∀ t, h.tags = some t → TagsWF t

theorem uuidLine_none (L : Print.Layout) : Print.uuidLine L none = [] := rfl
theorem locationLine_none (L : Print.Layout) : Print.locationLine L none = [] := rfl
theorem tagsLine_none (L : Print.Layout) : Print.tagsLine L none = [] := rfl

/-- the metadata lines of a printed header, in the order of the layout -/
def metaBlock (L : Print.Layout) (h : Header) : List Char := (L.metaOrder.map (Print.metaItem L h)).flatten

/-! `parse_txn_meta` lists nine alternatives.  Read as a decision tree they say: the first line selects the
group of three that begin with it, the second line the alternative, and the third line is optional. -/

/-- what follows the first metadata line, for the two remaining line parsers in their order of priority:
    `p [q]`, `q [p]`, or nothing -/
def metaRest {β γ} (p : P β) (q : P γ) (mk : Option β → Option γ → TxnMeta) : P TxnMeta :=
  alt (fun s => (p s).bind fun b s => (opt q s).bind fun c s => .ok (mk (some b) c) s) <|
  alt (fun s => (q s).bind fun c s => (opt p s).bind fun b s => .ok (mk b (some c)) s)
    (fun s => .ok (mk none none) s)

def metaTree {α β γ} (p : P α) (q : P β) (r : P γ) (mk : Option α → Option β → Option γ → TxnMeta) :
    P TxnMeta :=
  alt (fun s => (p s).bind fun a s => metaRest q r (mk (some a)) s) <|
  alt (fun s => (q s).bind fun b s => metaRest p r (fun a => mk a (some b)) s)
    (fun s => (r s).bind fun c s => metaRest p q (fun a b => mk a b (some c)) s)

theorem parseTxnMeta_eq_tree :
    parseTxnMeta = metaTree parseMetaUuid parseMetaTags parseMetaLocation (fun u t l => ⟨u, t, l⟩) := by
  simp only [metaTree, metaRest, bind_alt, alt_assoc]
  rfl

section tree
variable {α β γ : Type} {p : P α} {q : P β}

/-- an optional line printed as `txt`: absent it prints nothing, present `p` reads it back -/
def OptLine (p : P α) (o : Option α) (txt : List Char) : Prop :=
  match o with
  | some x => ∀ s, p (txt ++ s) = .ok x s
  | none => txt = []

theorem OptLine.of_print {txt : Option α → List Char} (o : Option α) (hn : txt none = [])
    (hp : ∀ x, o = some x → ∀ s, p (txt (some x) ++ s) = .ok x s) : OptLine p o (txt o) := by
  cases o with
  | none => exact hn
  | some x => exact hp x rfl

theorem OptLine.present {o : Option α} {txt : List Char} (h : OptLine p o txt) (hne : txt ≠ []) :
    ∃ x, o = some x ∧ ∀ s, p (txt ++ s) = .ok x s := by
  cases o with
  | none => exact absurd h hne
  | some x => exact ⟨x, rfl, h⟩

theorem OptLine.eq_none {o : Option α} {txt s : List Char} (h : OptLine p o txt) (ht : txt = []) (hs : p s = .bt) :
    o = none := by
  cases o with
  | none => rfl
  | some x => have := h s; rw [ht, List.nil_append, hs] at this; cases this

/-- the two optional lines that may follow the first one, in either order (`p` does not read the line of `q`) -/
theorem metaRest_print (mk : Option α → Option β → TxnMeta) {A B rest : List Char} {a : Option α} {b : Option β}
    (hA : OptLine p a A) (hB : OptLine q b B) (hpB : ∀ y, b = some y → ∀ s, p (B ++ s) = .bt)
    (hp : p rest = .bt) (hq : q rest = .bt) :
    metaRest p q mk (A ++ (B ++ rest)) = .ok (mk a b) rest ∧
      metaRest p q mk (B ++ (A ++ rest)) = .ok (mk a b) rest := by
  cases a with
  | some x =>
    have hA : ∀ s, p (A ++ s) = .ok x s := hA
    cases b with
    | some y =>
      have hB : ∀ s, q (B ++ s) = .ok y s := hB
      simp only [metaRest, alt, opt, hA, hB, hpB y rfl, Res.bind_ok', Res.bind_bt, and_self]
    | none =>
      obtain rfl : B = [] := hB
      simp only [metaRest, alt, opt, hA, hq, Res.bind_ok', List.nil_append, and_self]
  | none =>
    obtain rfl : A = [] := hA
    cases b with
    | some y =>
      have hB : ∀ s, q (B ++ s) = .ok y s := hB
      simp only [metaRest, alt, opt, hB, hpB y rfl, hp, Res.bind_ok', Res.bind_bt, List.nil_append, and_self]
    | none =>
      obtain rfl : B = [] := hB
      simp only [metaRest, alt, hp, hq, Res.bind_bt, List.nil_append, and_self]

end tree

/-- `opt(parse_txn_meta)` reads `text` as the metadata of `h` and stops at `rest` -/
def ReadsMeta (h : Header) (rest text : List Char) : Prop :=
  ∃ m, opt parseTxnMeta text = .ok m rest ∧
    metaUuid m = h.uuid ∧ metaLocation m = h.location ∧ metaTags m = h.tags

/-- an absent line prints nothing, so the first line that is present may be moved to the front -/
theorem ReadsMeta.cascade {h : Header} {rest X Y Z : List Char}
    (hX : X ≠ [] → ReadsMeta h rest (X ++ (Y ++ (Z ++ rest))))
    (hY : Y ≠ [] → ReadsMeta h rest (Y ++ (Z ++ (X ++ rest))))
    (hZ : Z ≠ [] → ReadsMeta h rest (Z ++ (X ++ (Y ++ rest))))
    (h0 : X = [] → Y = [] → Z = [] → ReadsMeta h rest rest) : ReadsMeta h rest (X ++ (Y ++ (Z ++ rest))) := by
  by_cases hx : X = []
  · by_cases hy : Y = []
    · by_cases hz : Z = []
      · rw [hx, hy, hz]; exact h0 hx hy hz
      · simpa only [hx, hy, List.nil_append] using hZ hz
    · simpa only [hx, List.nil_append] using hY hy
  · exact hX hx

theorem parseTxnMeta_print (L : Print.Layout) (hL : LayoutOK L) (h : Header) (rest : List Char)
    (hm : MetaWF h) (hr : NonMeta rest) :
    ∃ m, opt parseTxnMeta (metaBlock L h ++ rest) = .ok m rest ∧
      metaUuid m = h.uuid ∧ metaLocation m = h.location ∧ metaTags m = h.tags := by
  have oU : OptLine parseMetaUuid h.uuid (Print.uuidLine L h.uuid) :=
    .of_print h.uuid rfl fun u e s => parseMetaUuid_print L hL u s (hm.uuid u e)
  have oL : OptLine parseMetaLocation h.location (Print.locationLine L h.location) :=
    .of_print h.location rfl fun g e s => parseMetaLocation_print L hL g s (hm.location g e)
  have oT : OptLine parseMetaTags h.tags (Print.tagsLine L h.tags) :=
    .of_print h.tags rfl fun t e s => parseMetaTags_print L hL t s (hm.tags t e)
  have eU : parseMetaUuid rest = .bt := metaLine_nonMeta _ _ hr
  have eL : parseMetaLocation rest = .bt := metaLine_nonMeta _ _ hr
  have eT : parseMetaTags rest = .bt := metaLine_nonMeta _ _ hr
  obtain ⟨TL, LT⟩ := metaRest_print (fun t l => (⟨h.uuid, t, l⟩ : TxnMeta)) oT oL
    (fun g e s => e ▸ parseMetaTags_location L hL g s) eT eL
  obtain ⟨UL, LU⟩ := metaRest_print (fun u l => (⟨u, h.tags, l⟩ : TxnMeta)) oU oL
    (fun g e s => e ▸ parseMetaUuid_location L hL g s) eU eL
  obtain ⟨UT, TU⟩ := metaRest_print (fun u t => (⟨u, t, h.location⟩ : TxnMeta)) oU oT
    (fun t e s => e ▸ parseMetaUuid_tags L hL t s) eU eT
  -- the first line selects its group of the tree
  have fU : ∀ {s1}, metaRest parseMetaTags parseMetaLocation (fun t l => ⟨h.uuid, t, l⟩) s1 =
      .ok ⟨h.uuid, h.tags, h.location⟩ rest → Print.uuidLine L h.uuid ≠ [] →
      ReadsMeta h rest (Print.uuidLine L h.uuid ++ s1) := fun {s1} hs hne => by
    obtain ⟨u, e, hu⟩ := oU.present hne
    rw [e] at hs
    refine ⟨some ⟨some u, h.tags, h.location⟩, opt_of_ok ?_, e.symm, rfl, rfl⟩
    simp only [parseTxnMeta_eq_tree, metaTree, alt, hu, hs, Res.bind_ok']
  have fT : ∀ {s1}, metaRest parseMetaUuid parseMetaLocation (fun u l => ⟨u, h.tags, l⟩) s1 =
      .ok ⟨h.uuid, h.tags, h.location⟩ rest → Print.tagsLine L h.tags ≠ [] →
      ReadsMeta h rest (Print.tagsLine L h.tags ++ s1) := fun {s1} hs hne => by
    obtain ⟨t, e, ht⟩ := oT.present hne
    rw [e] at hs
    refine ⟨some ⟨h.uuid, some t, h.location⟩, opt_of_ok ?_, rfl, rfl, e.symm⟩
    simp only [parseTxnMeta_eq_tree, metaTree, alt, e ▸ parseMetaUuid_tags L hL t s1, ht, hs, Res.bind_ok', Res.bind_bt]
  have fL : ∀ {s1}, metaRest parseMetaUuid parseMetaTags (fun u t => ⟨u, t, h.location⟩) s1 =
      .ok ⟨h.uuid, h.tags, h.location⟩ rest → Print.locationLine L h.location ≠ [] →
      ReadsMeta h rest (Print.locationLine L h.location ++ s1) := fun {s1} hs hne => by
    obtain ⟨g, e, hl⟩ := oL.present hne
    rw [e] at hs
    refine ⟨some ⟨h.uuid, h.tags, some g⟩, opt_of_ok ?_, rfl, e.symm, rfl⟩
    simp only [parseTxnMeta_eq_tree, metaTree, alt, e ▸ parseMetaUuid_location L hL g s1,
      e ▸ parseMetaTags_location L hL g s1, hl, hs, Res.bind_ok', Res.bind_bt]
  have f0 : Print.uuidLine L h.uuid = [] → Print.locationLine L h.location = [] → Print.tagsLine L h.tags = [] →
      ReadsMeta h rest rest := fun xu xl xt =>
    ⟨none, opt_of_bt (by simp only [parseTxnMeta_eq_tree, metaTree, alt, eU, eT, eL, Res.bind_bt]),
      (oU.eq_none xu eU).symm, (oL.eq_none xl eL).symm, (oT.eq_none xt eT).symm⟩
  have hord := hL.order
  simp only [List.mem_cons, List.not_mem_nil, or_false] at hord
  show ReadsMeta h rest _
  rcases hord with ho | ho | ho | ho | ho | ho <;>
    simp only [metaBlock, ho, List.map_cons, List.map_nil, List.flatten_cons, List.flatten_nil, List.append_nil,
      List.append_assoc, Print.metaItem, if_true, if_false, Nat.reduceEqDiff]
  · exact .cascade (fU LT) (fL TU) (fT UL) f0
  · exact .cascade (fU TL) (fT LU) (fL UT) fun xu xt xl => f0 xu xl xt
  · exact .cascade (fL UT) (fU TL) (fT LU) fun xl xu xt => f0 xu xl xt
  · exact .cascade (fL TU) (fT UL) (fU LT) fun xl xt xu => f0 xu xl xt
  · exact .cascade (fT UL) (fU LT) (fL TU) fun xt xu xl => f0 xu xl xt
  · exact .cascade (fT LU) (fL UT) (fU TL) fun xt xl xu => f0 xu xl xt

/-! ## postings -/

def PostTail (t : List Char) : Prop :=
  ∃ b c r, t = b ++ (c :: r) ∧ Blanks b ∧ (c = ';' ∨ c = '\n' ∨ c = '\r')

theorem postTail_startsNot {t : List Char} (h : PostTail t) (pred : Char → Bool)
    (hs : ∀ c, isSpace c = true → pred c = false) (h1 : pred ';' = false) (h2 : pred '\n' = false)
    (h3 : pred '\r' = false) : StartsNot pred t := by
  obtain ⟨b, c, r, rfl, hb, hc⟩ := h
  cases b with
  | nil => rcases hc with rfl | rfl | rfl <;> exact startsNot_cons _ (by assumption)
  | cons x t => exact startsNot_cons _ (hs x (hb x List.mem_cons_self))

theorem postTail_numStop {t : List Char} (h : PostTail t) : StartsNot numStop t :=
  postTail_startsNot h numStop (of_isSpace (by decide) (by decide)) (by decide) (by decide) (by decide)
theorem postTail_idChar {t : List Char} (h : PostTail t) : StartsNot idChar t :=
  postTail_startsNot h idChar (of_isSpace (by decide) (by decide)) (by decide) (by decide) (by decide)

theorem pUnit_tail {t : List Char} (h : PostTail t) : pUnit t = .bt := by
  obtain ⟨b, c, r, rfl, hb, hc⟩ := h
  have hcs : isSpace c = false := by rcases hc with rfl | rfl | rfl <;> decide
  have hci : idStartChar c = false := by rcases hc with rfl | rfl | rfl <;> decide
  exact space1_bind_bt _ b _ hb (startsNot_cons _ hcs) fun _ => by
    rw [pIdentifier_startsNot (startsNot_cons _ hci)]; rfl

theorem pOpeningPos_other (b s : List Char) (hb : Blanks b) (hs : StartsNot isSpace s)
    (h : StartsNot (fun c => c == '{') s) : pOpeningPos (b ++ s) = .bt :=
  space1_bind_bt _ b s hb hs fun _ => by rw [chr_startsNot h]; rfl

theorem pClosingPos_other (b s : List Char) (hb : Blanks b) (hs : StartsNot isSpace s)
    (h1 : StartsNot (fun c => c == '@') s) (h2 : StartsNot (fun c => c == '=') s) : pClosingPos (b ++ s) = .bt :=
  space1_bind_bt _ b s hb hs fun _ => by rw [alt_of_bt (chr_startsNot h1), chr_startsNot h2]; rfl

theorem pPosition_tail {t : List Char} (h : PostTail t) : pPosition t = .bt := by
  obtain ⟨b, c, r, rfl, hb, hc⟩ := h
  have hcs : StartsNot isSpace (c :: r) := startsNot_cons _ (by rcases hc with rfl | rfl | rfl <;> decide)
  have h1 : StartsNot (fun c => c == '{') (c :: r) := startsNot_cons _ (by rcases hc with rfl | rfl | rfl <;> decide)
  have h2 : StartsNot (fun c => c == '@') (c :: r) := startsNot_cons _ (by rcases hc with rfl | rfl | rfl <;> decide)
  have h3 : StartsNot (fun c => c == '=') (c :: r) := startsNot_cons _ (by rcases hc with rfl | rfl | rfl <;> decide)
  unfold pPosition
  rw [alt_of_bt (by
    show (pOpeningPos (b ++ c :: r)).bind _ = .bt
    rw [pOpeningPos_other b _ hb hcs h1]; rfl)]
  rw [alt_of_bt (by
    show (pOpeningPos (b ++ c :: r)).map _ = .bt
    rw [pOpeningPos_other b _ hb hcs h1]; rfl)]
  show (pClosingPos (b ++ c :: r)).map _ = .bt
  rw [pClosingPos_other b _ hb hcs h2 h3]; rfl

theorem identWF_startsNot (c r : List Char) (h : IdentWF c) (pred : Char → Bool)
    (hp : ∀ x, idStartChar x = true → pred x = false) : StartsNot pred (c ++ r) := by
  obtain ⟨x, t, rfl, hx, _⟩ := h
  exact startsNot_cons _ (hp x hx)

theorem pClosingPos_print (k : Char) (hk : k = '@' ∨ k = '=') (v : Dec) (c rest : List Char)
    (hv : NumWF v) (hc : IdentWF c) (hr : StartsNot idChar rest) :
    pClosingPos (' ' :: k :: ' ' :: (v.toChars ++ (' ' :: (c ++ rest)))) =
      .ok (if k = '=' then Closing.total ⟨v, String.ofList c⟩ else Closing.unitPrice ⟨v, String.ofList c⟩) rest := by
  have hks : isSpace k = false := by rcases hk with rfl | rfl <;> decide
  unfold pClosingPos
  rw [space1_one _ (startsNot_cons _ hks), Res.bind_ok']
  have halt : alt (chr '@') (chr '=') (k :: ' ' :: (v.toChars ++ (' ' :: (c ++ rest)))) =
      .ok k (' ' :: (v.toChars ++ (' ' :: (c ++ rest)))) := by
    rcases hk with rfl | rfl
    · exact alt_of_ok (chr_eq _ _)
    · rw [alt_of_bt (chr_ne _ (by decide))]; exact chr_eq _ _
  rw [halt, Res.bind_ok', cutErr_of_ok (space1_one _ (toChars_startsNot_space v _)), Res.bind_ok',
    cutErr_of_ok (pNumber_print v _ hv (startsNot_cons _ (by decide))), Res.bind_ok',
    cutErr_of_ok (space1_one _ (identWF_startsNot c rest hc isSpace isSpace_of_idStart)), Res.bind_ok',
    cutErr_of_ok (pIdentifier_print c rest hc hr), Res.bind_ok']
  rcases hk with rfl | rfl <;> simp [closingOf]

theorem pOpeningPos_closing (k : Char) (hk : k = '@' ∨ k = '=') (r : List Char) : pOpeningPos (' ' :: k :: r) = .bt := by
  have := pOpeningPos_other [' '] (k :: r) (by simp [Blanks, isSpace])
    (startsNot_cons _ (by rcases hk with rfl | rfl <;> decide))
    (startsNot_cons _ (by rcases hk with rfl | rfl <;> decide))
  simpa using this

theorem pPosition_print (k : Char) (hk : k = '@' ∨ k = '=') (v : Dec) (c rest : List Char)
    (hv : NumWF v) (hc : IdentWF c) (hr : StartsNot idChar rest) :
    pPosition (' ' :: k :: ' ' :: (v.toChars ++ (' ' :: (c ++ rest)))) =
      .ok (none, some (if k = '=' then Closing.total ⟨v, String.ofList c⟩ else Closing.unitPrice ⟨v, String.ofList c⟩)) rest := by
  unfold pPosition
  rw [alt_of_bt (by
    show (pOpeningPos _).bind _ = .bt
    rw [pOpeningPos_closing k hk]; rfl)]
  rw [alt_of_bt (by
    show (pOpeningPos _).map _ = .bt
    rw [pOpeningPos_closing k hk]; rfl)]
  show (pClosingPos _).map _ = _
  rw [pClosingPos_print k hk v c rest hv hc hr]; rfl

/-- ` COMM` followed by `rest`, which `opt(p_position)` reads as `pos` -/
theorem pUnit_print (c rest tail : List Char) (pos : Option (Option Val × Option Closing)) (hc : IdentWF c)
    (hr : StartsNot idChar rest) (hpos : opt pPosition rest = .ok pos tail) :
    pUnit (' ' :: (c ++ rest)) = .ok (match (generalizing := false) pos with
      | some (o, cl) => ⟨String.ofList c, o, cl⟩
      | none => ⟨String.ofList c, none, none⟩) tail := by
  unfold pUnit
  rw [space1_one _ (identWF_startsNot _ _ hc isSpace isSpace_of_idStart), Res.bind_ok', pIdentifier_print _ _ hc hr,
    Res.bind_ok', hpos, Res.bind_ok']
  cases pos with
  | none => rfl
  | some oc => rfl

end Syntax
end Tackler
