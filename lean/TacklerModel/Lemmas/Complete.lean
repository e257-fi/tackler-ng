import TacklerModel.Lemmas.AccountSums
/-! Second step of the balance (`completeTree_spec`): `completeTree` (bubble up from every account sum, flatten, collect into the ordered set)
    yields the account sums plus one zero entry per never-posted ancestor, strictly sorted by `keyLt`. -/
namespace Tackler
namespace C02

open KeyOrder

/-! ### `bubbleUp` -/

theorem isParentOf_iff (p c : AKey) : isParentOf p c = true ↔ p = (c.1, parentPath c.2) := by
  simp [isParentOf, Prod.ext_iff]

theorem prefix_parent {q p : Path} (h : q <+: p) (hne : q ≠ p) : q <+: parentPath p := by
  unfold parentPath
  rw [List.dropLast_eq_take]
  have hlen : q.length < p.length := by
    have := h.length_le
    rcases Nat.lt_or_ge q.length p.length with h' | h'
    · exact h'
    · exact absurd (h.eq_of_length (by omega)) hne
  apply List.prefix_of_prefix_length_le h (List.take_prefix _ _)
  rw [List.length_take]; omega

theorem parent_nonempty {p : Path} (h : ¬ p.length ≤ 1) : parentPath p ≠ [] := by
  unfold parentPath
  intro e
  have := congrArg List.length e
  rw [List.length_dropLast] at this
  simp at this; omega

/-- what one entry of a bubble-up chain from `me` looks like -/
def ChainEntry (sums : List (AKey × Dec)) (me x : AKey × Dec) : Prop :=
  x.1.1 = me.1.1 ∧ (me.1.2 ≠ [] → x.1.2 ≠ []) ∧ x.1.2 <+: me.1.2 ∧
  (x = me ∨ x ∈ sums ∨ (x.2 = Dec.zero ∧ x.1 ∉ sums.map (·.1)))

theorem bubbleUp_root {st : Settings} {sums : List (AKey × Dec)} {fuel : Nat} {me : AKey × Dec}
    (hroot : me.1.2.length ≤ 1) : bubbleUp st sums (fuel + 1) me = .ok [me] := by
  simp only [bubbleUp, if_pos hroot]

/-- one level of `bubbleUp` below the root: the chain continues from the parent entry `g` — the parent's account sum
    if it has one, else a zero entry, for which the settings are asked — and `me` is appended -/
theorem bubbleUp_step (st : Settings) (sums : List (AKey × Dec)) (fuel : Nat) (me : AKey × Dec)
    (hroot : ¬ me.1.2.length ≤ 1) :
    ∃ g, g.1 = (me.1.1, parentPath me.1.2) ∧ (g ∈ sums ∨ (g.2 = Dec.zero ∧ g.1 ∉ sums.map (·.1))) ∧
      (bubbleUp st sums (fuel + 1) me = (bubbleUp st sums fuel g).map (· ++ [me]) ∨
       bubbleUp st sums (fuel + 1) me = .undef ∨
       (bubbleUp st sums (fuel + 1) me = .err ∧ st.getTxnAccount (parentPath me.1.2) me.1.1 = .err)) := by
  simp only [bubbleUp, if_neg hroot]
  split
  · rename_i p hfind
    have hpk : p.1 = (me.1.1, parentPath me.1.2) := by
      have := List.find?_some hfind
      simpa [isParentOf_iff] using this
    exact ⟨p, hpk, .inl (List.mem_of_find?_eq_some hfind), .inl rfl⟩
  · rename_i hfind
    refine ⟨((me.1.1, parentPath me.1.2), Dec.zero), rfl, .inr ⟨rfl, ?_⟩, ?_⟩
    · intro hmem
      obtain ⟨s, hs, hsk⟩ := List.mem_map.mp hmem
      exact (List.find?_eq_none.mp hfind) s hs (by rw [isParentOf_iff]; exact hsk)
    · split
      · rename_i herr; exact .inr (.inr ⟨rfl, herr⟩)
      · exact .inr (.inl rfl)
      · exact .inl rfl

theorem bubbleUp_spec (st : Settings) (sums : List (AKey × Dec)) :
    ∀ (fuel : Nat) (me : AKey × Dec) (l : List (AKey × Dec)), bubbleUp st sums fuel me = .ok l →
      (∀ x ∈ l, ChainEntry sums me x) ∧
      (∀ q : Path, q ≠ [] → q <+: me.1.2 → ∃ x ∈ l, x.1 = (me.1.1, q)) := by
  intro fuel
  induction fuel with
  | zero => intro me l h; simp [bubbleUp] at h
  | succ fuel ih =>
    intro me l h
    by_cases hroot : me.1.2.length ≤ 1
    · rw [bubbleUp_root hroot] at h
      cases h
      constructor
      · intro x hx
        simp only [List.mem_singleton] at hx
        subst hx
        exact ⟨rfl, id, List.prefix_refl _, .inl rfl⟩
      · intro q hq hpre
        have hql : 1 ≤ q.length := by
          cases q with
          | nil => exact absurd rfl hq
          | cons _ _ => simp
        have : q = me.1.2 := hpre.eq_of_length (by have := hpre.length_le; omega)
        exact ⟨me, List.mem_singleton.mpr rfl, by rw [this]⟩
    · obtain ⟨g, hg, hgs, hstep | hstep | hstep⟩ := bubbleUp_step st sums fuel me hroot
      · -- the chain of the parent entry `g`, then `me`
        rw [hstep] at h
        obtain ⟨l', hl', rfl⟩ := (Outcome.map_ok _ _ _).mp h
        have hg1 : g.1.1 = me.1.1 := by rw [hg]
        have hg2 : g.1.2 = parentPath me.1.2 := by rw [hg]
        obtain ⟨ih1, ih2⟩ := ih g l' hl'
        constructor
        · intro x hx
          rcases List.mem_append.mp hx with hx | hx
          · obtain ⟨a, b, c, d⟩ := ih1 x hx
            refine ⟨a.trans hg1, fun _ => b (by rw [hg2]; exact parent_nonempty hroot), ?_, ?_⟩
            · rw [hg2] at c; exact c.trans (List.dropLast_prefix _)
            · rcases d with d | d | d
              · subst d
                rcases hgs with hgs | hgs
                · exact .inr (.inl hgs)
                · exact .inr (.inr hgs)
              · exact .inr (.inl d)
              · exact .inr (.inr d)
          · simp only [List.mem_singleton] at hx
            subst hx
            exact ⟨rfl, id, List.prefix_refl _, .inl rfl⟩
        · intro q hq hpre
          by_cases hqe : q = me.1.2
          · exact ⟨me, by simp, by rw [hqe]⟩
          · obtain ⟨x, hx, hxk⟩ := ih2 q hq (by rw [hg2]; exact prefix_parent hpre hqe)
            exact ⟨x, List.mem_append_left _ hx, by rw [hxk, hg1]⟩
      · rw [hstep] at h; cases h
      · rw [hstep.1] at h; cases h

theorem bubbleAll_spec (st : Settings) (sums : List (AKey × Dec)) :
    ∀ (l : List (AKey × Dec)) (ls : List (List (AKey × Dec))), bubbleAll st sums l = .ok ls →
      (∀ x ∈ ls.flatten, ∃ s ∈ l, ChainEntry sums s x) ∧
      (∀ s ∈ l, ∀ q : Path, q ≠ [] → q <+: s.1.2 → ∃ x ∈ ls.flatten, x.1 = (s.1.1, q)) := by
  intro l
  induction l with
  | nil => intro ls h; simp [bubbleAll] at h; subst h; simp
  | cons s rest ih =>
    intro ls h
    simp only [bubbleAll] at h
    split at h
    · cases h
    · cases h
    · rename_i c hc
      split at h
      · cases h
      · cases h
      · rename_i ls' hls'
        cases h
        obtain ⟨c1, c2⟩ := bubbleUp_spec st sums _ s c hc
        obtain ⟨ih1, ih2⟩ := ih ls' hls'
        constructor
        · intro x hx
          rw [List.flatten_cons] at hx
          rcases List.mem_append.mp hx with hx | hx
          · exact ⟨s, List.mem_cons_self, c1 x hx⟩
          · obtain ⟨s', hs', hce⟩ := ih1 x hx
            exact ⟨s', List.mem_cons_of_mem _ hs', hce⟩
        · intro s' hs' q hq hpre
          rw [List.flatten_cons]
          rcases List.mem_cons.mp hs' with rfl | hs''
          · obtain ⟨x, hx, hxk⟩ := c2 q hq hpre
            exact ⟨x, List.mem_append_left _ hx, hxk⟩
          · obtain ⟨x, hx, hxk⟩ := ih2 s' hs'' q hq hpre
            exact ⟨x, List.mem_append_right _ hx, hxk⟩

/-! ### the ordered set -/

section btree
variable (D : AKey × Dec → Prop)
  (hD : ∀ x y, D x → D y → nk x.1 = nk y.1 → x = y)

include hD in
theorem keyLt_of_pairLt (x y : AKey × Dec) (hx : D x) (hy : D y) (h : pairLt x y = true) :
    keyLt x.1 y.1 = true := by
  unfold pairLt at h
  rcases Bool.or_eq_true_iff.mp h with h | h
  · exact h
  · simp only [Bool.and_eq_true, beq_iff_eq] at h
    have := hD x y hx hy (by rw [h.1])
    subst this
    simp [Dec.ltVal] at h

theorem pairLt_false_keyLt (x y : AKey × Dec) (h : pairLt x y = false) : keyLt x.1 y.1 = false := by
  unfold pairLt at h
  simp only [Bool.or_eq_false_iff] at h
  exact h.1

include hD in
theorem btreeInsert_spec : ∀ (l : List (AKey × Dec)) (x : AKey × Dec), (∀ y ∈ l, D y) → D x →
    (l.map (·.1)).Pairwise (fun a b => keyLt a b = true) →
    ((btreeInsert l x).map (·.1)).Pairwise (fun a b => keyLt a b = true) ∧
    (∀ z, z ∈ btreeInsert l x ↔ z ∈ l ∨ z = x) := by
  intro l
  induction l with
  | nil => intro x _ _ _; simp [btreeInsert]
  | cons y t ih =>
    intro x hl hx hs
    have hy : D y := hl y List.mem_cons_self
    simp only [List.map_cons, List.pairwise_cons] at hs
    simp only [btreeInsert]
    split
    · rename_i h1
      have hlt := keyLt_of_pairLt D hD x y hx hy h1
      constructor
      · simp only [List.map_cons, List.pairwise_cons]
        refine ⟨?_, hs⟩
        intro k hk
        rcases List.mem_cons.mp hk with rfl | hk'
        · exact hlt
        · exact keyLt_trans _ _ _ hlt (hs.1 k hk')
      · intro z; simp only [List.mem_cons, or_comm]
    · rename_i h1
      split
      · rename_i h2
        have hlt := keyLt_of_pairLt D hD y x hy hx h2
        obtain ⟨ih1, ih2⟩ := ih x (fun z hz => hl z (List.mem_cons_of_mem _ hz)) hx hs.2
        constructor
        · simp only [List.map_cons, List.pairwise_cons]
          refine ⟨?_, ih1⟩
          intro k hk
          obtain ⟨z, hz, rfl⟩ := List.mem_map.mp hk
          rcases (ih2 z).mp hz with hz' | rfl
          · exact hs.1 z.1 (List.mem_map.mpr ⟨z, hz', rfl⟩)
          · exact hlt
        · intro z; simp only [List.mem_cons, ih2 z, or_assoc]
      · rename_i h2
        have e : x = y := hD x y hx hy (nk_eq_of_not_lt _ _
          (pairLt_false_keyLt x y (by simpa using h1)) (pairLt_false_keyLt y x (by simpa using h2)))
        subst e
        constructor
        · simp only [List.map_cons, List.pairwise_cons]; exact hs
        · intro z; simp only [List.mem_cons, or_self_left, or_comm]

include hD in
theorem foldl_btreeInsert_spec : ∀ (L acc : List (AKey × Dec)), (∀ y ∈ acc, D y) → (∀ y ∈ L, D y) →
    (acc.map (·.1)).Pairwise (fun a b => keyLt a b = true) →
    ((L.foldl btreeInsert acc).map (·.1)).Pairwise (fun a b => keyLt a b = true) ∧
    (∀ z, z ∈ L.foldl btreeInsert acc ↔ z ∈ acc ∨ z ∈ L) := by
  intro L
  induction L with
  | nil => intro acc _ _ hs; simp [hs]
  | cons x t ih =>
    intro acc hacc hL hs
    simp only [List.foldl_cons]
    have hx := hL x List.mem_cons_self
    obtain ⟨s1, m1⟩ := btreeInsert_spec D hD acc x hacc hx hs
    have hacc' : ∀ y ∈ btreeInsert acc x, D y := by
      intro y hy
      rcases (m1 y).mp hy with h | rfl
      · exact hacc y h
      · exact hx
    obtain ⟨s2, m2⟩ := ih (btreeInsert acc x) hacc' (fun y hy => hL y (List.mem_cons_of_mem _ hy)) s1
    refine ⟨s2, ?_⟩
    intro z
    rw [m2 z, m1 z]; simp only [List.mem_cons, or_assoc]

include hD in
theorem btreeCollect_spec (L : List (AKey × Dec)) (hL : ∀ y ∈ L, D y) :
    ((btreeCollect L).map (·.1)).Pairwise (fun a b => keyLt a b = true) ∧
    (∀ z, z ∈ btreeCollect L ↔ z ∈ L) := by
  have := foldl_btreeInsert_spec D hD L [] (by simp) hL (by simp)
  unfold btreeCollect
  refine ⟨this.1, ?_⟩
  intro z; rw [this.2 z]; simp

end btree

/-! ### `completeTree` -/

theorem eq_of_nodup_map {α β} (f : α → β) : ∀ {l : List α}, (l.map f).Nodup → ∀ {a b : α}, a ∈ l → b ∈ l →
    f a = f b → a = b := by
  intro l
  induction l with
  | nil => intro _ a b ha; cases ha
  | cons r t ih =>
    intro h a b ha hb e
    simp only [List.map_cons, List.nodup_cons, List.mem_map, not_exists, not_and] at h
    rcases List.mem_cons.mp ha with rfl | ha' <;> rcases List.mem_cons.mp hb with rfl | hb'
    · rfl
    · exact absurd e.symm (h.1 b hb')
    · exact absurd e (h.1 a ha')
    · exact ih h.2 ha' hb' e

theorem nodup_of_nodup_map {α β} (f : α → β) : ∀ {l : List α}, (l.map f).Nodup → l.Nodup :=
  fun h => (List.pairwise_map.mp h).imp fun hne e => hne (congrArg f e)

/-- what `completeTree` returns: the account sums and one zero entry per never-posted ancestor, in strict key order -/
structure CompleteSpec (sums C : List (AKey × Dec)) : Prop where
  sorted : (C.map (·.1)).Pairwise (fun a b => keyLt a b = true)
  mem : ∀ x ∈ C, x ∈ sums ∨ (x.2 = Dec.zero ∧ x.1 ∉ sums.map (·.1))
  sub : ∀ x ∈ sums, x ∈ C
  keys : ∀ k, k ∈ C.map (·.1) ↔ ∃ s ∈ sums, k.1 = s.1.1 ∧ k.2 ≠ [] ∧ k.2 <+: s.1.2

theorem completeTree_spec (st : Settings) (posts : List BPost) (hwf : PostsWF posts)
    (sums C : List (AKey × Dec)) (hA : AccSpec posts sums) (h : completeTree st sums = .ok C) :
    CompleteSpec sums C := by
  unfold completeTree at h
  obtain ⟨ls, hls, hC⟩ := (Outcome.map_ok _ _ _).mp h
  have hsne : ∀ s ∈ sums, s.1.2 ≠ [] := by
    intro s hs
    obtain ⟨p, hp, hpk⟩ := (hA.keys s.1).mp (List.mem_map.mpr ⟨s, hs, rfl⟩)
    rw [← hpk]; exact hwf.nonempty p hp
  obtain ⟨b1, b2⟩ := bubbleAll_spec st sums sums ls hls
  have hsnd : (sums.map (·.1)).Nodup := nodup_of_pairwise_keyLt _ hA.sorted
  -- the domain of the ordered set: entries of the flattened chains
  let D : AKey × Dec → Prop := fun x => x ∈ ls.flatten
  have hplay : ∀ x ∈ ls.flatten, ∃ y ∈ posts, x.1.2 <+: y.acct := by
    intro x hx
    obtain ⟨s, hs, _, _, hpre, _⟩ := b1 x hx
    obtain ⟨p, hp, hpk⟩ := (hA.keys s.1).mp (List.mem_map.mpr ⟨s, hs, rfl⟩)
    refine ⟨p, hp, ?_⟩
    have : p.acct = s.1.2 := by rw [← hpk]; rfl
    rw [this]; exact hpre
  have hcls : ∀ x ∈ ls.flatten, x ∈ sums ∨ (x.2 = Dec.zero ∧ x.1 ∉ sums.map (·.1)) := by
    intro x hx
    obtain ⟨s, hs, _, _, _, hc⟩ := b1 x hx
    rcases hc with rfl | hc | hc
    · exact .inl hs
    · exact .inl hc
    · exact .inr hc
  have hD : ∀ x y, D x → D y → nk x.1 = nk y.1 → x = y := by
    intro x y hx hy hn
    have hk : x.1 = y.1 := key_eq_of_nk posts hwf x.1 y.1 (hplay x hx) (hplay y hy) hn
    rcases hcls x hx with hxs | ⟨hx0, hxn⟩ <;> rcases hcls y hy with hys | ⟨hy0, hyn⟩
    · exact eq_of_nodup_map (·.1) hsnd hxs hys hk
    · exact absurd (List.mem_map.mpr ⟨x, hxs, hk⟩) hyn
    · exact absurd (List.mem_map.mpr ⟨y, hys, hk.symm⟩) hxn
    · exact Prod.ext hk (by rw [hx0, hy0])
  obtain ⟨c1, c2⟩ := btreeCollect_spec D hD ls.flatten (fun y hy => hy)
  rw [hC] at c1 c2
  refine ⟨c1, fun x hx => hcls x ((c2 x).mp hx), ?_, ?_⟩
  · intro s hs
    obtain ⟨x, hx, hxk⟩ := b2 s hs s.1.2 (hsne s hs) (List.prefix_refl _)
    have hxk' : x.1 = s.1 := by rw [hxk]
    rcases hcls x hx with hxs | ⟨_, hxn⟩
    · have := eq_of_nodup_map (·.1) hsnd hxs hs hxk'
      rw [← this]; exact (c2 x).mpr hx
    · exact absurd (List.mem_map.mpr ⟨s, hs, hxk'.symm⟩) hxn
  · intro k
    constructor
    · intro hk
      obtain ⟨x, hx, rfl⟩ := List.mem_map.mp hk
      obtain ⟨s, hs, h1, h2, h3, _⟩ := b1 x ((c2 x).mp hx)
      exact ⟨s, hs, h1, h2 (hsne s hs), h3⟩
    · intro ⟨s, hs, h1, h2, h3⟩
      obtain ⟨x, hx, hxk⟩ := b2 s hs k.2 h2 h3
      exact List.mem_map.mpr ⟨x, (c2 x).mpr hx, by rw [hxk, ← h1]⟩

end C02
end Tackler
