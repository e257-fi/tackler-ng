import TacklerModel.Lemmas.RoundTripLines
/-!
# Print then parse, continued (namespace `Syntax`): posting lines, header, transaction, journal

Ends with `parseJournal_print`: a printed list of well-formed transactions parses back to the parse trees `Print.rawOf`
(defined first, with the value position and unit the export prints for a posting).  The timestamp enters as the
hypothesis `TsRoundTrip`; see `Lemmas/RoundTrip` for the map of the chain.
-/
namespace Tackler

namespace Print

/-- the closing position the export prints for a posting -/
def closingOfPosting (div : Dec → Dec → Dec) (p : Posting) : Option Closing :=
  if p.txnComm = "" then none
  else if p.txnComm = p.comm then none
  else if p.isTotal then some (.total ⟨p.txnAmount, p.txnComm⟩)
  else some (.unitPrice ⟨div p.txnAmount p.amount, p.txnComm⟩)

def unitOfPosting (div : Dec → Dec → Dec) (p : Posting) : Option PostUnit :=
  if p.comm = "" then none else some ⟨p.comm, none, closingOfPosting div p⟩

def rawPostingOf (div : Dec → Dec → Dec) (p : Posting) : RawPosting :=
  ⟨p.acct, p.amount, unitOfPosting div p, p.comment⟩

/-- the parse tree of the printed transaction: every posting explicit, no amount-less last posting -/
def rawOf (div : Dec → Dec → Dec) (t : Txn) : RawTxn := ⟨t.header, t.posts.map (rawPostingOf div), none⟩

end Print

namespace Syntax
open Comb Print

/-- a posting the export prints so that it parses back -/
structure PostingWF (div : Dec → Dec → Dec) (p : Posting) : Prop where
  acct : ∃ parts, PartsWF parts ∧ p.acct = toPath parts ∧ acctOk parts = true
  amount : NumWF p.amount
  comm : p.comm = "" ∨ (IdentWF p.comm.toList ∧ isValidId p.comm.toList = true)
  nocomm : p.comm = "" → p.txnComm = ""
  priced : p.txnComm ≠ "" → p.txnComm ≠ p.comm →
    IdentWF p.txnComm.toList ∧ isValidId p.txnComm.toList = true ∧
    NumWF (if p.isTotal then p.txnAmount else div p.txnAmount p.amount)
  comment : ∀ c, p.comment = some c → LineText c.toList

theorem postTail_of_blank_cons (b : List Char) (c : Char) (r : List Char) (hb : Blanks b)
    (hc : c = ';' ∨ c = '\n' ∨ c = '\r') : PostTail (b ++ c :: r) := ⟨b, c, r, rfl, hb, hc⟩

theorem postTail_eol (w : List Char) {eol : List Char} (he : IsEol eol) (rest : List Char) (hw : Blanks w) :
    PostTail (w ++ (eol ++ rest)) := by
  rcases he with rfl | rfl
  · exact ⟨w, '\n', rest, rfl, hw, Or.inr (Or.inl rfl)⟩
  · exact ⟨w, '\r', '\n' :: rest, rfl, hw, Or.inr (Or.inr rfl)⟩

theorem parsePostingValue_print (div : Dec → Dec → Dec) (p : Posting) (hp : PostingWF div p) (tail : List Char)
    (ht : PostTail tail) :
    parsePostingValue (p.amount.toChars ++ (commChars p.comm ++ (priceChars div p ++ tail))) =
      .ok (p.amount, unitOfPosting div p) tail := by
  have htn := postTail_numStop ht
  have hti := postTail_idChar ht
  unfold parsePostingValue
  by_cases hc : p.comm = ""
  · -- no commodity: nothing but the amount
    have htc := hp.nocomm hc
    have e1 : commChars p.comm = [] := by simp [commChars, hc]
    have e2 : priceChars div p = [] := by simp [priceChars, htc]
    rw [e1, e2, List.nil_append, List.nil_append, pNumber_print p.amount tail hp.amount htn, Res.bind_ok',
      opt_of_bt (pUnit_tail ht), Res.bind_ok']
    simp [unitCommsOk, unitOfPosting, hc]
  · obtain ⟨hcid, hcv⟩ := hp.comm.resolve_left hc
    have e1 : commChars p.comm = ' ' :: p.comm.toList := by simp [commChars, hc]
    rw [e1]
    simp only [List.cons_append]
    rw [pNumber_print p.amount _ hp.amount (startsNot_cons _ (by decide)), Res.bind_ok']
    by_cases hpr : p.txnComm = "" ∨ p.txnComm = p.comm
    · -- own commodity: no value position
      have e2 : priceChars div p = [] := by
        rcases hpr with h | h <;> simp [priceChars, h]
      have ecl : closingOfPosting div p = none := by
        rcases hpr with h | h <;> simp [closingOfPosting, h]
      rw [e2, List.nil_append, opt_of_ok (pUnit_print _ tail tail none hcid hti (opt_of_bt (pPosition_tail ht))),
        Res.bind_ok']
      simp [unitCommsOk, unitOfPosting, hc, ecl, hcv]
    · -- priced: ` @ price COMM` or ` = total COMM`
      have hne1 : p.txnComm ≠ "" := fun h => hpr (Or.inl h)
      have hne2 : p.txnComm ≠ p.comm := fun h => hpr (Or.inr h)
      obtain ⟨htid, htv, hnum⟩ := hp.priced hne1 hne2
      obtain ⟨k, v, hk, hv, e2, ecl⟩ : ∃ k v, (k = '@' ∨ k = '=') ∧ NumWF v ∧
          priceChars div p = ' ' :: k :: ' ' :: (v.toChars ++ (' ' :: p.txnComm.toList)) ∧
          closingOfPosting div p = some (if k = '=' then .total ⟨v, p.txnComm⟩ else .unitPrice ⟨v, p.txnComm⟩) := by
        cases htot : p.isTotal <;> rw [htot] at hnum
        · exact ⟨'@', _, Or.inl rfl, by simpa using hnum, by simp [priceChars, hne1, hne2, htot],
            by simp [closingOfPosting, hne1, hne2, htot]⟩
        · exact ⟨'=', _, Or.inr rfl, by simpa using hnum, by simp [priceChars, hne1, hne2, htot],
            by simp [closingOfPosting, hne1, hne2, htot]⟩
      rw [e2]
      simp only [List.cons_append, List.append_assoc]
      rw [opt_of_ok (pUnit_print _ _ tail _ hcid (startsNot_cons _ (by decide))
        (opt_of_ok (pPosition_print k hk v p.txnComm.toList tail hv htid hti))), Res.bind_ok']
      rcases hk with rfl | rfl <;> simp [unitCommsOk, unitOfPosting, hc, ecl, hcv, htv]

theorem acctChars_toPath (parts : List (List Char)) : acctChars (toPath parts) = joinParts parts := by
  unfold acctChars; rw [toPath_chars]

theorem optString_toList (c : Option String) : optString (c.map String.toList) = c := by
  cases c <;> simp [optString, String.ofList_toList]

def postingTail (L : Layout) (c : Option String) (rest : List Char) : List Char :=
  postCommentChars c ++ (trailFor L c ++ (L.eol ++ rest))

theorem postingTail_postTail (L : Layout) (hL : LayoutOK L) (c : Option String) (rest : List Char) :
    PostTail (postingTail L c rest) := by
  cases c with
  | none => exact postTail_eol L.trail hL.eol rest hL.trail
  | some cm =>
    have e : " ; ".toList = [' ', ';', ' '] := by decide
    simp only [postingTail, postCommentChars, trailFor, e, List.nil_append, List.cons_append]
    exact ⟨[' '], ';', _, rfl, by simp [Blanks, isSpace], Or.inl rfl⟩

theorem postingTail_parse (L : Layout) (hL : LayoutOK L) (c : Option String) (rest : List Char)
    (hc : ∀ cm, c = some cm → LineText cm.toList) :
    ∃ w s, postingTail L c rest = w ++ s ∧ space0 (w ++ s) = .ok w s ∧
      opt pComment s = .ok (c.map String.toList) (L.eol ++ rest) := by
  cases c with
  | none =>
    refine ⟨L.trail, L.eol ++ rest, rfl, space0_append _ _ hL.trail (hL.eol.startsNot rest (by decide) (by decide)), ?_⟩
    exact opt_of_bt (pComment_startsNot (hL.eol.startsNot rest (by decide) (by decide)))
  | some cm =>
    have e : " ; ".toList = [' ', ';', ' '] := by decide
    refine ⟨[' '], ';' :: ' ' :: (cm.toList ++ (L.eol ++ rest)), ?_, ?_, ?_⟩
    · simp [postingTail, postCommentChars, trailFor, e]
    · exact space0_append _ _ (by simp [isSpace]) (startsNot_cons _ (by decide))
    · exact opt_of_ok (pComment_print cm.toList hL.eol rest (hc cm rfl))

theorem parseTxnPosting_print (L : Layout) (hL : LayoutOK L) (div : Dec → Dec → Dec) (p : Posting)
    (hp : PostingWF div p) (rest : List Char) :
    parseTxnPosting (postingL L div p ++ rest) = .ok (rawPostingOf div p) rest := by
  obtain ⟨parts, hparts, hacct, hok⟩ := hp.acct
  have htail := postingTail_postTail L hL p.comment rest
  obtain ⟨w, s, hws, hsp, hcm⟩ := postingTail_parse L hL p.comment rest hp.comment
  have hform : postingL L div p ++ rest =
      L.indent ++ (joinParts parts ++ ((L.sep ++ (if p.amount.isNeg then [] else [' '])) ++
        (p.amount.toChars ++ (commChars p.comm ++ (priceChars div p ++ postingTail L p.comment rest))))) := by
    simp [postingL, postingValueChars, postingTail, hacct, acctChars_toPath]
  rw [hform]
  have hsepb : Blanks (L.sep ++ (if p.amount.isNeg then [] else [' '])) := by
    intro c hc
    rcases List.mem_append.mp hc with h | h
    · exact hL.sep c h
    · split at h
      · cases h
      · simp at h; subst h; decide
  have hsepne : L.sep ++ (if p.amount.isNeg then [] else [' ']) ≠ [] := by
    intro h; exact hL.sep_ne (List.append_eq_nil_iff.mp h).1
  unfold parseTxnPosting
  rw [space1_append L.indent _ hL.indent_ne hL.indent (partsWF_startsNot parts _ hparts isSpace isSpace_of_idStart), Res.bind_ok']
  rw [pMultiPartId_print parts _ hparts (startsNot_append_of_ne_nil _ hsepne
    (startsNot_of_all (fun c hc => of_isSpace (by decide) (by decide) c (hsepb c hc))))]
  simp only [Res.bind_ok']
  rw [space1_append _ _ hsepne hsepb (toChars_startsNot_space _ _), Res.bind_ok',
    parsePostingValue_print div p hp _ htail, Res.bind_ok', hws, hsp, Res.bind_ok', hcm, Res.bind_ok',
    lineEnding_append hL.eol, Res.bind_ok']
  simp [hok, rawPostingOf, hacct, optString_toList]

def BlankOrEnd (r : List Char) : Prop :=
  r = [] ∨ ∃ b c t, r = b ++ (c :: t) ∧ Blanks b ∧ (c = '\n' ∨ c = '\r')

/-- blanks, then an account: what both kinds of posting line begin with, and a blank line does not -/
theorem account_end {β} (f : List (List Char) → List Char → Res β) {r : List Char} (h : BlankOrEnd r) :
    ((space1 r).bind fun _ s => (pMultiPartId s).bind f) = .bt := by
  rcases h with rfl | ⟨b, c, t, rfl, hb, hc⟩
  · rfl
  · have hcs : isSpace c = false := by rcases hc with rfl | rfl <;> decide
    have hci : idStartChar c = false := by rcases hc with rfl | rfl <;> decide
    exact space1_bind_bt _ b _ hb (startsNot_cons _ hcs) fun _ => by
      rw [pMultiPartId_startsNot (startsNot_cons _ hci)]; rfl

theorem parseTxnPosting_end {r : List Char} (h : BlankOrEnd r) : parseTxnPosting r = .bt := account_end _ h

theorem parseTxnLastPosting_end {r : List Char} (h : BlankOrEnd r) : parseTxnLastPosting r = .bt := account_end _ h

theorem parseTxnPostings_print (L : Layout) (hL : LayoutOK L) (div : Dec → Dec → Dec) (p0 : Posting) (ps : List Posting)
    (hp : ∀ p ∈ p0 :: ps, PostingWF div p) (rest : List Char) (hr : BlankOrEnd rest) :
    parseTxnPostings (((p0 :: ps).map (postingL L div)).flatten ++ rest) =
      .ok ((p0 :: ps).map (rawPostingOf div), none) rest := by
  unfold parseTxnPostings
  rw [repeat1_list parseTxnPosting parseTxnPosting_cons (postingL L div) (rawPostingOf div) (fun _ => True) rest
    (parseTxnPosting_end hr) trivial p0 ps (fun p hpm r _ => ⟨trivial, parseTxnPosting_print L hL div p (hp p hpm) r⟩)]
  simp only [Res.bind_ok']
  rw [opt_of_bt (parseTxnLastPosting_end hr)]
  rfl

/-! ## header -/

/-- the timestamp prints and parses back: `ts_roundtrip` (`Lemmas/RoundTripTs`) proves it of every `TsOK` timestamp -/
def TsRoundTrip (cfg : Time.TsCfg) (ts : Ts) : Prop :=
  ∀ r, parseTimestamp cfg (rfc3339 ts ++ r) = .ok ts r

structure HeaderWF (h : Header) : Prop where
  code : ∀ c, h.code = some c → (∀ d ∈ c.toList, validCodeChar d = true) ∧ trim c.toList = c.toList
  desc : ∀ d, h.desc = some d → LineText d.toList ∧ trimEnd d.toList = d.toList
  metaOK : MetaWF h
  comments : ∀ cs, h.comments = some cs → cs ≠ [] ∧ ∀ c ∈ cs, LineText c.toList

theorem parseTxnComment_nonComment {r : List Char} (h : AfterBlanksNot ';' r) : parseTxnComment r = .bt := by
  obtain ⟨b, s, rfl, hb, hs, hh⟩ := h; exact parseTxnComment_other b s hb hs hh

theorem descChars_form (d : Option String) (w : List Char) {eol : List Char} (he : IsEol eol) (X : List Char)
    (hw : Blanks w) :
    AfterBlanksNot '(' (descChars d ++ (w ++ (eol ++ X))) := by
  cases d with
  | none =>
    exact ⟨w, eol ++ X, rfl, hw, he.startsNot X (by decide) (by decide), he.startsNot X (by decide) (by decide)⟩
  | some d =>
    have e : " '".toList = [' ', '\''] := by decide
    refine ⟨[' '], '\'' :: (d.toList ++ (w ++ (eol ++ X))), ?_, by simp [Blanks, isSpace], startsNot_cons _ (by decide),
      startsNot_cons _ (by decide)⟩
    simp [descChars, e]

/-- ` (code)` of the header line, or nothing -/
theorem codeStep (L : Layout) (hL : LayoutOK L) (h : Header) (hh : HeaderWF h) (X : List Char) :
    opt (fun s => (space1 s).bind fun _ s => parseTxnCode s)
      (codeChars h.code ++ (descChars h.desc ++ (L.trail ++ (L.eol ++ X)))) =
      .ok h.code (descChars h.desc ++ (L.trail ++ (L.eol ++ X))) := by
  cases hc : h.code with
  | none =>
    obtain ⟨b, s, e, hb, hs, hp⟩ := descChars_form h.desc L.trail hL.eol X hL.trail
    show opt _ ([] ++ _) = _
    rw [List.nil_append, e]; exact opt_of_bt (space1_bind_bt _ b s hb hs fun _ => parseTxnCode_startsNot hp)
  | some c =>
    obtain ⟨hv, htrim⟩ := hh.code c hc
    have e : " (".toList = [' ', '('] := by decide
    apply opt_of_ok
    show (space1 _).bind _ = _
    simp only [codeChars, e, List.cons_append, List.nil_append, List.append_assoc]
    rw [space1_one _ (startsNot_cons _ (by decide)), Res.bind_ok',
      parseTxnCode_print c.toList (descChars h.desc ++ (L.trail ++ (L.eol ++ X))) hv, htrim, String.ofList_toList]

/-- ` 'description` or nothing, then the trailing blanks and the line ending of the header line -/
theorem descStep (L : Layout) (hL : LayoutOK L) (h : Header) (hh : HeaderWF h) (X : List Char) :
    ∃ Z, opt (fun s => (space1 s).bind fun _ s => parseTxnDescription s)
        (descChars h.desc ++ (L.trail ++ (L.eol ++ X))) = .ok h.desc Z ∧
      ((opt space1 Z).bind fun _ s => cutErr lineEnding s) = .ok () X := by
  have heolS : StartsNot isSpace (L.eol ++ X) := hL.eol.startsNot X (by decide) (by decide)
  cases hd : h.desc with
  | none =>
    refine ⟨L.trail ++ (L.eol ++ X), ?_, ?_⟩
    · show opt _ ([] ++ _) = _
      rw [List.nil_append]
      exact opt_of_bt (space1_bind_bt _ L.trail _ hL.trail heolS fun _ =>
        parseTxnDescription_startsNot (hL.eol.startsNot X (by decide) (by decide)))
    · by_cases hne : L.trail = []
      · rw [hne, List.nil_append, opt_of_bt (space1_none heolS), Res.bind_ok']
        exact cutErr_of_ok (lineEnding_append hL.eol X)
      · rw [opt_of_ok (space1_append L.trail _ hne hL.trail heolS), Res.bind_ok']
        exact cutErr_of_ok (lineEnding_append hL.eol X)
  | some d =>
    obtain ⟨hlt, htrim⟩ := hh.desc d hd
    have e : " '".toList = [' ', '\''] := by decide
    refine ⟨L.eol ++ X, ?_, ?_⟩
    · apply opt_of_ok
      show (space1 _).bind _ = _
      simp only [descChars, e, List.cons_append, List.nil_append]
      rw [space1_one _ (startsNot_cons _ (by decide)), Res.bind_ok',
        parseTxnDescription_print d.toList L.trail hL.eol X hlt hL.trail, htrim, String.ofList_toList]
    · rw [opt_of_bt (space1_none heolS), Res.bind_ok']
      exact cutErr_of_ok (lineEnding_append hL.eol X)

theorem commentLine_eq (L : Layout) (c : String) (r : List Char) :
    commentLine L c ++ r = L.indent ++ (';' :: ' ' :: (c.toList ++ (L.eol ++ r))) := by
  have e : "; ".toList = [';', ' '] := by decide
  simp [commentLine, e]

theorem commentLine_nonMeta (L : Layout) (hL : LayoutOK L) (c : String) (r : List Char) : NonMeta (commentLine L c ++ r) := by
  rw [commentLine_eq]
  exact ⟨L.indent, _, rfl, hL.indent, startsNot_cons _ (by decide), startsNot_cons _ (by decide)⟩

theorem commentLines_print (L : Layout) (hL : LayoutOK L) (cs : Option (List String)) (rest : List Char)
    (hc : ∀ l, cs = some l → l ≠ [] ∧ ∀ c ∈ l, LineText c.toList) (hr : AfterBlanksNot ';' rest) :
    opt (repeat1 parseTxnComment) (commentLines L cs ++ rest) = .ok cs rest := by
  cases cs with
  | none =>
    simp only [commentLines, List.nil_append]
    apply opt_of_bt
    unfold repeat1
    rw [parseTxnComment_nonComment hr]; rfl
  | some l =>
    obtain ⟨hne, hall⟩ := hc l rfl
    obtain ⟨c0, t, rfl⟩ := List.exists_cons_of_ne_nil hne
    simp only [commentLines]
    have := repeat1_list parseTxnComment parseTxnComment_cons (commentLine L) id (fun _ => True) rest
      (parseTxnComment_nonComment hr) trivial c0 t (fun c hcm r _ => ⟨trivial, by
        rw [commentLine_eq]
        have := parseTxnComment_print L.indent c.toList hL.eol r hL.indent hL.indent_ne (hall c hcm)
        rw [String.ofList_toList] at this
        exact this⟩)
    rw [opt_of_ok this]
    simp

def PostingStart (r : List Char) : Prop :=
  ∃ b s, r = b ++ s ∧ Blanks b ∧ StartsNot isSpace s ∧ StartsNot (fun c => !idStartChar c) s ∧ s ≠ []

theorem postingStart_other {r : List Char} (h : PostingStart r) (d : Char) (hd : idStartChar d = false) :
    AfterBlanksNot d r := by
  obtain ⟨b, s, rfl, hb, hs, hi, _⟩ := h
  refine ⟨b, s, rfl, hb, hs, fun c t e => ?_⟩
  have := hi c t e
  simp at this
  simp only [beq_eq_false_iff_ne, ne_eq]
  exact idStart_ne c d this hd

theorem headerL_eq (L : Layout) (h : Header) (rest : List Char) :
    headerL L h ++ rest = rfc3339 h.ts ++ (codeChars h.code ++ (descChars h.desc ++ (L.trail ++ (L.eol ++
      (metaBlock L h ++ (commentLines L h.comments ++ rest)))))) := by
  simp [headerL, metaBlock]

theorem commentLines_nonMeta (L : Layout) (hL : LayoutOK L) (cs : Option (List String)) (rest : List Char)
    (hc : ∀ l, cs = some l → l ≠ []) (hr : NonMeta rest) : NonMeta (commentLines L cs ++ rest) := by
  cases cs with
  | none => simpa [commentLines] using hr
  | some l =>
    obtain ⟨c0, t, rfl⟩ := List.exists_cons_of_ne_nil (hc l rfl)
    simp only [commentLines, List.map_cons, List.flatten_cons, List.append_assoc]
    exact commentLine_nonMeta L hL c0 _

theorem parseTxnHeader_print (cfg : Time.TsCfg) (L : Layout) (hL : LayoutOK L) (h : Header)
    (hts : TsRoundTrip cfg h.ts) (hh : HeaderWF h) (rest : List Char) (hr : PostingStart rest) :
    parseTxnHeader cfg (headerL L h ++ rest) = .ok h rest := by
  obtain ⟨m, hm, hu, hl, ht⟩ := parseTxnMeta_print L hL h (commentLines L h.comments ++ rest) hh.metaOK
    (commentLines_nonMeta L hL h.comments rest (fun l e => (hh.comments l e).1) (postingStart_other hr '#' (by decide)))
  have hcs := commentLines_print L hL h.comments rest hh.comments (postingStart_other hr ';' (by decide))
  obtain ⟨Z, hd1, hd2⟩ := descStep L hL h hh (metaBlock L h ++ (commentLines L h.comments ++ rest))
  rw [headerL_eq]
  unfold parseTxnHeader
  rw [hts, Res.bind_ok', codeStep L hL h hh, Res.bind_ok', hd1, Res.bind_ok', hd2, Res.bind_ok',
    hm, Res.bind_ok', hcs, Res.bind_ok', hu, hl, ht]

/-! ## transaction and journal -/

def TxnStartOrEnd (r : List Char) : Prop :=
  r = [] ∨ ∃ c t, r = c :: t ∧ isSpace c = false ∧ c ≠ '\n' ∧ c ≠ '\r'

theorem blankLine_stop {r : List Char} (h : TxnStartOrEnd r) : blankLine r = .bt := by
  unfold blankLine
  rcases h with rfl | ⟨c, t, rfl, hs, hn, hr⟩
  · rfl
  · rw [space0_none _ (startsNot_cons _ hs), Res.bind_ok']
    exact lineEnding_startsNot (startsNot_cons _ (by simp [hn, hr]))

theorem blankLine_print (b : List Char) {eol : List Char} (he : IsEol eol) (r : List Char) (hb : Blanks b) :
    blankLine (b ++ (eol ++ r)) = .ok () r := by
  unfold blankLine
  rw [space0_append b _ hb (he.startsNot r (by decide) (by decide)), Res.bind_ok']
  exact lineEnding_append he r

theorem blankLines_eq (L : Layout) (ls : List (List Char)) :
    blankLines L ls = (ls.map (fun b => b ++ L.eol)).flatten := rfl

theorem multispace_print (L : Layout) (hL : LayoutOK L) (l0 : List Char) (ls : List (List Char))
    (hb : ∀ l ∈ l0 :: ls, Blanks l) (r : List Char) (hr : TxnStartOrEnd r) :
    multispace0LineEnding (blankLines L (l0 :: ls) ++ r) = .ok () r := by
  unfold multispace0LineEnding
  rw [blankLines_eq]
  rw [repeat1_list blankLine blankLine_cons (fun b => b ++ L.eol) (fun _ => ()) (fun _ => True) r
    (blankLine_stop hr) trivial l0 ls (fun b hbm r' _ => ⟨trivial, by
      rw [List.append_assoc]; exact blankLine_print b hL.eol r' (hb b hbm)⟩)]
  rfl

theorem blankLines_blankOrEnd (L : Layout) (hL : LayoutOK L) (l0 : List Char) (ls : List (List Char))
    (hb : Blanks l0) (r : List Char) : BlankOrEnd (blankLines L (l0 :: ls) ++ r) := by
  rw [blankLines_eq]
  simp only [List.map_cons, List.flatten_cons, List.append_assoc]
  rcases hL.eol with e | e <;> rw [e]
  · exact Or.inr ⟨l0, '\n', _, rfl, hb, Or.inl rfl⟩
  · exact Or.inr ⟨l0, '\r', _, rfl, hb, Or.inr rfl⟩

structure TxnWF (cfg : Time.TsCfg) (div : Dec → Dec → Dec) (t : Txn) : Prop where
  ts : TsRoundTrip cfg t.header.ts
  header : HeaderWF t.header
  posts_ne : t.posts ≠ []
  posts : ∀ p ∈ t.posts, PostingWF div p

theorem postingL_start (L : Layout) (hL : LayoutOK L) (div : Dec → Dec → Dec) (p : Posting) (hp : PostingWF div p)
    (r : List Char) : PostingStart (postingL L div p ++ r) := by
  obtain ⟨parts, hparts, hacct, _⟩ := hp.acct
  obtain ⟨a, t, rfl, ⟨c, u, rfl, hc, _⟩, _⟩ := hparts
  refine ⟨L.indent, (c :: u) ++ ((t.map (fun p => ':' :: p)).flatten ++ (L.sep ++ (postingValueChars div p ++
    (postCommentChars p.comment ++ (trailFor L p.comment ++ (L.eol ++ r)))))), ?_, hL.indent,
    startsNot_cons _ (isSpace_of_idStart c hc), startsNot_cons _ (by simp [hc]), by simp⟩
  simp [postingL, hacct, acctChars_toPath, joinParts_cons]

theorem parseTxn_print (cfg : Time.TsCfg) (L : Layout) (hL : LayoutOK L) (div : Dec → Dec → Dec) (t : Txn)
    (ht : TxnWF cfg div t) (rest : List Char) (hr : TxnStartOrEnd rest) :
    parseTxn cfg (txnL L div t ++ rest) = .ok (rawOf div t) rest := by
  obtain ⟨p0, ps, hps⟩ := List.exists_cons_of_ne_nil ht.posts_ne
  obtain ⟨g0, gs, hg⟩ := List.exists_cons_of_ne_nil hL.gap_ne
  have hgb : ∀ l ∈ g0 :: gs, Blanks l := by rw [← hg]; exact hL.gap
  have hpw : ∀ p ∈ p0 :: ps, PostingWF div p := by rw [← hps]; exact ht.posts
  have hform : txnL L div t ++ rest =
      headerL L t.header ++ (((p0 :: ps).map (postingL L div)).flatten ++ (blankLines L (g0 :: gs) ++ rest)) := by
    simp [txnL, hps, hg]
  rw [hform]
  unfold parseTxn
  rw [cutErr_of_ok (parseTxnHeader_print cfg L hL t.header ht.ts ht.header _ (by
    simp only [List.map_cons, List.flatten_cons, List.append_assoc]
    exact postingL_start L hL div p0 (hpw p0 List.mem_cons_self) _))]
  simp only [Res.bind_ok']
  rw [cutErr_of_ok (parseTxnPostings_print L hL div p0 ps hpw _
    (blankLines_blankOrEnd L hL g0 gs (hgb g0 List.mem_cons_self) rest))]
  simp only [Res.bind_ok']
  rw [alt_of_ok (multispace_print L hL g0 gs hgb rest hr), Res.bind_ok']
  simp [rawOf, hps]

theorem pad_ne_nil (w n : Nat) : pad w n ≠ [] := by
  unfold pad Dec.padLeft
  intro h
  have := (List.append_eq_nil_iff.mp h).2
  exact Nat.toDigits_ne_nil this

theorem txnL_digit (L : Layout) (div : Dec → Dec → Dec) (t : Txn) (r : List Char) :
    ∃ c rest', isDecDigit c = true ∧ txnL L div t ++ r = c :: rest' := by
  obtain ⟨c, u, hc⟩ := List.exists_cons_of_ne_nil
    (pad_ne_nil 4 (Time.civilAt t.header.ts.ns t.header.ts.offset).1.toNat)
  obtain ⟨rest0, e0⟩ : ∃ rest0, txnL L div t ++ r =
      pad 4 (Time.civilAt t.header.ts.ns t.header.ts.offset).1.toNat ++ rest0 :=
    ⟨_, by simp only [txnL, headerL, rfc3339, List.append_assoc]; rfl⟩
  exact ⟨c, u ++ rest0, padLeft_all_digits 4 _ c (by show c ∈ pad 4 _; rw [hc]; exact List.mem_cons_self),
    by rw [e0, hc]; rfl⟩

theorem txnL_start (L : Layout) (div : Dec → Dec → Dec) (t : Txn) (r : List Char) : TxnStartOrEnd (txnL L div t ++ r) := by
  obtain ⟨c, rest', hd, e⟩ := txnL_digit L div t r
  rw [e]
  refine Or.inr ⟨c, rest', rfl, isSpace_of_digit c hd, ?_, ?_⟩ <;> (rintro rfl; revert hd; decide)

theorem txnL_ne_nil (L : Layout) (div : Dec → Dec → Dec) (t : Txn) : txnL L div t ≠ [] := by
  intro h
  obtain ⟨c, rest', _, e⟩ := txnL_digit L div t []
  rw [h] at e; cases e

theorem parseJournal_print (cfg : Time.TsCfg) (L : Layout) (hL : LayoutOK L) (div : Dec → Dec → Dec) (ts : List Txn)
    (hne : ts ≠ []) (hw : ∀ t ∈ ts, TxnWF cfg div t) :
    parseJournal cfg (printL L div ts) = some (ts.map (rawOf div)) := by
  obtain ⟨t0, tl, rfl⟩ := List.exists_cons_of_ne_nil hne
  obtain ⟨hrt, hq⟩ := repeatTill1_list (parseTxn cfg) (parseTxn_cons cfg) (txnL L div) (rawOf div) TxnStartOrEnd (Or.inl rfl)
    t0 tl (fun t htm => ⟨txnL_ne_nil L div t, fun r hr => ⟨txnL_start L div t r, parseTxn_print cfg L hL div t (hw t htm) r hr⟩⟩)
  have hlead : opt multispace0LineEnding (printL L div (t0 :: tl)) = .ok (if L.lead = [] then none else some ()) (((t0 :: tl).map (txnL L div)).flatten) := by
    unfold printL
    cases hl : L.lead with
    | nil =>
      simp only [blankLines, List.map_nil, List.flatten_nil, List.nil_append, if_true]
      apply opt_of_bt
      unfold multispace0LineEnding repeat1
      rw [blankLine_stop hq]; rfl
    | cons l0 ls =>
      have hb : ∀ l ∈ l0 :: ls, Blanks l := by rw [← hl]; exact hL.lead
      simp only [List.cons_ne_nil, if_false]
      exact opt_of_ok (multispace_print L hL l0 ls hb _ hq)
  unfold parseJournal parseTxns
  rw [hlead, Res.bind_ok', hrt]

end Syntax
end Tackler
