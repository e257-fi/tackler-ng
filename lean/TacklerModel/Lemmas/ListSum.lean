/-! `Int` sums over lists: additivity, congruence, filter-as-indicator, exchange of a double sum,
    "exactly one element of a duplicate-free list satisfies q", permutation invariance, flatten. -/
namespace Tackler
namespace ListSum

theorem sum_map_add {α} (l : List α) (f g : α → Int) :
    (l.map (fun a => f a + g a)).sum = (l.map f).sum + (l.map g).sum := by
  induction l with
  | nil => simp
  | cons a t ih => simp [ih]; omega

theorem sum_map_zero {α} (l : List α) : (l.map (fun _ => (0:Int))).sum = 0 := by
  induction l with
  | nil => simp
  | cons a t ih => simp [ih]

theorem sum_map_congr {α} (l : List α) (f g : α → Int) (h : ∀ a ∈ l, f a = g a) :
    (l.map f).sum = (l.map g).sum := by
  induction l with
  | nil => simp
  | cons a t ih =>
    simp only [List.map_cons, List.sum_cons]
    rw [h a (List.mem_cons_self), ih (fun b hb => h b (List.mem_cons_of_mem _ hb))]

theorem sum_map_eq_zero {α} (l : List α) (f : α → Int) (h : ∀ a ∈ l, f a = 0) : (l.map f).sum = 0 := by
  rw [sum_map_congr l f (fun _ => 0) h]; exact sum_map_zero l

theorem sum_filter_eq_ite {α} (l : List α) (p : α → Bool) (f : α → Int) :
    ((l.filter p).map f).sum = (l.map (fun a => if p a then f a else 0)).sum := by
  induction l with
  | nil => simp
  | cons a t ih =>
    by_cases h : p a <;> simp [h, ih]

theorem sum_comm {α β} (l : List α) (c : List β) (f : α → β → Int) :
    (l.map (fun a => (c.map (fun b => f a b)).sum)).sum
      = (c.map (fun b => (l.map (fun a => f a b)).sum)).sum := by
  induction l with
  | nil => simp [sum_map_zero]
  | cons a t ih =>
    simp only [List.map_cons, List.sum_cons, ih]
    rw [← sum_map_add]

theorem sum_ite_none {α} (l : List α) (q : α → Bool) (x : Int)
    (hq : ∀ c ∈ l, q c = false) :
    (l.map (fun c => if q c then x else 0)).sum = 0 := by
  apply sum_map_eq_zero
  intro b hb; simp [hq b hb]

theorem sum_ite_unique {α} (l : List α) (q : α → Bool) (x : Int) (c0 : α)
    (hc0 : c0 ∈ l) (hnd : l.Nodup) (hq : ∀ c ∈ l, q c = true ↔ c = c0) :
    (l.map (fun c => if q c then x else 0)).sum = x := by
  induction l with
  | nil => cases hc0
  | cons a t ih =>
    have hnd' := List.nodup_cons.mp hnd
    simp only [List.map_cons, List.sum_cons]
    by_cases hac : a = c0
    · subst hac
      have : q a = true := (hq a (List.mem_cons_self)).mpr rfl
      have ht : (t.map (fun c => if q c then x else 0)).sum = 0 := by
        apply sum_ite_none
        intro b hb
        cases hqb : q b with
        | false => rfl
        | true =>
          have := (hq b (List.mem_cons_of_mem _ hb)).mp hqb
          subst this
          exact absurd hb hnd'.1
      simp [this, ht]
    · have hqa : ¬ (q a = true) := fun h => hac ((hq a (List.mem_cons_self)).mp h)
      have hc0t : c0 ∈ t := by
        rcases List.mem_cons.mp hc0 with h | h
        · exact absurd h.symm hac
        · exact h
      have := ih hc0t hnd'.2 (fun c hc => hq c (List.mem_cons_of_mem _ hc))
      simp [hqa, this]

theorem perm_sum {l₁ l₂ : List Int} (h : l₁.Perm l₂) : l₁.sum = l₂.sum := by
  induction h with
  | nil => rfl
  | cons a _ ih => simp [ih]
  | swap a b l => simp only [List.sum_cons]; omega
  | trans _ _ ih1 ih2 => rw [ih1, ih2]

theorem perm_sum_map {α} {l₁ l₂ : List α} (f : α → Int) (h : l₁.Perm l₂) :
    (l₁.map f).sum = (l₂.map f).sum := perm_sum (h.map f)

theorem sum_flatten (L : List (List Int)) : L.flatten.sum = (L.map List.sum).sum := by
  induction L with
  | nil => rfl
  | cons l t ih => simp [ih]

theorem sum_map_flatten {α} (L : List (List α)) (f : α → Int) :
    (L.flatten.map f).sum = (L.map (fun l => (l.map f).sum)).sum := by
  induction L with
  | nil => rfl
  | cons l t ih =>
    rw [List.flatten_cons, List.map_append, List.sum_append_int, ih]
    simp

theorem sum_map_mul_right {α} (l : List α) (h : α → Int) (E : Int) :
    (l.map (fun a => h a * E)).sum = (l.map h).sum * E := by
  induction l with
  | nil => simp
  | cons a t ih => simp [ih, Int.add_mul]

end ListSum
end Tackler
