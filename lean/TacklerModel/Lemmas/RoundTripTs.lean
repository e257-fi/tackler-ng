import TacklerModel.Lemmas.RoundTrip
/-!
# Print then parse, the timestamp: `rfc_3339` then `parse_timestamp` (`ts_roundtrip`)

`TsOK ts` is a *decidable* condition on an instant-with-offset: its civil fields at its own offset are a valid date and
time in the years 0…9999, the offset is a whole number of minutes within ±25:59, and converting the civil fields back
gives the instant again.  The last conjunct holds of every instant (`Time.civilNs_civilAt`); `C06.tsOK_iff`
(`Props/C06b`) is `TsOK` without it.
-/
namespace Tackler
namespace Syntax
open Comb Print

/-- civil fields of `ts` at its own offset -/
def tsY (ts : Ts) : Nat := (Time.civilAt ts.ns ts.offset).1.toNat
def tsM (ts : Ts) : Nat := (Time.civilAt ts.ns ts.offset).2.1
def tsD (ts : Ts) : Nat := (Time.civilAt ts.ns ts.offset).2.2.1
def tsH (ts : Ts) : Nat := (Time.civilAt ts.ns ts.offset).2.2.2.1
def tsMi (ts : Ts) : Nat := (Time.civilAt ts.ns ts.offset).2.2.2.2.1
def tsS (ts : Ts) : Nat := (Time.civilAt ts.ns ts.offset).2.2.2.2.2.1
def tsNs (ts : Ts) : Nat := (Time.civilAt ts.ns ts.offset).2.2.2.2.2.2

def TsOK (ts : Ts) : Bool :=
  decide (tsY ts ≤ 9999) && Time.dateOk (tsY ts) (tsM ts) (tsD ts) && Time.timeOk (tsH ts) (tsMi ts) (tsS ts)
  && decide (tsNs ts < 1000000000)
  && Time.offsetOk ts.offset && decide (ts.offset.natAbs % 60 = 0)
  && Time.instantOk ts.ns
  && decide (Time.civilNs (tsY ts) (tsM ts) (tsD ts) (tsH ts) (tsMi ts) (tsS ts) (tsNs ts) - ts.offset * 1000000000 = ts.ns)

theorem lit_one (c : Char) (r : List Char) : lit [c] (c :: r) = .ok () r := by
  simpa using lit_append [c] r

theorem cutErr_lit_one (c : Char) (r : List Char) : cutErr (lit [c]) (c :: r) = .ok () r := cutErr_of_ok (lit_one c r)

/-! ### padded numbers -/

theorem pad_length (w n : Nat) (hw : 0 < w) (h : n < 10 ^ w) : (pad w n).length = w := by
  unfold pad
  apply Dec.padLeft_length_of_le
  exact (Nat.length_toDigits_le_iff (by decide) hw).mpr h

theorem pad_digits (w n : Nat) : ∀ c ∈ pad w n, isDecDigit c = true := padLeft_all_digits w n

theorem digits_pad (w n : Nat) : digits (pad w n) = n := Dec.digitsVal_padLeft w n

theorem twoDigits_print (n : Nat) (h : n < 100) (rest : List Char) : twoDigits (pad 2 n ++ rest) = .ok (pad 2 n) rest :=
  takeMN_exact 2 _ _ rest (pad_length 2 n (by decide) h) (pad_digits 2 n)

theorem cutErr_twoDigits_print (n : Nat) (h : n < 100) (rest : List Char) :
    cutErr twoDigits (pad 2 n ++ rest) = .ok (pad 2 n) rest := cutErr_of_ok (twoDigits_print n h rest)

theorem fourDigits_print (n : Nat) (h : n < 10000) (rest : List Char) :
    takeMN 4 4 isDecDigit (pad 4 n ++ rest) = .ok (pad 4 n) rest :=
  takeMN_exact 4 _ _ rest (pad_length 4 n (by decide) h) (pad_digits 4 n)

/-! ### fraction -/

theorem dropEndWhile_eq (p : Char → Bool) : ∀ l : List Char, dropEndWhile p l = (l.reverse.dropWhile p).reverse := by
  intro l
  induction l with
  | nil => rfl
  | cons c t ih =>
    rw [dropEndWhile, ih, List.reverse_cons, List.dropWhile_append]
    cases h : t.reverse.dropWhile p with
    | nil => cases hc : p c <;> simp [hc]
    | cons d r =>
      obtain ⟨d', r', e⟩ := List.exists_cons_of_ne_nil (l := (d :: r).reverse) (by simp)
      rw [e]
      simp [← e]

theorem dropEndWhile_append (pred : Char → Bool) (l : List Char) :
    ∃ z, l = dropEndWhile pred l ++ z ∧ ∀ c ∈ z, pred c = true :=
  ⟨(l.reverse.takeWhile pred).reverse,
    by rw [dropEndWhile_eq, ← List.reverse_append, List.takeWhile_append_dropWhile, List.reverse_reverse],
    fun c hc => mem_takeWhile_pred pred _ c (List.mem_reverse.mp hc)⟩

theorem dropEndWhile_sub (pred : Char → Bool) (l : List Char) : ∀ c ∈ dropEndWhile pred l, c ∈ l := by
  obtain ⟨z, hz, _⟩ := dropEndWhile_append pred l
  intro c hc
  rw [hz]; exact List.mem_append_left _ hc

theorem zeros_eq_replicate (z : List Char) (h : ∀ c ∈ z, (c == '0') = true) : z = List.replicate z.length '0' := by
  induction z with
  | nil => rfl
  | cons c t ih =>
    have hc : c = '0' := by simpa using h c List.mem_cons_self
    simp only [List.length_cons, List.replicate_succ, hc]
    rw [← ih (fun x hx => h x (List.mem_cons_of_mem _ hx))]

theorem fracNs_strip (ns : Nat) (h : ns < 1000000000) :
    Time.fracNs (dropEndWhile (fun c => c == '0') (pad 9 ns)) = ns := by
  obtain ⟨z, hz, hzero⟩ := dropEndWhile_append (fun c => c == '0') (pad 9 ns)
  have hlen : (pad 9 ns).length = 9 := pad_length 9 ns (by decide) h
  have hzr := zeros_eq_replicate z hzero
  have hl : (dropEndWhile (fun c => c == '0') (pad 9 ns)).length + z.length = 9 := by
    have := congrArg List.length hz
    rw [List.length_append, hlen] at this; omega
  have hv : Dec.digitsVal (pad 9 ns) = ns := digits_pad 9 ns
  rw [hz, Dec.digitsVal_eq_ofDigitChars, Nat.ofDigitChars_append, hzr, Nat.ofDigitChars_replicate_zero,
    ← Dec.digitsVal_eq_ofDigitChars] at hv
  unfold Time.fracNs
  have e : 9 - (dropEndWhile (fun c => c == '0') (pad 9 ns)).length = z.length := by omega
  rw [e, Nat.mul_comm]
  exact hv

theorem strip_ne_nil (ns : Nat) (h : ns < 1000000000) (hne : ns ≠ 0) :
    dropEndWhile (fun c => c == '0') (pad 9 ns) ≠ [] := by
  intro e
  have := fracNs_strip ns h
  rw [e] at this
  simp [Time.fracNs, Dec.digitsVal] at this
  exact hne this.symm

theorem strip_length (ns : Nat) (h : ns < 1000000000) :
    (dropEndWhile (fun c => c == '0') (pad 9 ns)).length ≤ 9 := by
  obtain ⟨z, hz, _⟩ := dropEndWhile_append (fun c => c == '0') (pad 9 ns)
  have hlen : (pad 9 ns).length = 9 := pad_length 9 ns (by decide) h
  have := congrArg List.length hz
  rw [List.length_append, hlen] at this; omega

/-- the optional fraction `[.fffffffff]` followed by a sign -/
theorem frac_print (ns : Nat) (h : ns < 1000000000) (rest : List Char) (hr : StartsNot isDecDigit rest)
    (hd : StartsNot (fun c => c == '.') rest) :
    ∃ fr, opt (fun s => (chr '.' s).bind fun _ s => cutErr (takeMN 1 9 isDecDigit) s) (fracChars ns ++ rest) = .ok fr rest ∧
      (match fr with | some ds => Time.fracNs ds | none => 0) = ns := by
  unfold fracChars
  by_cases hz : ns = 0
  · subst hz
    refine ⟨none, ?_, rfl⟩
    simp only [if_true, List.nil_append]
    apply opt_of_bt
    show (chr '.' rest).bind _ = .bt
    rw [chr_startsNot hd]; rfl
  · refine ⟨some (dropEndWhile (fun c => c == '0') (pad 9 ns)), ?_, fracNs_strip ns h⟩
    simp only [hz, if_false, List.cons_append]
    apply opt_of_ok
    show (chr '.' _).bind _ = _
    rw [chr_eq]; simp only [Res.bind_ok']
    apply cutErr_of_ok
    apply takeMN_upto 1 9 _ _ _ _ (strip_length ns h) _ hr
    · have := strip_ne_nil ns h hz
      exact List.length_pos_iff.mpr this
    · intro c hc
      exact pad_digits 9 ns c (dropEndWhile_sub _ _ c hc)

/-! ### the whole timestamp -/

theorem pDate_print {y m d : Nat} (hy : y < 10000) (hm : m < 100) (hd : d < 100) (hok : Time.dateOk y m d = true)
    (r : List Char) : pDate (pad 4 y ++ ('-' :: (pad 2 m ++ ('-' :: (pad 2 d ++ r))))) = .ok (y, m, d) r := by
  simp only [pDate, fourDigits_print y hy, cutErr_twoDigits_print m hm, cutErr_twoDigits_print d hd, cutErr_lit_one,
    Res.bind_ok', digits_pad, hok, if_true]

theorem pDatetime_print {y m d hh mi ss ns : Nat} (hy : y < 10000) (hm : m < 100) (hd : d < 100)
    (hdate : Time.dateOk y m d = true) (htime : Time.timeOk hh mi ss = true) (hns : ns < 1000000000)
    (r : List Char) (hr : StartsNot isDecDigit r) (hr' : StartsNot (fun c => c == '.') r) :
    ∃ fr, pDatetime (pad 4 y ++ ('-' :: (pad 2 m ++ ('-' :: (pad 2 d ++ ('T' :: (pad 2 hh ++
        (':' :: (pad 2 mi ++ (':' :: (pad 2 ss ++ (fracChars ns ++ r)))))))))))) = .ok ((y, m, d), (hh, mi, ss, fr)) r ∧
      (match fr with | some ds => Time.fracNs ds | none => 0) = ns := by
  obtain ⟨fr, hfr, hv⟩ := frac_print ns hns r hr hr'
  have ht : hh < 100 ∧ mi < 100 ∧ ss < 100 := by
    simp only [Time.timeOk, decide_eq_true_eq] at htime; omega
  refine ⟨fr, ?_, hv⟩
  simp only [pDatetime, pDate_print hy hm hd hdate, cutErr_twoDigits_print hh ht.1, cutErr_twoDigits_print mi ht.2.1,
    cutErr_twoDigits_print ss ht.2.2, lit_one, cutErr_lit_one, hfr, Res.bind_ok', digits_pad, htime, if_true]

/-- a whole number of minutes within ±25:59 is its sign, hours and minutes -/
theorem offset_hm (off : Int) (hm : off.natAbs % 60 = 0) :
    (if decide (off < 0) = true then -1 else 1) * ((off.natAbs / 3600 * 3600 + off.natAbs % 3600 / 60 * 60 : Nat) : Int)
      = off := by
  have hsum : off.natAbs / 3600 * 3600 + off.natAbs % 3600 / 60 * 60 = off.natAbs := by omega
  rw [hsum]
  by_cases hneg : off < 0
  · simp only [hneg, decide_true, if_true]; omega
  · simp only [hneg, decide_false, Bool.false_eq_true, if_false]; omega

theorem offsetChars_eq (off : Int) (h : off.natAbs % 60 = 0) (r : List Char) :
    offsetChars off ++ r = (if off < 0 then '-' else '+') :: (pad 2 (off.natAbs / 3600) ++ (':' :: (pad 2 (off.natAbs % 3600 / 60) ++ r))) := by
  unfold offsetChars
  simp only [h, if_true, List.append_nil]
  split <;> simp

theorem pOffset_print (off : Int) (hok : Time.offsetOk off = true) (hm : off.natAbs % 60 = 0) (r : List Char) :
    pOffset (offsetChars off ++ r) = .ok (decide (off < 0), off.natAbs / 3600, off.natAbs % 3600 / 60) r := by
  have hb : off.natAbs / 3600 < 100 ∧ off.natAbs % 3600 / 60 < 100 := by
    simp only [Time.offsetOk, decide_eq_true_eq] at hok; omega
  rw [offsetChars_eq off hm]
  have hsign : ∀ t, alt (fun s => (chr '+' s).map fun _ => false) (fun s => (chr '-' s).map fun _ => true)
      ((if off < 0 then '-' else '+') :: t) = .ok (decide (off < 0)) t := by
    intro t
    by_cases hneg : off < 0
    · simp only [hneg, if_true, decide_true, alt, chr_ne _ (show '-' ≠ '+' by decide), chr_eq, Res.map_bt, Res.map_ok']
    · simp only [hneg, if_false, decide_false, alt, chr_eq, Res.map_ok']
  simp only [pOffset, hsign, cutErr_twoDigits_print _ hb.1, cutErr_twoDigits_print _ hb.2, cutErr_lit_one, Res.bind_ok',
    digits_pad, offset_hm off hm, hok, if_true]

theorem offsetChars_startsNot (off : Int) (r : List Char) (pred : Char → Bool) (h1 : pred '+' = false) (h2 : pred '-' = false) :
    StartsNot pred (offsetChars off ++ r) := by
  unfold offsetChars
  split <;> simp only [List.cons_append, List.nil_append, List.append_assoc] <;> exact startsNot_cons _ (by assumption)

theorem rfc3339_eq (ts : Ts) (r : List Char) :
    rfc3339 ts ++ r = pad 4 (tsY ts) ++ ('-' :: (pad 2 (tsM ts) ++ ('-' :: (pad 2 (tsD ts) ++ ('T' :: (pad 2 (tsH ts) ++
      (':' :: (pad 2 (tsMi ts) ++ (':' :: (pad 2 (tsS ts) ++ (fracChars (tsNs ts) ++ (offsetChars ts.offset ++ r)))))))))))) := by
  simp only [rfc3339, List.append_assoc, List.cons_append, List.nil_append]
  rfl

theorem ts_roundtrip (cfg : Time.TsCfg) (ts : Ts) (hok : TsOK ts = true) (r : List Char) :
    parseTimestamp cfg (rfc3339 ts ++ r) = .ok ts r := by
  simp only [TsOK, Bool.and_eq_true, decide_eq_true_eq] at hok
  obtain ⟨⟨⟨⟨⟨⟨⟨hy, hdate⟩, htime⟩, hns⟩, hoff⟩, hmin⟩, hinst⟩, hinv⟩ := hok
  have hdm : tsM ts < 100 ∧ tsD ts < 100 := by
    simp only [Time.dateOk, Bool.and_eq_true, decide_eq_true_eq] at hdate
    have : Time.daysInMonth (tsY ts) (tsM ts) ≤ 31 := by
      unfold Time.daysInMonth; split <;> (try split) <;> omega
    omega
  obtain ⟨fr, hdt, hfrv⟩ := pDatetime_print (Nat.lt_succ_of_le hy) hdm.1 hdm.2 hdate htime hns (offsetChars ts.offset ++ r)
    (offsetChars_startsNot _ _ _ (by decide) (by decide)) (offsetChars_startsNot _ _ _ (by decide) (by decide))
  have hzo : pZuluOrOffset (offsetChars ts.offset ++ r) =
      .ok (some (decide (ts.offset < 0), ts.offset.natAbs / 3600, ts.offset.natAbs % 3600 / 60)) r := by
    simp only [pZuluOrOffset, alt, chr_startsNot (offsetChars_startsNot ts.offset r (fun d => d == 'Z') (by decide) (by decide)),
      pOffset_print ts.offset hoff hmin r, Res.map_bt, Res.map_ok']
  -- the token resolves to the instant it was printed from
  have hres : Time.resolveTs cfg ⟨tsY ts, tsM ts, tsD ts, some (tsH ts, tsMi ts, tsS ts, fr),
      some (some (decide (ts.offset < 0), ts.offset.natAbs / 3600, ts.offset.natAbs % 3600 / 60))⟩ = .ok ts := by
    simp only [Time.resolveTs, hdate, htime, Bool.not_true, Bool.false_eq_true, if_false, offset_hm ts.offset hmin,
      hoff]
    cases fr with
    | none => rw [← show 0 = tsNs ts from hfrv] at hinv; simp only [hinv, hinst, if_true]
    | some ds => rw [← show Time.fracNs ds = tsNs ts from hfrv] at hinv; simp only [hinv, hinst, if_true]
  rw [rfc3339_eq]
  simp only [parseTimestamp, alt, parseDatetimeTz, hdt, hzo, Res.bind_ok', ofOutcome, hres]

end Syntax
end Tackler
