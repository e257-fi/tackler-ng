import TacklerModel.Model.Output
/-!
# Lemmas about the buffered writer of `Model/Output.lean`

Invariant: as long as no write failed, `file ++ buffer` is exactly what the reporter has issued so far and the
file is within its limit (`Sink.Inv`, `BufWriter.Inv`); after a failed write the file holds exactly the first `limit`
bytes of everything that was issued, and nothing can be added any more (`Sink.Full`).  `Flushed` and `Wrote` say this
of one flush and of one write; `Wrote.andThen` and `Wrote.stuck` compose them into `writeAll_spec` and
`writeChunks_spec`.  Everything is proved for every capacity, chunking and limit.
-/
namespace Tackler
namespace Output

/-! ### limits -/

theorem fits_append_of_not_fits {l : Option Nat} {a : Bytes} (b : Bytes) (h : fits l a = false) :
    fits l (a ++ b) = false := by
  cases l with
  | none => simp [fits] at h
  | some k => simp [fits] at h ⊢; omega

theorem lim_append_of_not_fits {l : Option Nat} {a : Bytes} (b : Bytes) (h : fits l a = false) :
    lim l (a ++ b) = lim l a := by
  cases l with
  | none => simp [fits] at h
  | some k =>
    simp [fits] at h
    simp only [lim]
    rw [List.take_append_of_le_length (by omega)]

theorem lim_of_fits {l : Option Nat} {a : Bytes} (h : fits l a = true) : lim l a = a := by
  cases l with
  | none => rfl
  | some k => simp [fits] at h; simp [lim, List.take_of_length_le h]

theorem fits_of_append {l : Option Nat} {a : Bytes} (b : Bytes) (h : fits l (a ++ b) = true) :
    fits l a = true := by
  cases hf : fits l a with
  | true => rfl
  | false => rw [fits_append_of_not_fits b hf] at h; cases h

/-! ### the file -/

/-- a file never holds more than its limit -/
def Sink.Inv (s : Sink) : Prop := ∀ k, s.limit = some k → s.data.length ≤ k

/-- the file is at its limit: nothing can be added -/
def Sink.Full (s : Sink) : Prop := ∃ k, s.limit = some k ∧ s.data.length = k

theorem Sink.Full.inv {s : Sink} (h : s.Full) : s.Inv := by
  intro k hk
  obtain ⟨k', hk', hl⟩ := h
  rw [hk] at hk'
  cases hk'
  omega

theorem sink_writeAll_spec (s : Sink) (bs : Bytes) (hi : s.Inv) :
    (s.writeAll bs).1.data = lim s.limit (s.data ++ bs) ∧
    (s.writeAll bs).2.2 = fits s.limit (s.data ++ bs) ∧
    (s.writeAll bs).1.limit = s.limit ∧
    (s.writeAll bs).1.Inv ∧
    ((s.writeAll bs).2.2 = false → (s.writeAll bs).1.Full) ∧
    ((s.writeAll bs).2.2 = true → (s.writeAll bs).2.1 = []) := by
  unfold Sink.writeAll
  cases hl : s.limit with
  | none =>
    simp [lim, fits, Sink.Inv]
  | some k =>
    have hk := hi k hl
    by_cases hle : s.data.length + bs.length ≤ k
    · simp only [hle, if_true]
      refine ⟨?_, ?_, trivial, ?_, ?_, ?_⟩
      · simp only [lim]
        rw [List.take_of_length_le (by simp; omega)]
      · simp [fits]; omega
      · intro k' hk'; cases hk'; simp; omega
      · intro h; cases h
      · intro _; trivial
    · simp only [hle, if_false]
      refine ⟨?_, ?_, trivial, ?_, ?_, ?_⟩
      · simp only [lim]
        rw [List.take_append]
        rw [List.take_of_length_le hk]
      · simp [fits]; omega
      · intro k' hk'; cases hk'; simp [List.length_take]; omega
      · intro _; exact ⟨k, rfl, by simp [List.length_take]; omega⟩
      · intro h; cases h

theorem sink_writeAll_full (s : Sink) (bs : Bytes) (hf : s.Full) :
    (s.writeAll bs).1.data = s.data ∧ (s.writeAll bs).1.Full := by
  obtain ⟨k, hk, hl⟩ := hf
  unfold Sink.writeAll
  simp only [hk]
  by_cases hle : s.data.length + bs.length ≤ k
  · simp only [hle, if_true]
    have : bs = [] := by
      cases bs with
      | nil => rfl
      | cons b t => simp at hle; omega
    subst this
    simp
    exact ⟨k, rfl, by simpa using hl⟩
  · simp only [hle, if_false]
    have h0 : k - s.data.length = 0 := by omega
    simp [h0]
    exact ⟨k, rfl, by simpa using hl⟩

/-! ### the buffered writer -/

/-- everything the writer has accepted and not lost: file, then buffer -/
def BufWriter.all (w : BufWriter) : Bytes := w.inner.data ++ w.buf

structure BufWriter.Inv (w : BufWriter) : Prop where
  sink : w.inner.Inv
  room : w.buf.length ≤ w.cap

theorem BufWriter.inv_empty (limit : Option Nat) (cap : Nat) : (⟨⟨[], limit⟩, [], cap⟩ : BufWriter).Inv :=
  ⟨fun _ _ => Nat.zero_le _, Nat.zero_le _⟩

/-- what `flush_buf` guarantees, `r` being its result on `w` -/
structure Flushed (w : BufWriter) (r : BufWriter × Bool) : Prop where
  limit : r.1.inner.limit = w.inner.limit
  cap : r.1.cap = w.cap
  inv : r.1.inner.Inv
  ok : r.2 = true → r.1.inner.data = w.all ∧ r.1.buf = [] ∧ fits w.inner.limit w.all = true
  failed : r.2 = false → r.1.inner.data = lim w.inner.limit w.all ∧ fits w.inner.limit w.all = false ∧ r.1.inner.Full

theorem flushBuf_spec (w : BufWriter) (hi : w.inner.Inv) : Flushed w w.flushBuf := by
  unfold BufWriter.flushBuf
  cases hb : w.buf with
  | nil =>
    refine ⟨rfl, rfl, hi, fun _ => ?_, nofun⟩
    simp only [BufWriter.all, hb, List.append_nil]
    refine ⟨trivial, trivial, ?_⟩
    cases hl : w.inner.limit with
    | none => rfl
    | some k => simp [fits]; exact hi k hl
  | cons b bs =>
    obtain ⟨h1, h2, h3, h4, h5, h6⟩ := sink_writeAll_spec w.inner w.buf hi
    simp only [← hb]
    refine ⟨h3, rfl, h4, fun hok => ?_, fun hf => ⟨h1, h2.symm.trans hf, h5 hf⟩⟩
    have hfit : fits w.inner.limit w.all = true := h2.symm.trans hok
    exact ⟨h1.trans (lim_of_fits hfit), h6 hok, hfit⟩

theorem drop_spec (w : BufWriter) (hi : w.inner.Inv) : w.drop.data = lim w.inner.limit w.all := by
  have F := flushBuf_spec w hi
  unfold BufWriter.drop
  cases h : w.flushBuf.2 with
  | true => obtain ⟨h1, _, h3⟩ := F.ok h; rw [h1, lim_of_fits h3]
  | false => exact (F.failed h).1

theorem drop_full (w : BufWriter) (hf : w.inner.Full) : w.drop.data = w.inner.data := by
  unfold BufWriter.drop BufWriter.flushBuf
  cases hb : w.buf with
  | nil => rfl
  | cons b bs => simp only; exact (sink_writeAll_full w.inner (b :: bs) hf).1

/-- what every operation of the writer guarantees, `r` being the result of issuing `c` to `w` -/
structure Wrote (w : BufWriter) (c : Bytes) (r : BufWriter × Bool) : Prop where
  limit : r.1.inner.limit = w.inner.limit
  cap : r.1.cap = w.cap
  ok : r.2 = true → r.1.all = w.all ++ c ∧ r.1.Inv
  failed : r.2 = false → r.1.drop.data = lim w.inner.limit (w.all ++ c) ∧ fits w.inner.limit (w.all ++ c) = false

theorem Wrote.andThen {w : BufWriter} {c c' : Bytes} {r r' : BufWriter × Bool} (h : Wrote w c r) (hr : r.2 = true)
    (h' : Wrote r.1 c' r') : Wrote w (c ++ c') r' := by
  obtain ⟨a1, _⟩ := h.ok hr
  refine ⟨h'.limit.trans h.limit, h'.cap.trans h.cap, fun h2 => ?_, fun h2 => ?_⟩
  · have := h'.ok h2
    rwa [a1, List.append_assoc] at this
  · have := h'.failed h2
    rwa [h.limit, a1, List.append_assoc] at this

theorem Wrote.stuck {w : BufWriter} {c : Bytes} {r : BufWriter × Bool} (h : Wrote w c r) (hr : r.2 = false)
    (c' : Bytes) : Wrote w (c ++ c') r := by
  obtain ⟨a1, a2⟩ := h.failed hr
  refine ⟨h.limit, h.cap, fun h2 => (by rw [hr] at h2; cases h2), fun _ => ?_⟩
  rw [← List.append_assoc]
  exact ⟨by rw [a1, lim_append_of_not_fits _ a2], fits_append_of_not_fits _ a2⟩

theorem Wrote.drop_data {w : BufWriter} {c : Bytes} {r : BufWriter × Bool} (h : Wrote w c r) :
    r.1.drop.data = lim w.inner.limit (w.all ++ c) := by
  cases hr : r.2 with
  | false => exact (h.failed hr).1
  | true =>
    obtain ⟨a1, a2⟩ := h.ok hr
    rw [drop_spec _ a2.sink, h.limit, a1]

theorem Flushed.wrote {w : BufWriter} {r : BufWriter × Bool} (F : Flushed w r) : Wrote w [] r := by
  refine ⟨F.limit, F.cap, fun h => ?_, fun h => ?_⟩
  · obtain ⟨g1, g2, _⟩ := F.ok h
    exact ⟨by simp [BufWriter.all, g1, g2], F.inv, by rw [g2]; exact Nat.zero_le _⟩
  · obtain ⟨g1, g2, g3⟩ := F.failed h
    rw [List.append_nil]
    exact ⟨by rw [drop_full _ g3, g1], g2⟩

theorem writeThrough_spec (w : BufWriter) (c : Bytes) (hi : w.Inv)
    (hroom : c.length ≥ w.cap → w.buf = []) (hfit : c.length < w.cap → w.buf.length + c.length ≤ w.cap) :
    Wrote w c (w.writeThrough c) := by
  unfold BufWriter.writeThrough
  by_cases hc : c.length ≥ w.cap
  · have hb := hroom hc
    obtain ⟨h1, h2, h3, h4, h5, _⟩ := sink_writeAll_spec w.inner c hi.sink
    simp only [hc, if_true]
    refine ⟨h3, rfl, fun hok => ?_, fun hf => ?_⟩
    · rw [h2] at hok
      refine ⟨?_, ⟨h4, hi.room⟩⟩
      simp only [BufWriter.all, hb, List.append_nil]
      rw [h1, lim_of_fits hok]
    · simp only [BufWriter.all, hb, List.append_nil]
      exact ⟨by rw [drop_full _ (h5 hf)]; exact h1, by rw [← h2]; exact hf⟩
  · simp only [hc, if_false]
    refine ⟨rfl, rfl, fun _ => ⟨by simp [BufWriter.all], hi.sink, ?_⟩, nofun⟩
    have := hfit (by omega)
    simp; omega

theorem writeAll_spec (w : BufWriter) (c : Bytes) (hi : w.Inv) : Wrote w c (w.writeAll c) := by
  have hroom := hi.room
  unfold BufWriter.writeAll
  by_cases hfast : c.length < w.cap - w.buf.length
  · simp only [hfast, if_true]
    exact ⟨rfl, rfl, fun _ => ⟨by simp [BufWriter.all], hi.sink, by simp; omega⟩, nofun⟩
  · simp only [hfast, if_false]
    unfold BufWriter.writeAllCold
    by_cases hbig : c.length > w.cap - w.buf.length
    · -- flush, then write through the empty buffer
      simp only [hbig, if_true]
      have F := flushBuf_spec w hi.sink
      cases hf : w.flushBuf.2 with
      | true =>
        simp only [if_true]
        have hempty := (F.ok hf).2.1
        exact F.wrote.andThen hf (writeThrough_spec _ c (F.wrote.ok hf).2 (fun _ => hempty) (fun h => by
          rw [F.cap] at h; rw [hempty, F.cap]; simp; omega))
      | false =>
        simp only [Bool.false_eq_true, if_false]
        rw [← hf]
        exact F.wrote.stuck hf c
    · simp only [hbig, if_false]
      exact writeThrough_spec w c hi (fun h => List.length_eq_zero_iff.mp (by omega)) (fun h => by omega)

theorem writeChunks_spec (cs : List Bytes) : ∀ (w : BufWriter), w.Inv → Wrote w cs.flatten (writeChunks w cs) := by
  induction cs with
  | nil => exact fun w hi => ⟨rfl, rfl, fun _ => ⟨(List.append_nil _).symm, hi⟩, nofun⟩
  | cons c cs ih =>
    intro w hi
    have S := writeAll_spec w c hi
    simp only [writeChunks, List.flatten_cons]
    cases hr : (w.writeAll c).2 with
    | true => exact S.andThen hr (ih _ (S.ok hr).2)
    | false =>
      simp only [Bool.false_eq_true, if_false]
      rw [← hr]
      exact S.stuck hr _

end Output
end Tackler
