import TacklerModel.Model.Accept
import TacklerModel.Lemmas.Dec
/-!
# The acceptor (`Model/Accept.lean`) read two ways

Each function of the load path as a chain of `bind`s (`handlePosting_eq`, `acceptPostings_eq`, `acceptTags_eq`,
`acceptHeader_eq`, `acceptTxn_eq`): the form in which a statement about all three outcome classes follows the text.
And what a successful call decomposes into (`mkPosting_ok`, `gocta_acct`, `handlePosting_ok`, `acceptPostings_ok`,
`acceptTags_ok`, `acceptHeader_ok`, `acceptTxn_ok`; the last five are equivalences; `handlePosting_posting`, `acceptTxn_balanced`
are their state-free readings).  Nothing here speaks of charts.
-/
namespace Tackler

theorem mkPosting_ok (p q : Posting) (h : mkPosting p = .ok q) : q = p ∧ p.amount.units ≠ 0 := by
  unfold mkPosting at h
  split at h
  · cases h
  · rename_i hz
    cases h
    exact ⟨rfl, Dec.units_ne_zero _ (by simpa using hz)⟩

theorem mkPosting_eq (q p : Posting) (h : mkPosting q = .ok p) : p = q := (mkPosting_ok q p h).1

theorem gocta_acct (st : Settings) (a : Path) (c : String) (a' : Path) (st' : Settings)
    (h : st.getOrCreateTxnAccount a c = .ok (a', st')) : a' = a := by
  unfold Settings.getOrCreateTxnAccount at h
  (repeat' split at h) <;> first | (cases h; done) | (cases h; rfl)

/-! ### bind forms -/

theorem handlePosting_eq (s : Settings) (rp : RawPosting) :
    handlePosting s rp =
      (registerUnit s rp.unit).bind fun s1 => (valuePosition rp.amount rp.unit).bind fun vp =>
        (s1.getOrCreateTxnAccount rp.acct vp.postComm).bind fun r =>
          (mkPosting ⟨r.1, vp.postComm, vp.postAmount, vp.txnAmount, vp.isTotal, vp.txnComm, rp.comment⟩).map (·, r.2) := by
  unfold handlePosting
  cases registerUnit s rp.unit with
  | err => rfl
  | undef => rfl
  | ok s1 =>
    dsimp only [Outcome.bind]
    cases valuePosition rp.amount rp.unit with
    | err => rfl
    | undef => rfl
    | ok vp =>
      dsimp only
      cases s1.getOrCreateTxnAccount rp.acct vp.postComm with
      | err => rfl
      | undef => rfl
      | ok r => rfl

theorem acceptPostings_eq (s : Settings) (posts : List RawPosting) (last : Option (Path × Option String)) :
    acceptPostings s posts last = (mapMS handlePosting s posts).bind fun q =>
      match q.1, last with
      | [], _ => .err
      | p0 :: rest, none => .ok (p0 :: rest, q.2)
      | p0 :: rest, some (a, cmt) =>
        match txnSum (p0 :: rest) with
        | none => Outcome.inexact (txnSumOverflows (p0 :: rest))
        | some sm => (q.2.getOrCreateTxnAccount a p0.txnComm).bind fun r =>
            (mkPosting ⟨r.1, p0.txnComm, sm.negate, sm.negate, false, p0.txnComm, cmt⟩).map
              fun l => ((p0 :: rest) ++ [l], r.2) := by
  unfold acceptPostings
  cases mapMS handlePosting s posts with
  | err => rfl
  | undef => rfl
  | ok q =>
    obtain ⟨ps, s1⟩ := q
    dsimp only [Outcome.bind]
    cases ps with
    | nil => rfl
    | cons p0 rest =>
      cases last with
      | none => rfl
      | some ac =>
        obtain ⟨a, cmt⟩ := ac
        dsimp only
        cases txnSum (p0 :: rest) with
        | none => rfl
        | some sm =>
          dsimp only
          cases s1.getOrCreateTxnAccount a p0.txnComm with
          | err => rfl
          | undef => rfl
          | ok r => rfl

theorem acceptTags_eq (s : Settings) (tags : List String) :
    acceptTags s tags = (mapMS (fun s t => s.getOrCreateTag t) s tags).bind fun q =>
      if tags.Nodup then .ok q.2 else .err := by
  unfold acceptTags
  cases mapMS (fun s t => s.getOrCreateTag t) s tags with
  | err => rfl
  | undef => rfl
  | ok q => rfl

def locOk (h : Header) : Bool := match h.location with | some g => geoOk g | none => true

theorem acceptHeader_eq (s : Settings) (h : Header) :
    acceptHeader s h =
      if locOk h then
        (match h.tags with | some ts => acceptTags s ts | none => .ok s).bind fun s1 =>
          if s.audit && h.uuid.isNone then .err else .ok s1
      else .err := by
  have tags : ∀ b : Bool, (match b with
      | false => Outcome.err
      | true => match (match h.tags with | some ts => acceptTags s ts | none => .ok s) with
        | .err => .err
        | .undef => .undef
        | .ok st1 => if s.audit && h.uuid.isNone then .err else .ok st1) =
      if b then (match h.tags with | some ts => acceptTags s ts | none => .ok s).bind fun s1 =>
          if s.audit && h.uuid.isNone then .err else .ok s1
      else .err := by
    intro b
    cases b with
    | false => rfl
    | true => cases h.tags with
      | none => rfl
      | some ts => dsimp only; cases acceptTags s ts <;> rfl
  unfold acceptHeader locOk
  cases h.location with
  | none => exact tags true
  | some g => exact tags (geoOk g)

theorem acceptTxn_eq (s : Settings) (r : RawTxn) :
    acceptTxn s r = (acceptHeader s r.header).bind fun s1 => (acceptPostings s1 r.posts r.last).bind fun q =>
      match q.1 with
      | [] => .err
      | p0 :: _ =>
        if q.1.any (fun p => p.txnComm != p0.txnComm) then .err
        else match txnSum q.1 with
          | none => Outcome.inexact (txnSumOverflows q.1)
          | some sm => if sm.isZero then .ok (⟨r.header, q.1⟩, q.2) else .err := by
  unfold acceptTxn
  cases acceptHeader s r.header with
  | err => rfl
  | undef => rfl
  | ok s1 =>
    dsimp only [Outcome.bind]
    cases acceptPostings s1 r.posts r.last with
    | err => rfl
    | undef => rfl
    | ok q => rfl

/-! ### a successful call -/

theorem handlePosting_ok (s : Settings) (rp : RawPosting) (p : Posting) (s2 : Settings) :
    handlePosting s rp = .ok (p, s2) ↔
      ∃ s1 vp a, registerUnit s rp.unit = .ok s1 ∧ valuePosition rp.amount rp.unit = .ok vp ∧
        s1.getOrCreateTxnAccount rp.acct vp.postComm = .ok (a, s2) ∧
        mkPosting ⟨a, vp.postComm, vp.postAmount, vp.txnAmount, vp.isTotal, vp.txnComm, rp.comment⟩ = .ok p := by
  simp only [handlePosting_eq, Outcome.bind_ok, Outcome.map_ok, Prod.exists, Prod.mk.injEq]
  constructor
  · rintro ⟨s1, h1, vp, h2, a, _, h3, q, h4, rfl, rfl⟩
    exact ⟨s1, vp, a, h1, h2, h3, h4⟩
  · rintro ⟨s1, vp, a, h1, h2, h3, h4⟩
    exact ⟨s1, h1, vp, h2, a, s2, h3, p, h4, rfl, rfl⟩

theorem acceptPostings_ok (s : Settings) (posts : List RawPosting) (last : Option (Path × Option String))
    (all : List Posting) (s2 : Settings) :
    acceptPostings s posts last = .ok (all, s2) ↔
      ∃ p0 rest s1, mapMS handlePosting s posts = .ok (p0 :: rest, s1) ∧
        ((last = none ∧ all = p0 :: rest ∧ s2 = s1) ∨
         (∃ a cmt sm a' l, last = some (a, cmt) ∧ txnSum (p0 :: rest) = some sm ∧
            s1.getOrCreateTxnAccount a p0.txnComm = .ok (a', s2) ∧
            mkPosting ⟨a', p0.txnComm, sm.negate, sm.negate, false, p0.txnComm, cmt⟩ = .ok l ∧
            all = (p0 :: rest) ++ [l])) := by
  simp only [acceptPostings_eq, Outcome.bind_ok, Prod.exists]
  constructor
  · rintro ⟨ps, s1, h1, h⟩
    cases ps with
    | nil => cases h
    | cons p0 rest =>
      refine ⟨p0, rest, s1, h1, ?_⟩
      cases last with
      | none => cases h; exact .inl ⟨rfl, rfl, rfl⟩
      | some ac =>
        obtain ⟨a, cmt⟩ := ac
        dsimp only at h
        cases hsm : txnSum (p0 :: rest) with
        | none => rw [hsm] at h; exact absurd h (Outcome.inexact_ne_ok _ _)
        | some sm =>
          rw [hsm] at h
          simp only [Outcome.bind_ok, Outcome.map_ok, Prod.exists, Prod.mk.injEq] at h
          obtain ⟨a', s2', hg, l, hl, rfl, rfl⟩ := h
          exact .inr ⟨a, cmt, sm, a', l, rfl, rfl, hg, hl, rfl⟩
  · rintro ⟨p0, rest, s1, h1, hcase⟩
    refine ⟨p0 :: rest, s1, h1, ?_⟩
    rcases hcase with ⟨rfl, rfl, rfl⟩ | ⟨a, cmt, sm, a', l, rfl, hsm, hg, hl, rfl⟩
    · rfl
    · simp [hsm, hg, hl, Outcome.bind, Outcome.map]

theorem acceptTags_ok (s : Settings) (tags : List String) (s2 : Settings) :
    acceptTags s tags = .ok s2 ↔
      tags.Nodup ∧ ∃ bs, mapMS (fun s t => s.getOrCreateTag t) s tags = .ok (bs, s2) := by
  unfold acceptTags
  cases h1 : mapMS (fun s t => s.getOrCreateTag t) s tags with
  | err => simp
  | undef => simp
  | ok r =>
    obtain ⟨bs, s1⟩ := r
    by_cases hn : tags.Nodup <;> simp [hn]

theorem acceptHeader_ok (s : Settings) (h : Header) (s2 : Settings) :
    acceptHeader s h = .ok s2 ↔
      locOk h = true ∧ (s.audit && h.uuid.isNone) = false ∧
      ((h.tags = none ∧ s2 = s) ∨ ∃ ts, h.tags = some ts ∧ acceptTags s ts = .ok s2) := by
  rw [acceptHeader_eq]
  cases locOk h with
  | false => simp
  | true =>
    cases (s.audit && h.uuid.isNone) with
    | true => simp [Outcome.bind_ok]
    | false => cases h.tags <;> simp [Outcome.bind_ok, eq_comm]

/-- the settings-independent final checks of `parse_txn` / `Transaction::from` -/
def finalOk (ps : List Posting) : Prop :=
  match ps with
  | [] => False
  | p0 :: _ => ps.any (fun p => p.txnComm != p0.txnComm) = false ∧ ∃ sm, txnSum ps = some sm ∧ sm.isZero = true

theorem acceptTxn_ok (s : Settings) (r : RawTxn) (t : Txn) (s2 : Settings) :
    acceptTxn s r = .ok (t, s2) ↔
      ∃ s1 ps, acceptHeader s r.header = .ok s1 ∧ acceptPostings s1 r.posts r.last = .ok (ps, s2) ∧
        t = ⟨r.header, ps⟩ ∧ finalOk ps := by
  simp only [acceptTxn_eq, Outcome.bind_ok, Prod.exists]
  refine exists_congr fun s1 => ?_
  constructor
  · rintro ⟨h1, ps, s2', h2, h⟩
    refine ⟨ps, h1, ?_⟩
    cases ps with
    | nil => cases h
    | cons p0 tl =>
      dsimp only at h
      split at h
      · cases h
      · rename_i hany
        cases hsm : txnSum (p0 :: tl) with
        | none => rw [hsm] at h; exact absurd h (Outcome.inexact_ne_ok _ _)
        | some sm =>
          rw [hsm] at h
          dsimp only at h
          split at h
          · cases h; exact ⟨h2, rfl, by simpa using hany, sm, hsm, ‹_›⟩
          · cases h
  · rintro ⟨ps, h1, h2, rfl, hf⟩
    refine ⟨h1, ps, s2, h2, ?_⟩
    cases ps with
    | nil => exact absurd hf (by simp [finalOk])
    | cons p0 tl =>
      obtain ⟨hany, sm, hsm, hz⟩ := hf
      simp [hany, hsm, hz]

/-- the posting a successful `handlePosting` returns -/
theorem handlePosting_posting (st st' : Settings) (rp : RawPosting) (p : Posting)
    (h : handlePosting st rp = .ok (p, st')) :
    ∃ vp, valuePosition rp.amount rp.unit = .ok vp ∧ p.amount.units ≠ 0 ∧
      p = ⟨rp.acct, vp.postComm, vp.postAmount, vp.txnAmount, vp.isTotal, vp.txnComm, rp.comment⟩ := by
  obtain ⟨s1, vp, a, _, hvp, hacct, hmk⟩ := (handlePosting_ok st rp p st').mp h
  obtain ⟨rfl, hnz⟩ := mkPosting_ok _ _ hmk
  cases gocta_acct _ _ _ _ _ hacct
  exact ⟨vp, hvp, hnz, rfl⟩

/-- the transaction a successful `acceptTxn` returns: one transaction commodity, sum zero -/
theorem acceptTxn_balanced (st st' : Settings) (r : RawTxn) (t : Txn) (h : acceptTxn st r = .ok (t, st')) :
    ∃ st1 s, acceptHeader st r.header = .ok st1 ∧ acceptPostings st1 r.posts r.last = .ok (t.posts, st') ∧
      (∀ p ∈ t.posts, ∀ q ∈ t.posts, p.txnComm = q.txnComm) ∧ txnSum t.posts = some s ∧ s.isZero = true := by
  obtain ⟨st1, ps, hh, hp, rfl, hf⟩ := (acceptTxn_ok st r t st').mp h
  cases ps with
  | nil => exact hf.elim
  | cons p0 tl =>
    obtain ⟨hany, s, hs, hz⟩ := hf
    have same : ∀ p ∈ p0 :: tl, p.txnComm = p0.txnComm := by simpa using hany
    exact ⟨st1, s, hh, hp, fun p hp q hq => (same p hp).trans (same q hq).symm, hs, hz⟩

end Tackler
