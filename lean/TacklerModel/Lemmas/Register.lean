import TacklerModel.Model.Register
import TacklerModel.Lemmas.Dec
import TacklerModel.Lemmas.KeyOrder
import TacklerModel.Lemmas.ListSum
/-! The register engine (`Model/Register.lean`): sums per key (`keySum`), one step of each of its three loops, the
    invariant `MapInv` of the running-total map, "the in-entry `sort()` is the identity" (`registerTxn_eq`).
    `…_some` inverts a successful step, `…_spec` carries `MapInv` through it. -/
namespace Tackler
namespace Reg

theorem itemLe_total (a b : RItem) : (itemLe a b || itemLe b a) = true := KeyOrder.keyLe_total _ _
theorem itemLe_trans (a b c : RItem) (h1 : itemLe a b = true) (h2 : itemLe b c = true) : itemLe a c = true :=
  KeyOrder.keyLe_trans _ _ _ h1 h2

/-- the items of one transaction in the order the engine accumulates them -/
def sortItems (items : List RItem) : List RItem := items.mergeSort itemLe

theorem sortItems_perm (items : List RItem) : (sortItems items).Perm items := List.mergeSort_perm _ _

theorem sortItems_sorted (items : List RItem) : (sortItems items).Pairwise (fun a b => itemLe a b = true) :=
  List.pairwise_mergeSort itemLe_trans itemLe_total items

/-! ### sums per key -/

/-- Σ of the amounts accumulated under key `k` -/
def keySum (k : AKey) (items : List RItem) : Int :=
  ((items.filter (fun it => decide (it.key = k))).map (fun it => it.amount.units)).sum

@[simp] theorem keySum_nil (k : AKey) : keySum k [] = 0 := rfl

theorem keySum_cons (k : AKey) (it : RItem) (l : List RItem) :
    keySum k (it :: l) = (if it.key = k then it.amount.units else 0) + keySum k l := by
  unfold keySum
  by_cases h : it.key = k <;> simp [h]

theorem keySum_append (k : AKey) (l₁ l₂ : List RItem) : keySum k (l₁ ++ l₂) = keySum k l₁ + keySum k l₂ := by
  induction l₁ with
  | nil => simp
  | cons a t ih => simp only [List.cons_append, keySum_cons, ih]; omega

theorem keySum_perm (k : AKey) {l₁ l₂ : List RItem} (h : l₁.Perm l₂) : keySum k l₁ = keySum k l₂ :=
  ListSum.perm_sum ((h.filter _).map _)

theorem keySum_sortItems (k : AKey) (items : List RItem) : keySum k (sortItems items) = keySum k items :=
  keySum_perm k (sortItems_perm items)

/-! ### one step of each loop -/

def RowOf (it : RItem) (r : RegRow) : Prop := r.post = it.post ∧ r.comm = it.comm ∧ r.rate = it.rate

/-- `accPosting` stores and shows a total `tot`: the item's amount under a new key, else the exact sum with the
    total kept so far -/
theorem accPosting_some {m m' : RegMap} {it : RItem} {r : RegRow} (h : accPosting m it = some (m', r)) :
    ∃ tot, m' = m.set it.key tot ∧ r = ⟨it.post, tot, it.comm, it.rate⟩ ∧
      (m it.key = none ∧ tot = it.amount ∨ ∃ v, m it.key = some v ∧ Dec.add v it.amount = some tot) := by
  unfold accPosting at h
  split at h
  · rename_i hn; cases h; exact ⟨_, rfl, rfl, .inl ⟨hn, rfl⟩⟩
  · rename_i v hv
    split at h
    · cases h
    · rename_i s hs; cases h; exact ⟨_, rfl, rfl, .inr ⟨v, hv, hs⟩⟩

theorem accPostings_cons_some {m m'' : RegMap} {it : RItem} {l : List RItem} {rows : List RegRow}
    (h : accPostings m (it :: l) = some (m'', rows)) :
    ∃ m' r rs, accPosting m it = some (m', r) ∧ accPostings m' l = some (m'', rs) ∧ rows = r :: rs := by
  simp only [accPostings] at h
  split at h
  · cases h
  · rename_i m' r h1
    split at h
    · cases h
    · rename_i rs h2; cases h; exact ⟨m', r, rs, h1, h2, rfl⟩

theorem accPostings_append : ∀ (l₁ l₂ : List RItem) (m m' m'' : RegMap) (r₁ r₂ : List RegRow),
    accPostings m l₁ = some (m', r₁) → accPostings m' l₂ = some (m'', r₂) →
    accPostings m (l₁ ++ l₂) = some (m'', r₁ ++ r₂) := by
  intro l₁
  induction l₁ with
  | nil => intro l₂ m m' m'' r₁ r₂ h1 h2; cases h1; exact h2
  | cons it rest ih =>
    intro l₂ m m' m'' r₁ r₂ h1 h2
    obtain ⟨m1, r, rs, ha, hb, rfl⟩ := accPostings_cons_some h1
    simp [accPostings, ha, ih l₂ m1 m' m'' rs r₂ hb h2]

theorem accPostings_shape : ∀ (l : List RItem) (m m' : RegMap) (rows : List RegRow),
    accPostings m l = some (m', rows) →
    rows.map (·.post) = l.map (·.post) ∧ rows.map (·.key) = l.map (·.key) := by
  intro l
  induction l with
  | nil => intro m m' rows h; cases h; exact ⟨rfl, rfl⟩
  | cons it rest ih =>
    intro m m' rows h
    obtain ⟨m1, r, rs, h1, h2, rfl⟩ := accPostings_cons_some h
    obtain ⟨tot, -, rfl, -⟩ := accPosting_some h1
    obtain ⟨e1, e2⟩ := ih _ _ _ h2
    simp only [List.map_cons, e1, e2]
    exact ⟨trivial, rfl⟩

/-! ### the in-entry `sort()` does nothing: the rows are already in account-key order -/

theorem rowLe_total (a b : RegRow) : (rowLe a b || rowLe b a) = true := KeyOrder.keyLe_total _ _
theorem rowLe_trans (a b c : RegRow) (h1 : rowLe a b = true) (h2 : rowLe b c = true) : rowLe a c = true :=
  KeyOrder.keyLe_trans _ _ _ h1 h2

theorem rows_sorted (l : List RItem) (m m' : RegMap) (rows : List RegRow)
    (hl : l.Pairwise (fun a b => itemLe a b = true)) (h : accPostings m l = some (m', rows)) :
    rows.Pairwise (fun a b => rowLe a b = true) := by
  have h1 : (l.map (·.post)).Pairwise (fun p q => keyLe p.acctnKey q.acctnKey = true) :=
    List.pairwise_map.mpr hl
  rw [← (accPostings_shape l m m' rows h).1] at h1
  exact List.pairwise_map.mp h1

/-- body of the loop, with both sorts resolved -/
theorem registerTxn_eq (sel : RegRow → Bool) (m : RegMap) (t : Txn) (items : List RItem) :
    registerTxn sel m t items =
      (accPostings m (sortItems items)).map (fun x => (x.1, ⟨t, x.2.filter sel⟩)) := by
  unfold registerTxn sortItems
  split
  · rename_i h; simp [h]
  · rename_i m' rows h
    simp only [h, Option.map_some]
    have hs := rows_sorted _ m m' rows (sortItems_sorted items) h
    rw [List.mergeSort_of_pairwise (hs.sublist List.filter_sublist)]

theorem registerLoop_cons (sel : RegRow → Bool) (m : RegMap) (t : Txn) (items : List RItem)
    (rest : List (Txn × List RItem)) :
    registerLoop sel m ((t, items) :: rest) =
      (accPostings m (sortItems items)).bind fun x =>
        (registerLoop sel x.1 rest).map fun es => ⟨t, x.2.filter sel⟩ :: es := by
  simp only [registerLoop, registerTxn_eq]
  cases accPostings m (sortItems items) with
  | none => rfl
  | some x => cases h : registerLoop sel x.1 rest <;> simp [h]

theorem registerLoop_cons_some {sel : RegRow → Bool} {m : RegMap} {t : Txn} {items : List RItem}
    {rest : List (Txn × List RItem)} {es : List RegEntry} (h : registerLoop sel m ((t, items) :: rest) = some es) :
    ∃ m' rows es', accPostings m (sortItems items) = some (m', rows) ∧ registerLoop sel m' rest = some es' ∧
      es = ⟨t, rows.filter sel⟩ :: es' := by
  rw [registerLoop_cons] at h
  obtain ⟨x, h1, h⟩ := Option.bind_eq_some_iff.mp h
  obtain ⟨es', h2, rfl⟩ := Option.map_eq_some_iff.mp h
  exact ⟨x.1, x.2, es', h1, h2, rfl⟩

/-! ### the running-total map -/

/-- what the map holds after the items `items` have been accumulated -/
def MapInv (m : RegMap) (items : List RItem) : Prop :=
  (∀ k v, m k = some v → v.units = keySum k items ∧ v.scale ≤ 28) ∧ (∀ k, m k = none → keySum k items = 0)

theorem mapInv_empty : MapInv RegMap.empty [] :=
  ⟨fun _ _ h => (by cases h), fun _ _ => rfl⟩

theorem accPosting_spec (m m' : RegMap) (prev : List RItem) (it : RItem) (r : RegRow)
    (hinv : MapInv m prev) (hs : it.amount.scale ≤ 28) (h : accPosting m it = some (m', r)) :
    MapInv m' (prev ++ [it]) ∧ r.total.units = keySum it.key (prev ++ [it]) ∧ r.total.scale ≤ 28 := by
  have hk : ∀ k, keySum k (prev ++ [it]) = keySum k prev + (if it.key = k then it.amount.units else 0) := by
    intro k; rw [keySum_append, keySum_cons]; simp
  obtain ⟨tot, rfl, rfl, hm⟩ := accPosting_some h
  have key : tot.units = keySum it.key (prev ++ [it]) ∧ tot.scale ≤ 28 := by
    rcases hm with ⟨hn, rfl⟩ | ⟨v, hv, hadd⟩
    · exact ⟨by rw [hk, hinv.2 _ hn]; simp, hs⟩
    · have hv' := hinv.1 _ _ hv
      have ha := Dec.add_units v it.amount tot hv'.2 hs hadd
      exact ⟨by rw [hk, ha.1, hv'.1]; simp, ha.2⟩
  refine ⟨⟨?_, ?_⟩, key⟩
  · intro k v hv
    unfold RegMap.set at hv
    split at hv
    · rename_i hkk; cases hv; subst hkk; exact key
    · rename_i hkk
      have hne : ¬ it.key = k := fun e => hkk e.symm
      simpa [hk, hne] using hinv.1 k v hv
  · intro k hv
    unfold RegMap.set at hv
    split at hv
    · cases hv
    · rename_i hkk
      have hne : ¬ it.key = k := fun e => hkk e.symm
      simpa [hk, hne] using hinv.2 k hv

/-- every row of a transaction shows the sum of everything accumulated before it and up to itself -/
theorem accPostings_spec : ∀ (l : List RItem) (m m' : RegMap) (prev : List RItem) (rows : List RegRow),
    MapInv m prev → (∀ it ∈ l, it.amount.scale ≤ 28) → accPostings m l = some (m', rows) →
    MapInv m' (prev ++ l) ∧ rows.length = l.length ∧
    ∀ j r, rows[j]? = some r → ∃ it, l[j]? = some it ∧ RowOf it r ∧
      r.total.units = keySum it.key (prev ++ l.take (j + 1)) ∧ r.total.scale ≤ 28 := by
  intro l
  induction l with
  | nil =>
    intro m m' prev rows hinv _ h
    cases h
    simp [hinv]
  | cons it rest ih =>
    intro m m' prev rows hinv hs h
    obtain ⟨m1, r, rs, h1, h2, rfl⟩ := accPostings_cons_some h
    have s1 := accPosting_spec m m1 prev it r hinv (hs it List.mem_cons_self) h1
    have r1 : RowOf it r := by obtain ⟨tot, -, rfl, -⟩ := accPosting_some h1; exact ⟨rfl, rfl, rfl⟩
    have s2 := ih m1 m' (prev ++ [it]) rs s1.1 (fun x hx => hs x (List.mem_cons_of_mem _ hx)) h2
    refine ⟨by simpa [List.append_assoc] using s2.1, by simp [s2.2.1], ?_⟩
    intro j r' hj
    cases j with
    | zero =>
      simp at hj; subst hj
      exact ⟨it, by simp, r1, by simpa using s1.2⟩
    | succ j =>
      simp at hj
      obtain ⟨it', hit', hr', ht'⟩ := s2.2.2 j r' hj
      exact ⟨it', by simpa using hit', hr', by simpa [List.append_assoc] using ht'⟩

end Reg
end Tackler
