import TacklerModel.Lemmas.Complete
/-! Third step of the balance (`treeNodes_spec`, `forest_spec`): `treeNodes` on a key-duplicate-free, prefix-closed entry list `C` lists, from `me`, exactly the
    entries of `C` below `me` (same commodity, `me`'s path a prefix), each once, and every listed row's tree sum
    is the sum of the own sums of the entries below it. -/
namespace Tackler
namespace C02

open KeyOrder ListSum

/-- the entry a balance row was made from -/
def kv (r : BalRow) : AKey × Dec := (r.key, r.own)

/-- `b` is `a` or lies below `a`: same commodity, `a`'s path is a prefix of `b`'s -/
def desc (a b : AKey) : Bool := a.1 == b.1 && a.2.isPrefixOf b.2

theorem desc_iff (a b : AKey) : desc a b = true ↔ a.1 = b.1 ∧ a.2 <+: b.2 := by
  simp [desc, List.isPrefixOf_iff_prefix]

/-- sum of the own sums of all entries at or below `k` -/
def descSum (C : List (AKey × Dec)) (k : AKey) : Int :=
  ((C.filter (fun x => desc k x.1)).map (·.2.units)).sum

/-- the structural facts about the completed entry list that the tree walk relies on -/
structure CTree (C : List (AKey × Dec)) : Prop where
  nodup : (C.map (·.1)).Nodup
  nonempty : ∀ x ∈ C, x.1.2 ≠ []
  closed : ∀ x ∈ C, ∀ q : Path, q ≠ [] → q <+: x.1.2 → (x.1.1, q) ∈ C.map (·.1)
  scale : ∀ x ∈ C, x.2.scale ≤ 28

/-! ### generic list helpers -/

theorem flattenOpt_map {α β} (f : α → Option (List β)) : ∀ (cs : List α) (sub : List β),
    flattenOpt (cs.map f) = some sub →
    (∀ c ∈ cs, ∃ l, f c = some l) ∧ sub = (cs.map (fun c => (f c).getD [])).flatten := by
  intro cs
  induction cs with
  | nil => intro sub h; simp [flattenOpt] at h; subst h; simp
  | cons c t ih =>
    intro sub h
    simp only [List.map_cons] at h
    cases hc : f c with
    | none => rw [hc] at h; simp [flattenOpt] at h
    | some l =>
      rw [hc] at h
      simp only [flattenOpt] at h
      split at h
      · cases h
      · rename_i r hr
        cases h
        obtain ⟨i1, i2⟩ := ih r hr
        constructor
        · intro c' hc'
          rcases List.mem_cons.mp hc' with rfl | h'
          · exact ⟨l, hc⟩
          · exact i1 c' h'
        · simp [hc, i2]

theorem nodup_flatten_map {γ β} (g : γ → List β) : ∀ cs : List γ, cs.Nodup → (∀ c ∈ cs, (g c).Nodup) →
    (∀ c ∈ cs, ∀ c' ∈ cs, c ≠ c' → ∀ x, x ∈ g c → x ∉ g c') → ((cs.map g).flatten).Nodup := by
  intro cs
  induction cs with
  | nil => intro _ _ _; simp
  | cons c t ih =>
    intro hnd h1 h2
    have hnd' := List.nodup_cons.mp hnd
    simp only [List.map_cons, List.flatten_cons]
    rw [List.nodup_append]
    refine ⟨h1 c List.mem_cons_self,
      ih hnd'.2 (fun c' hc' => h1 c' (List.mem_cons_of_mem _ hc'))
        (fun a ha b hb => h2 a (List.mem_cons_of_mem _ ha) b (List.mem_cons_of_mem _ hb)), ?_⟩
    intro a ha b hb e
    subst e
    obtain ⟨l, hl, hal⟩ := List.mem_flatten.mp hb
    obtain ⟨c', hc', rfl⟩ := List.mem_map.mp hl
    have hne : c ≠ c' := by intro e; subst e; exact hnd'.1 hc'
    exact h2 c List.mem_cons_self c' (List.mem_cons_of_mem _ hc') hne a ha hal

/-! ### paths -/

theorem parentPath_take_succ (l : Path) (n : Nat) (h : n + 1 ≤ l.length) :
    parentPath (l.take (n + 1)) = l.take n := by
  unfold parentPath
  rw [List.dropLast_eq_take, List.length_take, List.take_take]
  congr 1; omega

theorem prefix_eq_take {p l : Path} (h : p <+: l) : p = l.take p.length := List.prefix_iff_eq_take.mp h

theorem length_parent (p : Path) : (parentPath p).length = p.length - 1 := by
  unfold parentPath; exact List.length_dropLast

section tree
variable {C : List (AKey × Dec)} (hC : CTree C)

include hC in
theorem anc_at (x : AKey × Dec) (hx : x ∈ C) (n : Nat) (h1 : 1 ≤ n) (h2 : n ≤ x.1.2.length) :
    ∃ c ∈ C, c.1.1 = x.1.1 ∧ c.1.2 = x.1.2.take n ∧ c.1.2.length = n ∧ desc c.1 x.1 = true := by
  have hne : x.1.2.take n ≠ [] := by
    intro e
    have := congrArg List.length e
    simp only [List.length_take, List.length_nil] at this
    omega
  obtain ⟨c, hc, hck⟩ := List.mem_map.mp (hC.closed x hx _ hne (List.take_prefix _ _))
  have hc1 : c.1.1 = x.1.1 := by rw [hck]
  have hc2 : c.1.2 = x.1.2.take n := by rw [hck]
  refine ⟨c, hc, hc1, hc2, by rw [hc2, List.length_take]; omega, ?_⟩
  rw [desc_iff, hc2]
  exact ⟨hc1, List.take_prefix _ _⟩

include hC in
/-- two entries of the same depth above the same key are the same entry -/
theorem anc_unique (c c' : AKey × Dec) (hc : c ∈ C) (hc' : c' ∈ C) (k : AKey)
    (h1 : desc c.1 k = true) (h2 : desc c'.1 k = true) (hl : c.1.2.length = c'.1.2.length) : c = c' := by
  rw [desc_iff] at h1 h2
  apply eq_of_nodup_map (·.1) hC.nodup hc hc'
  apply Prod.ext
  · rw [h1.1, h2.1]
  · exact (List.prefix_of_prefix_length_le h1.2 h2.2 (by omega)).eq_of_length hl

theorem desc_refl (k : AKey) : desc k k = true := by rw [desc_iff]; exact ⟨rfl, List.prefix_refl _⟩

theorem desc_trans (a b c : AKey) (h1 : desc a b = true) (h2 : desc b c = true) : desc a c = true := by
  rw [desc_iff] at *; exact ⟨h1.1.trans h2.1, h1.2.trans h2.2⟩

theorem child_facts (me c : AKey × Dec) (h : isParentOf me.1 c.1 = true) (hne : c.1.2 ≠ []) :
    parentPath c.1.2 = me.1.2 ∧ c.1.2.length = me.1.2.length + 1 ∧ desc me.1 c.1 = true := by
  rw [isParentOf_iff] at h
  have h1 : me.1.1 = c.1.1 := by rw [h]
  have h2 : me.1.2 = parentPath c.1.2 := by rw [h]
  have hl : 1 ≤ c.1.2.length := by
    cases hc : c.1.2 with
    | nil => exact absurd hc hne
    | cons _ _ => simp
  refine ⟨h2.symm, ?_, ?_⟩
  · rw [h2, length_parent]; omega
  · rw [desc_iff]; exact ⟨h1, by rw [h2]; exact List.dropLast_prefix _⟩

include hC in
/-- an entry lies below `me` iff it is `me` or lies below one of `me`'s children -/
theorem below_iff (me x : AKey × Dec) (hme : me ∈ C) (hx : x ∈ C) :
    desc me.1 x.1 = true ↔ x = me ∨ ∃ c ∈ C.filter (fun s => isParentOf me.1 s.1), desc c.1 x.1 = true := by
  constructor
  · intro hxd
    have hxd' := (desc_iff _ _).mp hxd
    by_cases hlen : x.1.2.length = me.1.2.length
    · exact .inl (eq_of_nodup_map (·.1) hC.nodup hx hme
        (Prod.ext hxd'.1.symm (hxd'.2.eq_of_length hlen.symm).symm))
    · have hlt : me.1.2.length + 1 ≤ x.1.2.length := by
        have := hxd'.2.length_le; omega
      obtain ⟨c, hcC, hc1, hc2, _, hcd⟩ := anc_at hC x hx (me.1.2.length + 1) (by omega) hlt
      refine .inr ⟨c, List.mem_filter.mpr ⟨hcC, (isParentOf_iff _ _).mpr (Prod.ext (hxd'.1.trans hc1.symm) ?_)⟩, hcd⟩
      rw [hc2, parentPath_take_succ _ _ hlt]
      exact prefix_eq_take hxd'.2
  · rintro (rfl | ⟨c, hc, hcd⟩)
    · exact desc_refl _
    · obtain ⟨hcC, hpar⟩ := List.mem_filter.mp hc
      exact desc_trans _ _ _ (child_facts me c hpar (hC.nonempty c hcC)).2.2 hcd

/-- what `treeNodes` returns for the subtree of `me` -/
structure SubtreeSpec (C : List (AKey × Dec)) (me : AKey × Dec) (rows : List BalRow) : Prop where
  shape : ∃ t sub, rows = ⟨me.1.2, me.1.1, me.2, t⟩ :: sub ∧ ∀ r ∈ sub, me.1.2.length < r.acct.length
  perm : (rows.map kv).Perm (C.filter (fun x => desc me.1 x.1))
  tree : ∀ r ∈ rows, r.tree.units = descSum C r.key ∧ r.tree.scale ≤ 28

theorem SubtreeSpec.depth {C : List (AKey × Dec)} {me : AKey × Dec} {rows : List BalRow}
    (sp : SubtreeSpec C me rows) : ∀ r ∈ rows, me.1.2.length ≤ r.acct.length := by
  obtain ⟨t, sub, rfl, hd⟩ := sp.shape
  intro r hr
  rcases List.mem_cons.mp hr with rfl | hr'
  · exact Nat.le_refl _
  · exact Nat.le_of_lt (hd r hr')

/-- of the rows of a subtree only the head row has the parent of the subtree's root as parent -/
theorem SubtreeSpec.heads {C : List (AKey × Dec)} {me : AKey × Dec} {rows : List BalRow}
    (sp : SubtreeSpec C me rows) (hne : me.1.2 ≠ []) :
    ∃ t, rows.filter (fun r => parentPath r.acct == parentPath me.1.2) = [⟨me.1.2, me.1.1, me.2, t⟩] ∧
      t.units = descSum C me.1 ∧ t.scale ≤ 28 := by
  obtain ⟨t, sub, hrows, hd⟩ := sp.shape
  refine ⟨t, ?_, sp.tree ⟨me.1.2, me.1.1, me.2, t⟩ (by rw [hrows]; exact List.mem_cons_self)⟩
  have hl : 1 ≤ me.1.2.length := by
    cases hc : me.1.2 with
    | nil => exact absurd hc hne
    | cons _ _ => simp
  rw [hrows, List.filter_cons, if_pos (by simp)]
  congr 1
  rw [List.filter_eq_nil_iff]
  intro r hr e
  have := congrArg List.length (beq_iff_eq.mp e)
  rw [length_parent, length_parent] at this
  have := hd r hr
  omega

include hC in
/-- the subtrees of entries `tops` of one depth `n`: their rows list, each once, the entries of `C` below one of
    the `tops` (both the children of a node and the roots of the whole balance are such a list) -/
theorem forest_spec (fuel n : Nat) (tops : List (AKey × Dec)) (sub : List BalRow) (hnd : tops.Nodup)
    (htop : ∀ c ∈ tops, c ∈ C ∧ c.1.2.length = n)
    (ih : ∀ c ∈ tops, ∀ l, treeNodes C fuel c = some l → SubtreeSpec C c l)
    (hsub : flattenOpt (tops.map (treeNodes C fuel)) = some sub) :
    (sub.map kv).Nodup ∧ (∀ x, x ∈ sub.map kv ↔ x ∈ C ∧ ∃ c ∈ tops, desc c.1 x.1 = true) ∧
    ∃ g : AKey × Dec → List BalRow, sub = (tops.map g).flatten ∧ ∀ c ∈ tops, SubtreeSpec C c (g c) := by
  obtain ⟨hall, hsubeq⟩ := flattenOpt_map (treeNodes C fuel) tops sub hsub
  let g : AKey × Dec → List BalRow := fun c => (treeNodes C fuel c).getD []
  have hg : ∀ c ∈ tops, SubtreeSpec C c (g c) := by
    intro c hc
    obtain ⟨l, hl⟩ := hall c hc
    have : g c = l := by simp [g, hl]
    rw [this]; exact ih c hc l hl
  have hCnd : C.Nodup := nodup_of_nodup_map _ hC.nodup
  have hkv : sub.map kv = (tops.map (fun c => (g c).map kv)).flatten := by
    rw [hsubeq, List.map_flatten, List.map_map]; rfl
  have hmem : ∀ c ∈ tops, ∀ x, x ∈ (g c).map kv ↔ x ∈ C ∧ desc c.1 x.1 = true := by
    intro c hc x
    rw [(hg c hc).perm.mem_iff, List.mem_filter]
  refine ⟨?_, fun x => ⟨?_, ?_⟩, g, hsubeq, hg⟩
  · rw [hkv]
    apply nodup_flatten_map (fun c => (g c).map kv) tops hnd
    · intro c hc
      exact ((hg c hc).perm.nodup_iff).mpr (hCnd.sublist List.filter_sublist)
    · intro c hc c' hc' hne x hx hx'
      exact hne (anc_unique hC c c' (htop c hc).1 (htop c' hc').1 x.1 ((hmem c hc x).mp hx).2
        ((hmem c' hc' x).mp hx').2 (by rw [(htop c hc).2, (htop c' hc').2]))
  · intro hx
    rw [hkv] at hx
    obtain ⟨l, hl, hxl⟩ := List.mem_flatten.mp hx
    obtain ⟨c, hc, rfl⟩ := List.mem_map.mp hl
    exact ⟨((hmem c hc x).mp hxl).1, c, hc, ((hmem c hc x).mp hxl).2⟩
  · rintro ⟨hxC, c, hc, hd⟩
    rw [hkv]
    exact List.mem_flatten.mpr ⟨_, List.mem_map.mpr ⟨c, hc, rfl⟩, (hmem c hc x).mpr ⟨hxC, hd⟩⟩

include hC in
theorem treeNodes_spec : ∀ (fuel : Nat) (me : AKey × Dec) (rows : List BalRow), me ∈ C →
    treeNodes C fuel me = some rows → SubtreeSpec C me rows := by
  intro fuel
  induction fuel with
  | zero => intro me rows _ h; simp [treeNodes] at h
  | succ fuel ih =>
    intro me rows hme h
    simp only [treeNodes] at h
    split at h
    · cases h
    · rename_i sub hsub
      split at h
      · cases h
      · rename_i cs hcs
        split at h
        · cases h
        · rename_i t ht
          cases h
          have hCnd : C.Nodup := nodup_of_nodup_map _ hC.nodup
          generalize hch : C.filter (fun s => isParentOf me.1 s.1) = children at hsub
          have hchild : ∀ c ∈ children, c ∈ C ∧ parentPath c.1.2 = me.1.2 ∧
              c.1.2.length = me.1.2.length + 1 ∧ desc me.1 c.1 = true := by
            intro c hc
            rw [← hch] at hc
            obtain ⟨hcC, hpar⟩ := List.mem_filter.mp hc
            exact ⟨hcC, child_facts me c hpar (hC.nonempty c hcC)⟩
          obtain ⟨hsubnd, hsubmem, g, hsub', hg⟩ := forest_spec hC fuel (me.1.2.length + 1) children sub
            (by rw [← hch]; exact hCnd.sublist List.filter_sublist)
            (fun c hc => ⟨(hchild c hc).1, (hchild c hc).2.2.1⟩)
            (fun c hc l hl => ih c l (hchild c hc).1 hl) hsub
          have hdeep : ∀ r ∈ sub, me.1.2.length < r.acct.length := by
            intro r hr
            rw [hsub'] at hr
            obtain ⟨l, hl, hrl⟩ := List.mem_flatten.mp hr
            obtain ⟨c, hc, rfl⟩ := List.mem_map.mp hl
            have := (hg c hc).depth r hrl
            have := (hchild c hc).2.2.1
            omega
          -- the rows of `sub` whose parent is `me` are the children's head rows
          have hheads : ∀ c ∈ children, ∃ t',
              (g c).filter (fun r => parentPath r.acct == me.1.2) = [⟨c.1.2, c.1.1, c.2, t'⟩] ∧
              t'.units = descSum C c.1 ∧ t'.scale ≤ 28 := by
            intro c hc
            have := (hg c hc).heads (hC.nonempty c (hchild c hc).1)
            rwa [(hchild c hc).2.1] at this
          -- value of the children sum
          have hcs_sc : ∀ d ∈ (sub.filter (fun r => parentPath r.acct == me.1.2)).map (·.tree), d.scale ≤ 28 := by
            intro d hd
            obtain ⟨r, hr, rfl⟩ := List.mem_map.mp hd
            obtain ⟨hrs, hrp⟩ := List.mem_filter.mp hr
            rw [hsub'] at hrs
            obtain ⟨l, hl, hrl⟩ := List.mem_flatten.mp hrs
            obtain ⟨c, hc, rfl⟩ := List.mem_map.mp hl
            obtain ⟨t', hfil, _, hsc⟩ := hheads c hc
            have : r ∈ [BalRow.mk c.1.2 c.1.1 c.2 t'] := hfil ▸ List.mem_filter.mpr ⟨hrl, hrp⟩
            rw [List.mem_singleton.mp this]; exact hsc
          obtain ⟨hcsu, hcssc⟩ := Dec.sum_units _ cs hcs_sc hcs
          have hcs_val : cs.units = (children.map (fun c => descSum C c.1)).sum := by
            rw [hcsu, List.map_map, hsub', List.filter_flatten, List.map_map, sum_map_flatten, List.map_map]
            apply sum_map_congr
            intro c hc
            obtain ⟨t', hfil, hu, _⟩ := hheads c hc
            simp only [Function.comp_apply, hfil, List.map_cons, List.map_nil, List.sum_cons, List.sum_nil, hu]
            omega
          obtain ⟨htu, htsc⟩ := Dec.add_units cs me.2 t hcssc (hC.scale me hme) ht
          -- the rows are the entries below `me`, each once
          have hrows_kv : (BalRow.mk me.1.2 me.1.1 me.2 t :: sub).map kv = me :: sub.map kv := by
            simp [kv, BalRow.key]
          have hperm : ((BalRow.mk me.1.2 me.1.1 me.2 t :: sub).map kv).Perm
              (C.filter (fun x => desc me.1 x.1)) := by
            rw [hrows_kv]
            apply (List.perm_ext_iff_of_nodup ?_ (hCnd.sublist List.filter_sublist)).mpr
            · intro x
              rw [List.mem_filter, List.mem_cons, hsubmem]
              constructor
              · rintro (rfl | ⟨hxC, h⟩)
                · exact ⟨hme, desc_refl _⟩
                · exact ⟨hxC, (below_iff hC me x hme hxC).mpr (.inr (hch ▸ h))⟩
              · intro ⟨hxC, hxd⟩
                exact ((below_iff hC me x hme hxC).mp hxd).imp id fun h => ⟨hxC, hch ▸ h⟩
            · refine List.nodup_cons.mpr ⟨fun hin => ?_, hsubnd⟩
              obtain ⟨r, hr, hrk⟩ := List.mem_map.mp hin
              have := hdeep r hr
              have e : r.acct = me.1.2 := by rw [← hrk]; rfl
              rw [e] at this; omega
          -- own sums below `me` = own sum of `me` + those below the children
          have hdesc_me : descSum C me.1 = me.2.units + (children.map (fun c => descSum C c.1)).sum := by
            unfold descSum
            rw [← perm_sum_map (fun x => x.2.units) hperm, hrows_kv]
            simp only [List.map_cons, List.sum_cons]
            congr 1
            rw [hsub', List.map_flatten, List.map_map, sum_map_flatten, List.map_map]
            apply sum_map_congr
            intro c hc
            exact perm_sum_map (fun x => x.2.units) (hg c hc).perm
          refine ⟨⟨t, sub, rfl, hdeep⟩, hperm, ?_⟩
          intro r hr
          rcases List.mem_cons.mp hr with rfl | hr'
          · refine ⟨?_, htsc⟩
            show t.units = descSum C me.1
            rw [hdesc_me, htu, hcs_val]
            omega
          · rw [hsub'] at hr'
            obtain ⟨l, hl, hrl⟩ := List.mem_flatten.mp hr'
            obtain ⟨c, hc, rfl⟩ := List.mem_map.mp hl
            exact (hg c hc).tree r hrl

end tree

end C02
end Tackler
