import TacklerModel.Model.Order
/-! `hdrLe` (`impl Ord for TxnHeader`) is the nested lexicographic order `lexLe` on `hdrKey` (`hdrLe_eq_lex`); the kit
    `StrictLin` / `LinLe` / `lexLe_lin` makes it transitive, total and antisymmetric up to the key (`hdrLe_trans`,
    `hdrLe_total`, `hdrLe_antisymm`).  Hence `sortTxns_sorted`, `sortTxns_perm`, `loadJournal_some` (what is loaded is
    `sortTxns` of the accepted set) and `sort_unique` (by `sorted_perm_eq`). -/
namespace Tackler

structure StrictLin {α} (lt : α → α → Bool) : Prop where
  trans : ∀ {a b c}, lt a b = true → lt b c = true → lt a c = true
  asymm : ∀ {a b}, lt a b = true → lt b a = false
  tri : ∀ a b, lt a b = false → lt b a = false → a = b

structure LinLe {α} (le : α → α → Bool) : Prop where
  trans : ∀ {a b c}, le a b = true → le b c = true → le a c = true
  total : ∀ a b, le a b = true ∨ le b a = true
  antisymm : ∀ a b, le a b = true → le b a = true → a = b

/-- one level of a lexicographic "≤" -/
def lexLe {α β} (lt : α → α → Bool) (le : β → β → Bool) (a : α × β) (b : α × β) : Bool :=
  if lt a.1 b.1 then true else if lt b.1 a.1 then false else le a.2 b.2

theorem lexLe_lin {α β} {lt : α → α → Bool} {le : β → β → Bool} (hl : StrictLin lt) (h : LinLe le) :
    LinLe (lexLe lt le) where
  trans := by
    intro a b c h1 h2
    unfold lexLe at *
    cases x : lt a.1 b.1
    · cases x' : lt b.1 a.1
      · have eab := hl.tri _ _ x x'
        simp only [x, x', Bool.false_eq_true, if_false] at h1
        rw [eab]
        cases y : lt b.1 c.1
        · cases y' : lt c.1 b.1
          · simp only [y, y', Bool.false_eq_true, if_false] at h2 ⊢
            exact h.trans h1 h2
          · simp [y, y'] at h2
        · simp
      · simp [x, x'] at h1
    · cases y : lt b.1 c.1
      · cases y' : lt c.1 b.1
        · have ebc := hl.tri _ _ y y'
          rw [← ebc]; simp [x]
        · simp [y, y'] at h2
      · simp [hl.trans x y]
  total := by
    intro a b
    unfold lexLe
    cases x : lt a.1 b.1
    · cases x' : lt b.1 a.1
      · simpa using h.total a.2 b.2
      · simp
    · simp
  antisymm := by
    intro a b h1 h2
    unfold lexLe at *
    cases x : lt a.1 b.1
    · cases x' : lt b.1 a.1
      · simp only [x, x', Bool.false_eq_true, if_false] at h1 h2
        exact Prod.ext (hl.tri _ _ x x') (h.antisymm _ _ h1 h2)
      · simp [x, x'] at h1
    · simp [x, hl.asymm x] at h2

theorem lexLe_fst_le_snd_le {α β} {lt : α → α → Bool} {le : β → β → Bool} (hl : StrictLin lt) {a b : α × β}
    (h : lexLe lt le a b = true) : lt b.1 a.1 = false ∧ (a.1 = b.1 → le a.2 b.2 = true) := by
  unfold lexLe at h
  cases x : lt a.1 b.1
  · cases x' : lt b.1 a.1
    · simp only [x, x', Bool.false_eq_true, if_false] at h
      exact ⟨rfl, fun _ => h⟩
    · simp [x, x'] at h
  · refine ⟨hl.asymm x, fun e => ?_⟩
    rw [e] at x
    exact absurd (hl.asymm x) (by simp [x])

def intLt (a b : Int) : Bool := decide (a < b)
def strLt (a b : String) : Bool := decide (a < b)
def boolLe (a b : Bool) : Bool := !(boolLt b a)

theorem intLt_lin : StrictLin intLt where
  trans := by intro a b c h1 h2; simp [intLt] at *; omega
  asymm := by intro a b h; simp [intLt] at *; omega
  tri := by intro a b h1 h2; simp [intLt] at *; omega

theorem strLt_lin : StrictLin strLt where
  trans := by intro a b c h1 h2; simp [strLt] at *; exact String.lt_trans h1 h2
  asymm := by intro a b h; simp [strLt] at *; exact String.lt_asymm h
  tri := by
    intro a b h1 h2; simp [strLt] at *
    exact String.le_antisymm (String.not_lt.mp h2) (String.not_lt.mp h1)

theorem boolLt_lin : StrictLin boolLt where
  trans := by intro a b c; cases a <;> cases b <;> cases c <;> simp [boolLt]
  asymm := by intro a b; cases a <;> cases b <;> simp [boolLt]
  tri := by intro a b; cases a <;> cases b <;> simp [boolLt]

theorem boolLe_lin : LinLe boolLe where
  trans := by intro a b c; cases a <;> cases b <;> cases c <;> simp [boolLe, boolLt]
  total := by intro a b; cases a <;> cases b <;> simp [boolLe, boolLt]
  antisymm := by intro a b; cases a <;> cases b <;> simp [boolLe, boolLt]

theorem hdrLe_eq_lex (a b : Header) :
    hdrLe a b = lexLe intLt (lexLe strLt (lexLe strLt (lexLe strLt (lexLe boolLt boolLe)))) (hdrKey a) (hdrKey b) := by
  simp [hdrLe, lexLe, intLt, strLt, boolLe]

theorem hdrLex_lin : LinLe (lexLe intLt (lexLe strLt (lexLe strLt (lexLe strLt (lexLe boolLt boolLe))))) :=
  lexLe_lin intLt_lin (lexLe_lin strLt_lin (lexLe_lin strLt_lin (lexLe_lin strLt_lin (lexLe_lin boolLt_lin boolLe_lin))))

theorem hdrLe_trans {a b c : Header} (h1 : hdrLe a b = true) (h2 : hdrLe b c = true) : hdrLe a c = true := by
  rw [hdrLe_eq_lex] at *
  exact hdrLex_lin.trans h1 h2

theorem hdrLe_total (a b : Header) : hdrLe a b = true ∨ hdrLe b a = true := by
  rw [hdrLe_eq_lex, hdrLe_eq_lex]
  exact hdrLex_lin.total _ _

/-- equal in the order ⇒ equal keys -/
theorem hdrLe_antisymm (a b : Header) (h1 : hdrLe a b = true) (h2 : hdrLe b a = true) : hdrKey a = hdrKey b := by
  rw [hdrLe_eq_lex] at *
  exact hdrLex_lin.antisymm _ _ h1 h2

theorem hdrLe_refl (a : Header) : hdrLe a a = true := (hdrLe_total a a).elim id id

theorem optStr_isSome_inj (a b : Option String) (h1 : optStr a = optStr b) (h2 : a.isSome = b.isSome) : a = b := by
  cases a <;> cases b <;> simp_all [optStr]

/-- the key determines instant, code, description and uuid text: "distinguishable" = different key -/
theorem hdrKey_eq_iff (a b : Header) :
    hdrKey a = hdrKey b ↔ a.ts.ns = b.ts.ns ∧ a.code = b.code ∧ a.desc = b.desc ∧ optStr a.uuid = optStr b.uuid := by
  unfold hdrKey
  constructor
  · intro h
    simp only [Prod.mk.injEq] at h
    obtain ⟨h1, h2, h3, h4, h5, h6⟩ := h
    exact ⟨h1, optStr_isSome_inj _ _ h2 h5, optStr_isSome_inj _ _ h3 h6, h4⟩
  · rintro ⟨h1, h2, h3, h4⟩
    simp [h1, h2, h3, h4]

theorem sorted_perm_eq {α} (le : α → α → Prop) :
    ∀ (l₁ l₂ : List α), l₁.Perm l₂ → l₁.Pairwise le → l₂.Pairwise le →
      (∀ a b, a ∈ l₁ → b ∈ l₁ → le a b → le b a → a = b) → l₁ = l₂ :=
  fun _ _ p s1 s2 anti => p.eq_of_pairwise (fun a b ha hb => anti a b ha (p.symm.subset hb)) s1 s2

theorem sortTxns_perm (ts : List Txn) : (sortTxns ts).Perm ts := List.mergeSort_perm _ _

theorem sortTxns_sorted (ts : List Txn) : (sortTxns ts).Pairwise (fun a b => txnLe a b = true) :=
  List.pairwise_mergeSort (le := txnLe) (fun _ _ _ => hdrLe_trans)
    (fun a b => by simpa [txnLe] using hdrLe_total a.header b.header) ts

theorem loadJournal_some {st st' : Settings} {rs : List RawTxn} {ts : List Txn}
    (h : loadJournal st rs = .ok (ts, st')) : ∃ acc, acceptJournal st rs = .ok (acc, st') ∧ ts = sortTxns acc := by
  unfold loadJournal at h
  split at h
  · cases h
  · rw [Outcome.map_ok] at h
    obtain ⟨⟨acc, st1⟩, h0, he⟩ := h
    cases he
    exact ⟨acc, h0, rfl⟩

/-- **load order is a function of the set**: two arrangements of the same transactions load to the
    same list when transactions are pairwise distinguishable by their header key -/
theorem sort_unique (xs ys : List Txn) (hp : xs.Perm ys)
    (hd : ∀ a b, a ∈ xs → b ∈ xs → hdrKey a.header = hdrKey b.header → a = b) :
    sortTxns xs = sortTxns ys := by
  apply sorted_perm_eq (fun a b => txnLe a b = true)
  · exact (sortTxns_perm xs).trans (hp.trans (sortTxns_perm ys).symm)
  · exact sortTxns_sorted xs
  · exact sortTxns_sorted ys
  · intro a b ha hb h1 h2
    have ha' := (sortTxns_perm xs).subset ha
    have hb' := (sortTxns_perm xs).subset hb
    exact hd a b ha' hb' (hdrLe_antisymm _ _ h1 h2)

end Tackler
