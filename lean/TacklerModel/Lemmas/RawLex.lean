import TacklerModel.Lemmas.RoundTripTxn
import TacklerModel.Lemmas.RoundTripTs
/-!
# What the parsers return is well-formed ("parse ⇒ lexically well-formed")

The inverse direction of `Lemmas/RoundTrip*`: `p s = .ok x r → WF x`, where `WF` is what the print-then-parse lemma of
`p` assumes (`NumWF`, `IdentWF`, `PartsWF`, `LineText`, `UuidWF`, `GeoWF`, `TagsWF`, `TxnMetaWF`, `PostLex`).  First
the inversion of the combinators (namespace `Comb`): `alt_ok`, `opt_ok`, `cutErr_ok`, `repeat*_all`, and the same as
rules for post-conditions, `Res.Sat r Q` (every value `r` may carry satisfies `Q`), so that a production is a term
with one rule per sub-parser.  Then the productions up to `parseTxnPostings_ok_wf` and `parseTimestamp_resolved`; the
header, the transaction and the journal (`C06.parseJournal_rawLex`) are composed in `Props/C06b`.
-/
namespace Tackler
namespace Comb

/-! ## inversion of the combinators -/

theorem Res.bind_inv {α β} {r : Res α} {f : α → List Char → Res β} {b : β} {t : List Char}
    (h : r.bind f = .ok b t) : ∃ a s, r = .ok a s ∧ f a s = .ok b t := (Res.bind_ok _ _ _ _).mp h

theorem Res.map_inv {α β} {r : Res α} {f : α → β} {b : β} {t : List Char}
    (h : r.map f = .ok b t) : ∃ a, r = .ok a t ∧ f a = b := (Res.map_ok _ _ _ _).mp h

theorem alt_ok {α} {p q : P α} {s r : List Char} {a : α} (h : alt p q s = .ok a r) :
    p s = .ok a r ∨ q s = .ok a r := by
  unfold alt at h
  split at h
  · rename_i a' r' hp; cases h; exact Or.inl hp
  · exact Or.inr h
  · cases h

theorem opt_ok {α} {p : P α} {s r : List Char} {o : Option α} (h : opt p s = .ok o r) :
    (∃ a, o = some a ∧ p s = .ok a r) ∨ (o = none ∧ r = s) := by
  unfold opt at h
  split at h
  · rename_i a' r' hp; cases h; exact Or.inl ⟨a', rfl, hp⟩
  · cases h; exact Or.inr ⟨rfl, rfl⟩
  · cases h

theorem cutErr_ok {α} {p : P α} {s r : List Char} {a : α} (h : cutErr p s = .ok a r) : p s = .ok a r := by
  unfold cutErr at h
  split at h
  · rename_i a' r' hp; cases h; exact hp
  · cases h
  · cases h

theorem repeat0G_all {α} (stall : Res (List α)) (p : P α) (Q : α → Prop)
    (hp : ∀ s a r, p s = .ok a r → Q a) (hst : ∀ l r, stall = .ok l r → ∀ x ∈ l, Q x) :
    ∀ (fuel : Nat) (s : List Char) (l : List α) (r : List Char),
      repeat0G stall p fuel s = .ok l r → ∀ x ∈ l, Q x := by
  intro fuel
  induction fuel with
  | zero => intro s l r h; exact hst l r h
  | succ n ih =>
    intro s l r h
    simp only [repeat0G] at h
    split at h
    · rename_i a r' hps
      split at h
      · obtain ⟨l', e1, rfl⟩ := Res.map_inv h
        intro x hx
        rcases List.mem_cons.mp hx with rfl | hx
        · exact hp s _ r' hps
        · exact ih r' l' r e1 x hx
      · exact hst l r h
    · cases h; intro x hx; cases hx
    · cases h

theorem repeat0_all {α} (p : P α) (Q : α → Prop) (hp : ∀ s a r, p s = .ok a r → Q a)
    {s : List Char} {l : List α} {r : List Char} (h : repeat0 p s = .ok l r) : ∀ x ∈ l, Q x :=
  repeat0G_all .cut p Q hp (fun _ _ e => by cases e) _ s l r h

theorem repeat1_all {α} (p : P α) (Q : α → Prop) (hp : ∀ s a r, p s = .ok a r → Q a)
    {s : List Char} {l : List α} {r : List Char} (h : repeat1 p s = .ok l r) : l ≠ [] ∧ ∀ x ∈ l, Q x := by
  unfold repeat1 at h
  obtain ⟨a, s', h1, h2⟩ := Res.bind_inv h
  obtain ⟨l', e1, rfl⟩ := Res.map_inv h2
  refine ⟨by simp, ?_⟩
  intro x hx
  rcases List.mem_cons.mp hx with rfl | hx
  · exact hp s _ s' h1
  · exact repeat0_all p Q hp e1 x hx

theorem repeatTillG_all {α β} (stall : Res (List α)) (f : P α) (g : P β) (Q : α → Prop)
    (hf : ∀ s a r, f s = .ok a r → Q a) (hst : ∀ l r, stall = .ok l r → ∀ x ∈ l, Q x) :
    ∀ (fuel : Nat) (s : List Char) (l : List α) (r : List Char),
      repeatTillG stall f g fuel s = .ok l r → ∀ x ∈ l, Q x := by
  intro fuel
  induction fuel with
  | zero => intro s l r h; exact hst l r h
  | succ n ih =>
    intro s l r h
    simp only [repeatTillG] at h
    split at h
    · cases h; intro x hx; cases hx
    · cases h
    · split at h
      · rename_i a r' hfs
        split at h
        · obtain ⟨l', e1, rfl⟩ := Res.map_inv h
          intro x hx
          rcases List.mem_cons.mp hx with rfl | hx
          · exact hf s _ r' hfs
          · exact ih r' l' r e1 x hx
        · exact hst l r h
      · cases h
      · cases h

theorem repeatTill1_all {α β} (f : P α) (g : P β) (Q : α → Prop) (hf : ∀ s a r, f s = .ok a r → Q a)
    {s : List Char} {l : List α} {r : List Char} (h : repeatTill1 f g s = .ok l r) : l ≠ [] ∧ ∀ x ∈ l, Q x := by
  unfold repeatTill1 at h
  obtain ⟨a, s', h1, h2⟩ := Res.bind_inv h
  obtain ⟨l', e1, rfl⟩ := Res.map_inv h2
  refine ⟨by simp, ?_⟩
  intro x hx
  rcases List.mem_cons.mp hx with rfl | hx
  · exact hf s _ s' h1
  · exact repeatTillG_all .cut f g Q hf (fun _ _ e => by cases e) _ s' l' r e1 x hx

/-! ## post-conditions: one rule per combinator -/

/-- every value the result `r` may carry satisfies `Q` -/
def Res.Sat {α} (r : Res α) (Q : α → Prop) : Prop := ∀ a t, r = .ok a t → Q a

namespace Res.Sat
variable {α β : Type} {r : Res α} {f : α → List Char → Res β} {A : α → Prop} {Q : β → Prop}

theorem bind (hr : r.Sat A) (hf : ∀ a s, A a → (f a s).Sat Q) : (r.bind f).Sat Q := fun b t h => by
  obtain ⟨a, s, h1, h2⟩ := Res.bind_inv h
  exact hf a s (hr a s h1) b t h2

/-- a part of a sequence whose value does not matter -/
theorem skip (hf : ∀ a s, (f a s).Sat Q) : (r.bind f).Sat Q :=
  bind (A := fun _ => True) (fun _ _ _ => trivial) fun a s _ => hf a s

theorem map {g : α → β} (hr : r.Sat fun a => Q (g a)) : (r.map g).Sat Q := fun b t h => by
  obtain ⟨a, h1, rfl⟩ := Res.map_inv h
  exact hr a t h1

theorem ok {b : β} {s : List Char} (h : Q b) : (Res.ok b s).Sat Q := fun _ _ e => by cases e; exact h

theorem cut : (Res.cut : Res β).Sat Q := fun _ _ e => by cases e

end Res.Sat

theorem alt_sat {α} {p q : P α} {s : List Char} {Q : α → Prop} (hp : (p s).Sat Q) (hq : (q s).Sat Q) :
    (alt p q s).Sat Q := fun a t h => (alt_ok h).elim (hp a t) (hq a t)

theorem opt_sat {α} {p : P α} {s : List Char} {Q : α → Prop} (hp : (p s).Sat Q) :
    (opt p s).Sat fun o => ∀ a, o = some a → Q a := fun o t h a e => by
  rcases opt_ok h with ⟨x, rfl, hx⟩ | ⟨rfl, _⟩
  · cases e; exact hp a t hx
  · cases e

theorem cutErr_sat {α} {p : P α} {s : List Char} {Q : α → Prop} (hp : (p s).Sat Q) : (cutErr p s).Sat Q :=
  fun a t h => hp a t (cutErr_ok h)

theorem repeat0_sat {α} {p : P α} {Q : α → Prop} (hp : ∀ s, (p s).Sat Q) (s : List Char) :
    (repeat0 p s).Sat fun l => ∀ x ∈ l, Q x := fun _ _ h => repeat0_all p Q hp h

end Comb

namespace Syntax
open Comb Print

/-! ## identifiers, names -/

theorem pIdentifier_sat (s : List Char) : (pIdentifier s).Sat IdentWF :=
  .bind (fun _ _ h => (oneOf_ok _ _ _ _ h).2) fun c _ hc =>
  .bind (fun _ _ h => (takeWhile0_ok _ _ _ _ h).2.1) fun t _ ht => .ok ⟨c, t, rfl, hc, ht⟩

theorem pIdPartHelper_sat (s : List Char) : (pIdPartHelper s).Sat PartWF :=
  .skip fun _ _ => cutErr_sat fun _ _ h => ⟨(takeWhile1_ok _ _ _ _ h).2.1, (takeWhile1_ok _ _ _ _ h).2.2.1⟩

theorem pMultiPartId_ok_wf {s r : List Char} {parts : List (List Char)} (h : pMultiPartId s = .ok parts r) :
    PartsWF parts :=
  (show (pMultiPartId s).Sat PartsWF from
    .bind (pIdentifier_sat _) fun a _ ha => .bind (cutErr_sat (repeat0_sat pIdPartHelper_sat _)) fun t _ ht =>
    .ok ⟨a, t, rfl, ha, ht⟩) parts r h

/-! ## numbers -/

/-- `Dec.ofToken` rejects what is not representable and normalises a negative zero -/
theorem pNumber_ok_numWF {s r : List Char} {d : Dec} (h : pNumber s = .ok d r) : NumWF d := by
  unfold pNumber at h
  obtain ⟨t, s', _, h2⟩ := Res.bind_inv h
  split at h2
  · rename_i d' hd
    cases h2
    unfold Dec.ofToken at hd
    simp only at hd
    split at hd
    · cases hd
    · split at hd
      · cases hd
      · cases hd
        refine ⟨by simp; omega, by simp; omega, ?_⟩
        intro hn
        simp at hn
        simpa using hn.2
  · cases h2

/-! ## comments -/

theorem pComment_ok_lineText {s r c : List Char} (h : pComment s = .ok c r) : LineText c :=
  (show (pComment s).Sat LineText from
    .skip fun _ _ => cutErr_sat (alt_sat (.map fun _ _ _ _ hc => nomatch hc)
      (.skip fun _ _ _ _ h => (tillLineEnding_ok _ _ _ h).2.1))) c r h

theorem parseTxnComment_ok_lineText {s r : List Char} {c : String} (h : parseTxnComment s = .ok c r) :
    LineText c.toList :=
  (show (parseTxnComment s).Sat fun c => LineText c.toList from
    .skip fun _ _ => .bind (fun _ _ => pComment_ok_lineText) fun x _ hx => .skip fun _ _ =>
    .ok (by rw [String.toList_ofList]; exact hx)) c r h

theorem optComment_ok {s r : List Char} {o : Option (List Char)} (h : opt pComment s = .ok o r) :
    ∀ c, optString o = some c → LineText c.toList := by
  intro c hc
  rcases opt_ok h with ⟨x, rfl, hx⟩ | ⟨rfl, _⟩
  · simp only [optString, Option.some.injEq] at hc
    subst hc
    rw [String.toList_ofList]
    exact pComment_ok_lineText hx
  · cases hc

/-! ## uuid -/

theorem toLower_hex (c : Char) (h : isHexDigit c = true) : isLowerHex c.toLower = true := by
  simp only [isHexDigit, isDecDigit, Bool.or_eq_true, Bool.and_eq_true, decide_eq_true_eq] at h
  by_cases hu : 65 ≤ c.toNat ∧ c.toNat ≤ 70
  · have hc : c = Char.ofNat c.toNat := (Char.ofNat_toNat c).symm
    have : c.toNat = 65 ∨ c.toNat = 66 ∨ c.toNat = 67 ∨ c.toNat = 68 ∨ c.toNat = 69 ∨ c.toNat = 70 := by omega
    rcases this with e | e | e | e | e | e <;> (rw [hc, e]; decide)
  · rw [toLower_of_not_upper c (by omega)]
    simp only [isLowerHex, isDecDigit, Bool.or_eq_true, Bool.and_eq_true, decide_eq_true_eq]
    omega

/-- `hexN n` returns `n` hex digits; lower-cased they are lower-case hex digits -/
theorem hexN_ok {n : Nat} {s r a : List Char} (h : hexN n s = .ok a r) :
    (a.map Char.toLower).length = n ∧ ∀ x ∈ a.map Char.toLower, isLowerHex x = true := by
  unfold hexN at h
  obtain ⟨_, h1, h2, h3⟩ := takeMN_ok _ _ _ _ _ _ (cutErr_ok h)
  refine ⟨by rw [List.length_map]; omega, fun x hx => ?_⟩
  obtain ⟨y, hy, rfl⟩ := List.mem_map.mp hx
  exact toLower_hex y (h3 y hy)

theorem dash_ok {s r a : List Char} (h : dash s = .ok a r) : a = ['-'] := by
  unfold dash at h
  obtain ⟨c, h1, rfl⟩ := Res.map_inv h
  rw [(chr_ok _ _ _ _ (cutErr_ok h1)).2]

theorem pUuid_ok_wf {s r : List Char} {u : String} (h : pUuid s = .ok u r) : UuidWF u.toList := by
  unfold pUuid at h
  obtain ⟨a, s1, ha, h⟩ := Res.bind_inv h
  obtain ⟨d1, s2, hd1, h⟩ := Res.bind_inv h
  obtain ⟨b, s3, hb, h⟩ := Res.bind_inv h
  obtain ⟨d2, s4, hd2, h⟩ := Res.bind_inv h
  obtain ⟨c, s5, hc, h⟩ := Res.bind_inv h
  obtain ⟨d3, s6, hd3, h⟩ := Res.bind_inv h
  obtain ⟨d, s7, hd, h⟩ := Res.bind_inv h
  obtain ⟨d4, s8, hd4, h⟩ := Res.bind_inv h
  obtain ⟨e, s9, he, h⟩ := Res.bind_inv h
  cases h
  rw [dash_ok hd1, dash_ok hd2, dash_ok hd3, dash_ok hd4, String.toList_ofList]
  obtain ⟨la, xa⟩ := hexN_ok ha
  obtain ⟨lb, xb⟩ := hexN_ok hb
  obtain ⟨lc, xc⟩ := hexN_ok hc
  obtain ⟨ld, xd⟩ := hexN_ok hd
  obtain ⟨le, xe⟩ := hexN_ok he
  refine ⟨_, _, _, _, _, ?_, la, lb, lc, ld, le, ?_⟩
  · simp only [List.map_append, List.map_cons, toLower_dash, List.append_assoc, List.cons_append,
      List.nil_append]
  · simp only [List.forall_mem_append]
    exact ⟨⟨⟨⟨xa, xb⟩, xc⟩, xd⟩, xe⟩

/-! ## metadata lines -/

theorem metaLine_sat {α} {key : List Char} {value : P α} {Q : α → Prop} (hv : ∀ s, (value s).Sat Q) (s : List Char) :
    (metaLine key value s).Sat Q :=
  .skip fun _ _ => .skip fun _ _ => .skip fun _ _ => .skip fun _ _ => .skip fun _ _ =>
  .bind (cutErr_sat (hv _)) fun _ _ hq => .skip fun _ _ => .skip fun _ _ => .ok hq

theorem parseMetaUuid_ok_wf {s r : List Char} {u : String} (h : parseMetaUuid s = .ok u r) : UuidWF u.toList :=
  metaLine_sat (fun _ _ _ => pUuid_ok_wf) s u r h

theorem pGeoUri_ok_wf {s r : List Char} {g : Geo} (h : pGeoUri s = .ok g r) : GeoWF g :=
  have num : ∀ s, (cutErr pNumber s).Sat NumWF := fun _ => cutErr_sat fun _ _ => pNumber_ok_numWF
  (show (pGeoUri s).Sat GeoWF from
    .skip fun _ _ => .skip fun _ _ => .bind (num _) fun lat _ hlat => .skip fun _ _ => .skip fun _ _ =>
    .skip fun _ _ => .bind (num _) fun lon _ hlon => .skip fun _ _ =>
    .bind (opt_sat (.skip fun _ _ => .skip fun _ _ => num _)) fun alt _ halt => by
      split
      · rename_i hok; exact .ok ⟨hlat, hlon, halt, hok⟩
      · exact .cut) g r h

theorem parseMetaLocation_ok_wf {s r : List Char} {g : Geo} (h : parseMetaLocation s = .ok g r) : GeoWF g :=
  metaLine_sat (fun _ _ _ => pGeoUri_ok_wf) s g r h

theorem pTagTail_sat (s : List Char) : (pTagTail s).Sat PartsWF :=
  .skip fun _ _ => .skip fun _ _ => .skip fun _ _ => cutErr_sat fun _ _ => pMultiPartId_ok_wf

theorem pTags_ok_wf {s r : List Char} {tags : List String} (h : pTags s = .ok tags r) : TagsWF tags :=
  (show (pTags s).Sat TagsWF from
    .bind (cutErr_sat fun _ _ => pMultiPartId_ok_wf) fun t _ ht => .bind (repeat0_sat pTagTail_sat _) fun ts _ hts =>
    .ok ⟨t, ts, rfl, fun parts hp => (List.mem_cons.mp hp).elim (fun e => e ▸ ht) (hts parts)⟩) tags r h

theorem parseMetaTags_ok_wf {s r : List Char} {tags : List String} (h : parseMetaTags s = .ok tags r) : TagsWF tags :=
  metaLine_sat (fun _ _ _ => pTags_ok_wf) s tags r h

/-- the three optional metadata values of a `TxnMeta` are well-formed -/
structure TxnMetaWF (m : TxnMeta) : Prop where
  uuid : ∀ u, m.uuid = some u → UuidWF u.toList
  location : ∀ g, m.location = some g → GeoWF g
  tags : ∀ t, m.tags = some t → TagsWF t

theorem metaRest_sat {β γ} {p : P β} {q : P γ} {mk : Option β → Option γ → TxnMeta} {Qp : β → Prop} {Qq : γ → Prop}
    {Q : TxnMeta → Prop} (hp : ∀ s, (p s).Sat Qp) (hq : ∀ s, (q s).Sat Qq)
    (hmk : ∀ b c, (∀ y, b = some y → Qp y) → (∀ z, c = some z → Qq z) → Q (mk b c)) (s : List Char) :
    (metaRest p q mk s).Sat Q :=
  alt_sat (.bind (hp _) fun _ _ hb => .bind (opt_sat (hq _)) fun _ _ hc =>
      .ok (hmk _ _ (fun _ e => Option.some.inj e ▸ hb) hc))
    (alt_sat (.bind (hq _) fun _ _ hc => .bind (opt_sat (hp _)) fun _ _ hb =>
      .ok (hmk _ _ hb fun _ e => Option.some.inj e ▸ hc))
    (.ok (hmk _ _ (fun _ e => nomatch e) fun _ e => nomatch e)))

theorem parseTxnMeta_ok_wf {s r : List Char} {m : TxnMeta} (h : parseTxnMeta s = .ok m r) : TxnMetaWF m := by
  have hu : ∀ s, (parseMetaUuid s).Sat fun u => UuidWF u.toList := fun _ _ _ => parseMetaUuid_ok_wf
  have hl : ∀ s, (parseMetaLocation s).Sat GeoWF := fun _ _ _ => parseMetaLocation_ok_wf
  have ht : ∀ s, (parseMetaTags s).Sat TagsWF := fun _ _ _ => parseMetaTags_ok_wf
  rw [parseTxnMeta_eq_tree] at h
  exact (show (metaTree _ _ _ _ s).Sat TxnMetaWF from
    alt_sat (.bind (hu _) fun _ _ xu => metaRest_sat ht hl (fun _ _ xt xl => ⟨fun _ e => Option.some.inj e ▸ xu, xl, xt⟩) _)
    (alt_sat (.bind (ht _) fun _ _ xt => metaRest_sat hu hl (fun _ _ xu xl => ⟨xu, xl, fun _ e => Option.some.inj e ▸ xt⟩) _)
      (.bind (hl _) fun _ _ xl => metaRest_sat hu ht (fun _ _ xu xt => ⟨xu, fun _ e => Option.some.inj e ▸ xl, xt⟩) _))) m r h

/-! ## posting value -/

/-- a closing position as the grammar stores it: an identifier and a well-formed number -/
def ClosingLex : Closing → Prop
  | .total v => IdentWF v.comm.toList ∧ NumWF v.value
  | .unitPrice v => IdentWF v.comm.toList ∧ NumWF v.value

theorem pClosingPos_sat (s : List Char) : (pClosingPos s).Sat ClosingLex :=
  .skip fun _ _ => .skip fun k _ => .skip fun _ _ => .bind (cutErr_sat fun _ _ => pNumber_ok_numWF) fun v _ hv =>
  .skip fun _ _ => .bind (cutErr_sat (pIdentifier_sat _)) fun c _ hc => by
    have hid : IdentWF (String.ofList c).toList := by simpa [String.toList_ofList] using hc
    cases hcl : closingOf k ⟨v, String.ofList c⟩ with
    | none => exact .cut
    | some cl =>
      unfold closingOf at hcl
      split at hcl
      · cases hcl; exact .ok ⟨hid, hv⟩
      · split at hcl
        · cases hcl; exact .ok ⟨hid, hv⟩
        · cases hcl

theorem pPosition_sat (s : List Char) : (pPosition s).Sat fun p => ∀ c, p.2 = some c → ClosingLex c :=
  alt_sat (.skip fun _ _ => .bind (pClosingPos_sat _) fun _ _ hc => .ok fun _ e => by cases e; exact hc)
    (alt_sat (.map fun _ _ _ _ e => nomatch e) (.map fun c' t h _ e => by cases e; exact pClosingPos_sat _ c' t h))

theorem pUnit_sat (s : List Char) :
    (pUnit s).Sat fun u => IdentWF u.comm.toList ∧ ∀ c, u.closing = some c → ClosingLex c :=
  .skip fun _ _ => .bind (pIdentifier_sat _) fun c _ hc => .bind (opt_sat (pPosition_sat _)) fun pos _ hpos => by
    have hid : IdentWF (String.ofList c).toList := by simpa [String.toList_ofList] using hc
    cases pos with
    | none => exact .ok ⟨hid, fun _ e => nomatch e⟩
    | some oc => obtain ⟨o, cl⟩ := oc; exact .ok ⟨hid, hpos (o, cl) rfl⟩

/-- lexical well-formedness of a posting's unit (the form `C06.RawPostingLex.unit` has) -/
def UnitLex (unit : Option PostUnit) : Prop :=
  ∀ u, unit = some u → IdentWF u.comm.toList ∧ isValidId u.comm.toList = true ∧
    (∀ v, (u.closing = some (.total v) ∨ u.closing = some (.unitPrice v)) →
      IdentWF v.comm.toList ∧ isValidId v.comm.toList = true ∧ NumWF v.value)

theorem parsePostingValue_ok_wf {s r : List Char} {a : Dec} {unit : Option PostUnit}
    (h : parsePostingValue s = .ok (a, unit) r) : NumWF a ∧ UnitLex unit := by
  unfold parsePostingValue at h
  obtain ⟨a', s1, ha, h⟩ := Res.bind_inv h
  obtain ⟨u', s2, hu, h⟩ := Res.bind_inv h
  split at h
  · rename_i hok
    cases h
    refine ⟨pNumber_ok_numWF ha, ?_⟩
    intro u hu'
    subst hu'
    rcases opt_ok hu with ⟨x, e, hx⟩ | ⟨e, _⟩
    · cases e
      obtain ⟨hid, hcl⟩ := pUnit_sat _ _ _ hx
      simp only [unitCommsOk, Bool.and_eq_true] at hok
      refine ⟨hid, hok.1, ?_⟩
      intro v hv
      rcases hv with hv | hv
      · have := hcl _ hv
        rw [hv] at hok
        exact ⟨this.1, hok.2, this.2⟩
      · have := hcl _ hv
        rw [hv] at hok
        exact ⟨this.1, hok.2, this.2⟩
    · cases e
  · cases h

/-! ## posting lines -/

/-- lexical well-formedness of a parsed posting (the fields of `C06.RawPostingLex`) -/
structure PostLex (rp : RawPosting) : Prop where
  acct : ∃ parts, PartsWF parts ∧ rp.acct = toPath parts ∧ acctOk parts = true
  amount : NumWF rp.amount
  unit : UnitLex rp.unit
  comment : ∀ c, rp.comment = some c → LineText c.toList

theorem parseTxnPosting_ok_wf {s r : List Char} {rp : RawPosting} (h : parseTxnPosting s = .ok rp r) : PostLex rp :=
  (show (parseTxnPosting s).Sat PostLex from
    .skip fun _ _ => .bind (fun _ _ => pMultiPartId_ok_wf) fun acct _ hacct => .skip fun _ _ =>
    .bind (fun v _ h => parsePostingValue_ok_wf (a := v.1) (unit := v.2) h) fun v _ hv => .skip fun _ _ =>
    .bind (fun _ _ => optComment_ok) fun c _ hc => .skip fun _ _ => by
      split
      · rename_i hok; exact .ok ⟨⟨acct, hacct, rfl, hok⟩, hv.1, hv.2, hc⟩
      · exact .cut) rp r h

theorem parseTxnLastPosting_sat (s : List Char) :
    (parseTxnLastPosting s).Sat fun p => PartsWF p.1 ∧ ∀ x, p.2 = some x → LineText x.toList :=
  .skip fun _ _ => .bind (fun _ _ => pMultiPartId_ok_wf) fun _ _ ha => .skip fun _ _ =>
  .bind (fun _ _ => optComment_ok) fun _ _ hc => .skip fun _ _ => .ok ⟨ha, hc⟩

theorem parseTxnPostings_ok_wf {s r : List Char} {ps : List RawPosting} {last : Option (Path × Option String)}
    (h : parseTxnPostings s = .ok (ps, last) r) :
    ps ≠ [] ∧ (∀ rp ∈ ps, PostLex rp) ∧
    (∀ a c, last = some (a, c) →
      (∃ parts, PartsWF parts ∧ a = toPath parts ∧ acctOk parts = true) ∧ (∀ x, c = some x → LineText x.toList)) := by
  unfold parseTxnPostings at h
  obtain ⟨ps', s1, hps, h⟩ := Res.bind_inv h
  obtain ⟨l, s2, hl, h⟩ := Res.bind_inv h
  obtain ⟨hne, hall⟩ := repeat1_all parseTxnPosting PostLex (fun _ _ _ e => parseTxnPosting_ok_wf e) hps
  split at h
  · cases h
    exact ⟨hne, hall, fun _ _ e => by cases e⟩
  · rename_i acct c
    split at h
    · rename_i hok
      cases h
      refine ⟨hne, hall, ?_⟩
      intro a c' e
      cases e
      rcases opt_ok hl with ⟨x, e, hx⟩ | ⟨e, _⟩
      · cases e
        obtain ⟨hp, hc⟩ := parseTxnLastPosting_sat _ _ _ hx
        exact ⟨⟨acct, hp, rfl, hok⟩, hc⟩
      · cases e
    · cases h

/-! ## timestamps: every parsed timestamp is a resolved token -/

/-- what the grammar guarantees about the fraction digits of a token: 1–9 ASCII digits -/
def FracDigits (t : Time.TsToken) : Prop :=
  ∀ h mi s ds, t.time = some (h, mi, s, some ds) → (∀ c ∈ ds, isDecDigit c = true) ∧ ds.length ≤ 9

theorem ofOutcome_ok {α} {o : Outcome α} {s r : List Char} {a : α} (h : ofOutcome o s = .ok a r) : o = .ok a := by
  unfold ofOutcome at h
  split at h
  · cases h; rfl
  · cases h
  · cases h

theorem pDatetime_sat (s : List Char) :
    (pDatetime s).Sat fun dt => ∀ z, FracDigits ⟨dt.1.1, dt.1.2.1, dt.1.2.2, some dt.2, z⟩ :=
  .skip fun _ _ => .skip fun _ _ => .skip fun _ _ => .skip fun _ _ => .skip fun _ _ => .skip fun _ _ => .skip fun _ _ =>
  .bind (opt_sat (.skip fun _ _ => cutErr_sat fun _ _ h => (takeMN_ok _ _ _ _ _ _ h).2.2)) fun fr _ hfr => by
    split
    · refine .ok fun z hh mi sec ds e => ?_
      simp only [Option.some.injEq, Prod.mk.injEq] at e
      obtain ⟨_, _, _, rfl⟩ := e
      exact ⟨(hfr ds rfl).2, (hfr ds rfl).1⟩
    · exact .cut

/-- whichever of the three notations matched, the result is `resolveTs` of a token whose fraction (if any) has 1–9
    digits -/
theorem parseTimestamp_resolved {cfg : Time.TsCfg} {s r : List Char} {ts : Ts} (h : parseTimestamp cfg s = .ok ts r) :
    ∃ t, FracDigits t ∧ Time.resolveTs cfg t = .ok ts :=
  (show (parseTimestamp cfg s).Sat fun ts => ∃ t, FracDigits t ∧ Time.resolveTs cfg t = .ok ts from
    alt_sat (.bind (pDatetime_sat _) fun _ _ hdt => .skip fun _ _ _ _ h => ⟨_, hdt _, ofOutcome_ok h⟩)
    (alt_sat (.bind (pDatetime_sat _) fun _ _ hdt _ _ h => ⟨_, hdt _, ofOutcome_ok h⟩)
    (alt_sat (.skip fun _ _ _ _ h => ⟨_, (fun _ _ _ _ e => by cases e), ofOutcome_ok h⟩)
      fun _ _ e => by cases e))) ts r h

end Syntax
end Tackler
