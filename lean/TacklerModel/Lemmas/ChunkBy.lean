import TacklerModel.Model.Balance
/-! itertools `chunk_by` (`Tackler.chunkBy`): the chunks partition the list, every member of a chunk has the
    chunk's key, and along a list whose keys never go back (`key a = key b ∨ S (key a) (key b)` for a strict
    order `S`) the chunk keys are strictly increasing, so every key has exactly one chunk, which is the
    sub-list of all elements with that key (`chunkBy_sorted`). -/
namespace Tackler
namespace ChunkBy

universe u v

section
variable {α : Type u} {κ : Type v} [DecidableEq κ]

theorem chunkBy_flatten (key : α → κ) : ∀ l : List α, ((chunkBy key l).map (·.2)).flatten = l := by
  intro l
  fun_induction chunkBy key l <;> simp_all

theorem chunkBy_keys (key : α → κ) : ∀ l : List α, ∀ kg ∈ chunkBy key l, kg.2 ≠ [] ∧ ∀ a ∈ kg.2, key a = kg.1 := by
  intro l
  fun_induction chunkBy key l <;> simp_all <;> (rename_i h; exact h.2)

theorem chunk_subset (key : α → κ) (l : List α) (kg : κ × List α) (h : kg ∈ chunkBy key l) :
    ∀ a ∈ kg.2, a ∈ l := by
  intro a ha
  have := chunkBy_flatten key l
  rw [← this]
  exact List.mem_flatten.mpr ⟨kg.2, List.mem_map.mpr ⟨kg, h, rfl⟩, ha⟩

theorem chunk_key_mem (key : α → κ) (l : List α) (kg : κ × List α) (h : kg ∈ chunkBy key l) :
    ∃ a ∈ l, key a = kg.1 := by
  have hk := chunkBy_keys key l kg h
  obtain ⟨b, tb, hb⟩ := List.exists_cons_of_ne_nil hk.1
  exact ⟨b, chunk_subset key l kg h b (by rw [hb]; exact List.mem_cons_self),
    hk.2 b (by rw [hb]; exact List.mem_cons_self)⟩

theorem mem_chunk (key : α → κ) (l : List α) (a : α) (ha : a ∈ l) :
    ∃ g, (key a, g) ∈ chunkBy key l ∧ a ∈ g := by
  have := chunkBy_flatten key l
  rw [← this] at ha
  obtain ⟨g, hg, hag⟩ := List.mem_flatten.mp ha
  obtain ⟨kg, hkg, rfl⟩ := List.mem_map.mp hg
  have := (chunkBy_keys key l kg hkg).2 a hag
  exact ⟨kg.2, by rw [this]; exact hkg, hag⟩

/-- keys that never go back along the list ⇒ strictly increasing chunk keys -/
theorem chunk_keys_pairwise (key : α → κ) (S : κ → κ → Prop)
    (htr : ∀ a b c, S a b → S b c → S a c) :
    ∀ l : List α, l.Pairwise (fun a b => key a = key b ∨ S (key a) (key b)) →
      ((chunkBy key l).map (·.1)).Pairwise S := by
  intro l
  induction l with
  | nil => intro _; simp [chunkBy]
  | cons a t ih =>
    intro hp
    have hp' := List.pairwise_cons.mp hp
    have iht := ih hp'.2
    simp only [chunkBy]
    split
    · rename_i k g rest hc
      rw [hc] at iht
      split
      · exact iht
      · rename_i hne
        simp only [List.map_cons, List.pairwise_cons] at iht ⊢
        -- k is the key of some element of t
        obtain ⟨b, hbt, hbk⟩ := chunk_key_mem key t (k, g) (by rw [hc]; exact List.mem_cons_self)
        simp only at hbk
        have hak : S (key a) k := by
          rcases hp'.1 b hbt with h | h
          · exact absurd (h.trans hbk) hne
          · rw [← hbk]; exact h
        refine ⟨?_, iht⟩
        intro k' hk'
        rcases List.mem_cons.mp hk' with rfl | hk''
        · exact hak
        · exact htr _ _ _ hak (iht.1 k' hk'')
    · simp

/-- in a chunk list with pairwise different keys whose members carry their chunk's key, the chunk of `k`
    is the sub-list of all elements with key `k` -/
theorem flatten_filter_chunk (key : α → κ) :
    ∀ (cs : List (κ × List α)), (cs.map (·.1)).Nodup → (∀ kg ∈ cs, ∀ a ∈ kg.2, key a = kg.1) →
      ∀ kg ∈ cs, ((cs.map (·.2)).flatten).filter (fun a => decide (key a = kg.1)) = kg.2 := by
  intro cs
  induction cs with
  | nil => intro _ _ kg h; cases h
  | cons c rest ih =>
    intro hnd hk kg hkg
    simp only [List.map_cons, List.nodup_cons] at hnd
    simp only [List.map_cons, List.flatten_cons, List.filter_append]
    have hrest_none : ∀ (k : κ), k ∉ rest.map (·.1) →
        ((rest.map (·.2)).flatten).filter (fun a => decide (key a = k)) = [] := by
      intro k hkn
      rw [List.filter_eq_nil_iff]
      intro a ha
      obtain ⟨g, hg, hag⟩ := List.mem_flatten.mp ha
      obtain ⟨kg', hkg', rfl⟩ := List.mem_map.mp hg
      have := hk kg' (List.mem_cons_of_mem _ hkg') a hag
      simp only [decide_eq_true_eq]
      intro e
      exact hkn (List.mem_map.mpr ⟨kg', hkg', by rw [← this, e]⟩)
    rcases List.mem_cons.mp hkg with rfl | hmem
    · have h1 : kg.2.filter (fun a => decide (key a = kg.1)) = kg.2 := by
        rw [List.filter_eq_self]
        intro a ha
        simp [hk kg List.mem_cons_self a ha]
      rw [h1, hrest_none kg.1 hnd.1]; simp
    · have hne : c.1 ≠ kg.1 := by
        intro e; exact hnd.1 (List.mem_map.mpr ⟨kg, hmem, e.symm⟩)
      have h1 : c.2.filter (fun a => decide (key a = kg.1)) = [] := by
        rw [List.filter_eq_nil_iff]
        intro a ha
        simp only [decide_eq_true_eq]
        rw [hk c List.mem_cons_self a ha]; exact hne
      rw [h1, List.nil_append]
      exact ih hnd.2 (fun kg' h' => hk kg' (List.mem_cons_of_mem _ h')) kg hmem

theorem chunk_eq_filter (key : α → κ) (l : List α) (hnd : ((chunkBy key l).map (·.1)).Nodup)
    (kg : κ × List α) (h : kg ∈ chunkBy key l) : kg.2 = l.filter (fun a => decide (key a = kg.1)) := by
  have := flatten_filter_chunk key (chunkBy key l) hnd (fun kg' h' => (chunkBy_keys key l kg' h').2) kg h
  rw [chunkBy_flatten] at this
  exact this.symm

/-- chunking a list whose keys never go back w.r.t. a strict order `S`: the chunk keys increase strictly, they
    are the keys that occur in the list, and the chunk of a key is the sub-list of the elements carrying it -/
theorem chunkBy_sorted (key : α → κ) (S : κ → κ → Prop) (htr : ∀ a b c, S a b → S b c → S a c)
    (hirr : ∀ a, ¬ S a a) (l : List α) (h : l.Pairwise (fun a b => key a = key b ∨ S (key a) (key b))) :
    ((chunkBy key l).map (·.1)).Pairwise S ∧
    (∀ k, k ∈ (chunkBy key l).map (·.1) ↔ ∃ a ∈ l, key a = k) ∧
    ∀ kg ∈ chunkBy key l, kg.2 = l.filter (fun a => decide (key a = kg.1)) := by
  have hstrict := chunk_keys_pairwise key S htr l h
  have hnd : ((chunkBy key l).map (·.1)).Nodup :=
    hstrict.imp fun {a b} (hab : S a b) (e : a = b) => hirr b (e ▸ hab)
  refine ⟨hstrict, fun k => ⟨?_, ?_⟩, chunk_eq_filter key l hnd⟩
  · intro hk
    obtain ⟨kg, hkg, rfl⟩ := List.mem_map.mp hk
    exact chunk_key_mem key l kg hkg
  · rintro ⟨a, ha, rfl⟩
    obtain ⟨g, hg, _⟩ := mem_chunk key l a ha
    exact List.mem_map.mpr ⟨_, hg, rfl⟩

end

variable {α κ : Type} [DecidableEq κ]

theorem chunkBy_strict (key : α → κ) (S : κ → κ → Prop)
    (htr : ∀ a b c, S a b → S b c → S a c) :
    ∀ l : List α, l.Pairwise (fun a b => key a = key b ∨ S (key a) (key b)) →
      ((chunkBy key l).map (·.1)).Pairwise S :=
  chunk_keys_pairwise key S htr

end ChunkBy
end Tackler
