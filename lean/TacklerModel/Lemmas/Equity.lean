import TacklerModel.Lemmas.BalanceSpec
/-! Facts about the rows of the balance kernel that need no invariant of the posting stream.  Every entry of the
    completed list is an account sum or the zero entry of a gap (`completeTree_entries`), and every row is built
    from an entry and the rows below it, so a property of entries that the tree-sum step carries to rows holds of
    all rows (`treeNodes_rows`, `balance_rows`); `balance_P` is the case of a property of own sums, and
    `balance_own_scale` the scale bound. -/
namespace Tackler
namespace EqL

theorem chunkBy_strict {α} (key : α → String) : ∀ l : List α,
    l.Pairwise (fun a b => ¬ key b < key a) → ((chunkBy key l).map (·.1)).Pairwise (· < ·) := by
  intro l hp
  refine ChunkBy.chunk_keys_pairwise key (· < ·) (fun _ _ _ => String.lt_trans) l (hp.imp fun {a b} hba => ?_)
  rcases Classical.em (key a < key b) with hab | hab
  · exact .inr hab
  · exact .inl (String.le_antisymm (String.not_lt.mp hba) (String.not_lt.mp hab))

/-! ### the balance kernel: where the own sums of the rows come from -/

theorem accountSums_scale (posts : List BPost) (sums : List (AKey × Dec))
    (hwf : ∀ p ∈ posts, p.amount.scale ≤ 28) (h : accountSums posts = some sums) :
    ∀ ks ∈ sums, ks.2.scale ≤ 28 := by
  intro ks hks
  unfold accountSums at h
  obtain ⟨g, hg, hs⟩ := (C02.sumGroups_spec _ _ h).2 ks hks
  refine (Dec.sum_units _ _ ?_ hs).2
  intro d hd
  simp only [List.mem_map] at hd
  obtain ⟨p, hp, rfl⟩ := hd
  have := ChunkBy.chunk_subset BPost.key _ _ hg p hp
  exact hwf p ((List.mergeSort_perm posts _).mem_iff.mp this)

theorem btreeInsert_mem (l : List (AKey × Dec)) (y x : AKey × Dec) (h : x ∈ btreeInsert l y) :
    x ∈ l ∨ x = y := by
  induction l with
  | nil => simp [btreeInsert] at h; exact .inr h
  | cons z t ih =>
    simp only [btreeInsert] at h
    split at h
    · rcases List.mem_cons.mp h with rfl | h'
      · exact .inr rfl
      · exact .inl h'
    · split at h
      · rcases List.mem_cons.mp h with rfl | h'
        · exact .inl List.mem_cons_self
        · rcases ih h' with h'' | h''
          · exact .inl (List.mem_cons_of_mem _ h'')
          · exact .inr h''
      · exact .inl h

theorem btreeFold_mem : ∀ (l acc : List (AKey × Dec)) (x : AKey × Dec),
    x ∈ l.foldl btreeInsert acc → x ∈ acc ∨ x ∈ l := by
  intro l
  induction l with
  | nil => intro acc x h; exact .inl h
  | cons y t ih =>
    intro acc x h
    simp only [List.foldl_cons] at h
    rcases ih _ x h with h' | h'
    · rcases btreeInsert_mem acc y x h' with h'' | h''
      · exact .inl h''
      · exact .inr (by rw [h'']; exact List.mem_cons_self)
    · exact .inr (List.mem_cons_of_mem _ h')

theorem completeTree_entries (Q : AKey × Dec → Prop) (hz : ∀ k, Q (k, Dec.zero)) (st : Settings)
    (sums complete : List (AKey × Dec)) (hs : ∀ s ∈ sums, Q s) (h : completeTree st sums = .ok complete) :
    ∀ x ∈ complete, Q x := by
  unfold completeTree at h
  obtain ⟨ls, hls, rfl⟩ := (Outcome.map_ok _ _ _).mp h
  intro x hx
  rcases btreeFold_mem _ _ x hx with h' | h'
  · cases h'
  · obtain ⟨s, hs', _, _, _, hx | hx | hx⟩ := (C02.bubbleAll_spec st sums sums ls hls).1 x h'
    · exact hx ▸ hs s hs'
    · exact hs x hx
    · have : x = (x.1, Dec.zero) := Prod.ext rfl hx.1
      exact this ▸ hz x.1

theorem flattenOpt_mem {α} : ∀ (ls : List (Option (List α))) (out : List α),
    flattenOpt ls = some out → ∀ r ∈ out, ∃ l, some l ∈ ls ∧ r ∈ l := by
  intro ls
  induction ls with
  | nil => intro out h r hr; simp [flattenOpt] at h; subst h; cases hr
  | cons o rest ih =>
    intro out h r hr
    cases o with
    | none => simp [flattenOpt] at h
    | some l =>
      simp only [flattenOpt] at h
      split at h
      · cases h
      · rename_i r' hr'
        cases h
        rcases List.mem_append.mp hr with h1 | h1
        · exact ⟨l, List.mem_cons_self, h1⟩
        · obtain ⟨l', hl', hrl'⟩ := ih r' hr' r h1
          exact ⟨l', List.mem_cons_of_mem _ hl', hrl'⟩

/-- The rows of a tree walk satisfy `R` if the entries satisfy `Q` and `R` holds of a node's row whenever its entry
    satisfies `Q`, the rows below it satisfy `R`, and its tree sum was computed from theirs. -/
theorem treeNodes_rows (Q : AKey × Dec → Prop) (R : BalRow → Prop) (complete : List (AKey × Dec))
    (hc : ∀ s ∈ complete, Q s)
    (hstep : ∀ (me : AKey × Dec) (sub : List BalRow) (cs t : Dec), Q me → (∀ x ∈ sub, R x) →
      Dec.sum ((sub.filter (fun r => parentPath r.acct == me.1.2)).map (·.tree)) = some cs →
      Dec.add cs me.2 = some t → R ⟨me.1.2, me.1.1, me.2, t⟩) :
    ∀ (fuel : Nat) (me : AKey × Dec) (rows : List BalRow), Q me →
      treeNodes complete fuel me = some rows → ∀ r ∈ rows, R r := by
  intro fuel
  induction fuel with
  | zero => intro me rows _ h; simp [treeNodes] at h
  | succ n ih =>
    intro me rows hme h r hr
    simp only [treeNodes] at h
    split at h
    · cases h
    · rename_i sub hsub
      have hsubR : ∀ x ∈ sub, R x := by
        intro x hx
        obtain ⟨l, hl, hxl⟩ := flattenOpt_mem _ _ hsub x hx
        simp only [List.mem_map, List.mem_filter] at hl
        obtain ⟨s, ⟨hs, _⟩, hl⟩ := hl
        exact ih s l (hc s hs) hl x hxl
      split at h
      · cases h
      · rename_i cs hcs
        split at h
        · cases h
        · rename_i t ht
          cases h
          rcases List.mem_cons.mp hr with rfl | hr'
          · exact hstep me sub cs t hme hsubR hcs ht
          · exact hsubR r hr'

theorem balance_rows (Q : AKey × Dec → Prop) (R : BalRow → Prop) (hz : ∀ k, Q (k, Dec.zero))
    (hstep : ∀ (me : AKey × Dec) (sub : List BalRow) (cs t : Dec), Q me → (∀ x ∈ sub, R x) →
      Dec.sum ((sub.filter (fun r => parentPath r.acct == me.1.2)).map (·.tree)) = some cs →
      Dec.add cs me.2 = some t → R ⟨me.1.2, me.1.1, me.2, t⟩)
    (st : Settings) (posts : List BPost) (rows : List BalRow)
    (hsums : ∀ sums, accountSums posts = some sums → ∀ s ∈ sums, Q s)
    (h : balance st posts = .ok rows) : ∀ r ∈ rows, R r := by
  obtain ⟨sums, complete, bal, hs, hc, hb, rfl⟩ := (C02.balance_ok_iff st posts rows).mp h
  intro r hr
  have hr' := (List.mergeSort_perm bal _).mem_iff.mp hr
  have hcQ := completeTree_entries Q hz st sums complete (hsums sums hs) hc
  obtain ⟨l, hl, hrl⟩ := flattenOpt_mem _ _ hb r hr'
  simp only [List.mem_map, List.mem_filter] at hl
  obtain ⟨s, ⟨hs', _⟩, hl⟩ := hl
  exact treeNodes_rows Q R complete hcQ hstep _ s l (hcQ s hs') hl r hrl

/-- every own sum of a balance row is an account sum or a gap zero: it satisfies any `P` they all satisfy -/
theorem balance_P (P : Dec → Prop) (hz : P Dec.zero) (st : Settings) (posts : List BPost) (rows : List BalRow)
    (hsums : ∀ sums, accountSums posts = some sums → ∀ s ∈ sums, P s.2)
    (h : balance st posts = .ok rows) : ∀ r ∈ rows, P r.own :=
  balance_rows (fun x => P x.2) (fun r => P r.own) (fun _ => hz) (fun _ _ _ _ hme _ _ _ => hme) st posts rows
    hsums h

theorem balance_own_scale (st : Settings) (posts : List BPost) (rows : List BalRow)
    (hwf : ∀ p ∈ posts, p.amount.scale ≤ 28) (h : balance st posts = .ok rows) :
    ∀ r ∈ rows, r.own.scale ≤ 28 :=
  balance_P (fun d => d.scale ≤ 28) (by simp [Dec.zero]) st posts rows
    (fun sums hs => accountSums_scale posts sums hwf hs) h

end EqL
end Tackler
