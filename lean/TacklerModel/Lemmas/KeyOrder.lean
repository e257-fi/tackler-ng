import TacklerModel.Model.Balance
/-! The order of account keys (`Ord for TxnAccount`: commodity name, then account *name*):
    `keyLe` is a total preorder, `keyLt` its strict part; both look only at `nk k` (commodity and account name), so
    keys are ordered linearly where names determine paths.  They do when components are non-empty and contain
    no ':' (`acctName_inj`). -/
namespace Tackler
namespace KeyOrder

/-- what the order looks at: commodity and account name -/
def nk (k : AKey) : String × String := (k.1, acctName k.2)

theorem keyLt_iff (a b : AKey) :
    keyLt a b = true ↔ a.1 < b.1 ∨ (a.1 = b.1 ∧ acctName a.2 < acctName b.2) := by
  simp [keyLt]

theorem keyLe_iff (a b : AKey) :
    keyLe a b = true ↔ a.1 < b.1 ∨ (a.1 = b.1 ∧ ¬ acctName b.2 < acctName a.2) := by
  simp [keyLe]

theorem keyLe_trans (a b c : AKey) (h1 : keyLe a b = true) (h2 : keyLe b c = true) : keyLe a c = true := by
  rw [keyLe_iff] at *; grind

theorem keyLe_total (a b : AKey) : (keyLe a b || keyLe b a) = true := by
  rw [Bool.or_eq_true, keyLe_iff, keyLe_iff]; grind

theorem keyLe_refl (a : AKey) : keyLe a a = true := by
  rw [keyLe_iff]; grind

theorem keyLt_irrefl (a : AKey) : keyLt a a = false := by
  cases h : keyLt a a with
  | false => rfl
  | true => rw [keyLt_iff] at h; grind

theorem keyLt_trans (a b c : AKey) (h1 : keyLt a b = true) (h2 : keyLt b c = true) : keyLt a c = true := by
  rw [keyLt_iff] at *; grind

theorem keyLt_asymm (a b : AKey) (h1 : keyLt a b = true) : keyLt b a = false := by
  cases h : keyLt b a with
  | false => rfl
  | true => have := keyLt_trans a b a h1 h; rw [keyLt_irrefl] at this; cases this

theorem keyLe_of_lt (a b : AKey) (h : keyLt a b = true) : keyLe a b = true := by
  rw [keyLt_iff] at h; rw [keyLe_iff]; grind

theorem keyLt_of_lt_of_le (a b c : AKey) (h1 : keyLt a b = true) (h2 : keyLe b c = true) : keyLt a c = true := by
  rw [keyLt_iff] at *; rw [keyLe_iff] at h2; grind

theorem keyLt_of_le_of_lt (a b c : AKey) (h1 : keyLe a b = true) (h2 : keyLt b c = true) : keyLt a c = true := by
  rw [keyLt_iff] at *; rw [keyLe_iff] at h1; grind

theorem keyLt_of_le_of_ne (a b : AKey) (h : keyLe a b = true) (hne : nk a ≠ nk b) : keyLt a b = true := by
  rw [keyLe_iff] at h; rw [keyLt_iff]
  have : ¬ (a.1 = b.1 ∧ acctName a.2 = acctName b.2) := by
    intro ⟨h1, h2⟩; apply hne; simp [nk, h1, h2]
  grind

theorem nk_eq_of_not_lt (a b : AKey) (h1 : keyLt a b = false) (h2 : keyLt b a = false) : nk a = nk b := by
  have h1' : ¬ (a.1 < b.1 ∨ (a.1 = b.1 ∧ acctName a.2 < acctName b.2)) := by
    rw [← keyLt_iff]; simp [h1]
  have h2' : ¬ (b.1 < a.1 ∨ (b.1 = a.1 ∧ acctName b.2 < acctName a.2)) := by
    rw [← keyLt_iff]; simp [h2]
  have : a.1 = b.1 ∧ acctName a.2 = acctName b.2 := by grind
  simp [nk, this.1, this.2]

theorem keyLt_ne (a b : AKey) (h : keyLt a b = true) : a ≠ b := by
  intro e; subst e; rw [keyLt_irrefl] at h; cases h

theorem comm_of_keyLe {a b : AKey} (h : keyLe a b = true) : a.1 = b.1 ∨ a.1 < b.1 := by
  rw [keyLe_iff] at h
  exact h.elim .inr fun h => .inl h.1

theorem nodup_of_pairwise_keyLt (l : List AKey) (h : l.Pairwise (fun a b => keyLt a b = true)) : l.Nodup := by
  apply List.Pairwise.imp _ h
  intro a b hab; exact keyLt_ne a b hab

/-! ### account names determine paths -/

/-- a path whose components are non-empty and contain no ':' (what the grammar produces) -/
def GoodPath (p : Path) : Prop := ∀ c ∈ p, c ≠ "" ∧ ':' ∉ c.toList

theorem goodPath_prefix {p q : Path} (h : GoodPath q) (hp : p <+: q) : GoodPath p :=
  fun c hc => h c (hp.subset hc)

theorem acctName_toList (p : Path) : (acctName p).toList = [':'].intercalate (p.map String.toList) := by
  unfold acctName
  rw [String.toList_intercalate]
  rfl

theorem acctName_inj (p q : Path) (hp : GoodPath p) (hq : GoodPath q) (h : acctName p = acctName q) : p = q := by
  have ht : [':'].intercalate (p.map String.toList) = [':'].intercalate (q.map String.toList) := by
    rw [← acctName_toList, ← acctName_toList, h]
  have hno : ∀ (r : Path), GoodPath r → ∀ l ∈ r.map String.toList, ¬ ':' ∈ l := by
    intro r hr l hl
    obtain ⟨c, hc, rfl⟩ := List.mem_map.mp hl
    exact (hr c hc).2
  have key : ∀ (r : Path), GoodPath r → r ≠ [] →
      List.splitOn ':' ([':'].intercalate (r.map String.toList)) = r.map String.toList := by
    intro r hr hne
    exact List.splitOn_intercalate ':' (hno r hr) (by simpa using hne)
  have hmap : p.map String.toList = q.map String.toList := by
    cases p with
    | nil =>
      cases q with
      | nil => rfl
      | cons c t =>
        have h2 := key (c :: t) hq (by simp)
        rw [← ht] at h2
        simp [List.intercalate, List.splitOn] at h2
        -- the only non-empty component list that joins to the empty string is `[""]`
        have := (hq c List.mem_cons_self).1
        exact absurd h2.1 this
    | cons c t =>
      cases q with
      | nil =>
        have h2 := key (c :: t) hp (by simp)
        rw [ht] at h2
        simp [List.intercalate, List.splitOn] at h2
        have := (hp c List.mem_cons_self).1
        exact absurd h2.1 this
      | cons d u =>
        have h1 := key (c :: t) hp (by simp)
        have h2 := key (d :: u) hq (by simp)
        rw [ht] at h1
        rw [h1] at h2
        exact h2
  exact (List.map_inj_right fun _ _ => String.toList_inj.mp).mp hmap

end KeyOrder
end Tackler
