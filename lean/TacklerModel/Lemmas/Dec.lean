import TacklerModel.Model.Dec
/-! `Dec` arithmetic is exact on the value layer `units`: `isZero_iff_units`, `add_units`, `mul_units`, `sum_units`
    (each with the bound `scale ≤ 28` the next operation needs), `negate_units`, `units_at`. -/
namespace Tackler
namespace Dec

theorem isZero_iff_units (x : Dec) : x.isZero = true ↔ x.units = 0 := by
  have hp : (10:Int) ^ (28 - x.scale) ≠ 0 := Int.pow_ne_zero (by decide)
  cases hn : x.neg <;> simp [isZero, units, sgn, hn, Int.mul_eq_zero, hp]

theorem units_zero (x : Dec) (h : x.isZero = true) : x.units = 0 := (isZero_iff_units x).mp h

theorem units_ne_zero (x : Dec) (h : x.isZero = false) : x.units ≠ 0 :=
  fun h0 => by rw [(isZero_iff_units x).mpr h0] at h; cases h

theorem zero_units : zero.units = 0 := units_zero zero rfl

/-- the value with the coefficient brought to any scale `s` between the stored one and 28 -/
theorem units_at (d : Dec) (s : Nat) (h1 : d.scale ≤ s) (h2 : s ≤ 28) :
    d.units = sgn d.neg * ((d.coeff * 10 ^ (s - d.scale) : Nat) : Int) * (10 : Int) ^ (28 - s) := by
  -- with `s = d.scale + i` and `28 = s + j` no subtraction is left
  obtain ⟨i, rfl⟩ := Nat.exists_eq_add_of_le h1
  obtain ⟨j, hj⟩ := Nat.exists_eq_add_of_le h2
  simp only [units, hj, Nat.add_sub_cancel_left, Int.natCast_mul, Int.natCast_pow]
  rw [Nat.add_assoc, Nat.add_sub_cancel_left, Int.pow_add, Int.mul_assoc, Int.mul_assoc, Int.mul_assoc]
  rfl

theorem sgn_natAbs (z : Int) : sgn (decide (z < 0)) * (z.natAbs : Int) = z := by
  by_cases h : z < 0 <;> simp [sgn, h] <;> omega

theorem sgn_bne (a b : Bool) : sgn (a != b) = sgn a * sgn b := by
  cases a <;> cases b <;> rfl

theorem add_units (a b r : Dec) (ha : a.scale ≤ 28) (hb : b.scale ≤ 28)
    (h : add a b = some r) : r.units = a.units + b.units ∧ r.scale ≤ 28 := by
  unfold add at h
  split at h
  · rename_i hz; cases h; simp [units_zero a hz, hb]
  · split at h
    · rename_i _ hz; cases h; simp [units_zero b hz, ha]
    · simp only at h
      split at h
      · cases h
        have hs : max a.scale b.scale ≤ 28 := by omega
        refine ⟨?_, hs⟩
        rw [units_at a _ (Nat.le_max_left ..) hs, units_at b _ (Nat.le_max_right ..) hs, ← Int.add_mul]
        simp only [units, sgn_natAbs]
      · cases h

theorem add_coeff (a b r : Dec) (ha : a.coeff ≤ max96) (hb : b.coeff ≤ max96)
    (h : add a b = some r) : r.coeff ≤ max96 := by
  unfold add at h
  split at h
  · cases h; exact hb
  · split at h
    · cases h; exact ha
    · simp only at h
      split at h
      · rename_i hz; cases h; exact hz
      · cases h

theorem negate_units (x : Dec) : x.negate.units = - x.units := by
  unfold negate units sgn
  cases x.neg <;> simp [Int.neg_mul]

@[simp] theorem negate_scale (x : Dec) : x.negate.scale = x.scale := rfl
@[simp] theorem negate_coeff (x : Dec) : x.negate.coeff = x.coeff := rfl
@[simp] theorem negate_isZero (x : Dec) : x.negate.isZero = x.isZero := rfl

theorem mul_units (a b r : Dec) (h : mul a b = some r) :
    r.units * (10:Int)^28 = a.units * b.units ∧ r.scale ≤ 28 := by
  unfold mul at h
  split at h
  · rename_i hz
    cases h
    have h0 : a.units = 0 ∨ b.units = 0 := by simpa [isZero_iff_units] using hz
    rcases h0 with h0 | h0 <;> exact ⟨by simp [h0, zero_units], Nat.zero_le _⟩
  · split at h
    · rename_i hfit
      cases h
      refine ⟨?_, hfit.1⟩
      have e : (10:Int)^(28 - (a.scale + b.scale)) * (10:Int)^28
             = (10:Int)^(28 - a.scale) * (10:Int)^(28 - b.scale) := by
        rw [← Int.pow_add, ← Int.pow_add]; congr 1; omega
      simp only [units]
      rw [sgn_bne, Int.natCast_mul, Int.mul_assoc _ _ ((10:Int)^28), e]
      ac_rfl
    · cases h

theorem sumFrom_units : ∀ (l : List Dec) (acc s : Dec), acc.scale ≤ 28 → (∀ d ∈ l, d.scale ≤ 28) →
    sumFrom acc l = some s → s.units = acc.units + (l.map units).sum ∧ s.scale ≤ 28 := by
  intro l
  induction l with
  | nil => intro acc s ha _ h; cases h; simp [ha]
  | cons d t ih =>
    intro acc s ha hl h
    simp only [sumFrom] at h
    split at h
    · rename_i s' hs'
      have h1 := add_units acc d s' ha (hl d List.mem_cons_self) hs'
      have h2 := ih s' s h1.2 (fun x hx => hl x (List.mem_cons_of_mem _ hx)) h
      refine ⟨?_, h2.2⟩
      rw [h2.1, h1.1]; simp [Int.add_assoc]
    · cases h

theorem sum_units (l : List Dec) (s : Dec) (hl : ∀ d ∈ l, d.scale ≤ 28) (h : sum l = some s) :
    s.units = (l.map units).sum ∧ s.scale ≤ 28 := by
  simpa [zero_units] using sumFrom_units l zero s (Nat.zero_le _) hl h

theorem sumFrom_append (l : List Dec) (x : Dec) : ∀ acc : Dec,
    Dec.sumFrom acc (l ++ [x]) = (match Dec.sumFrom acc l with
      | some s => Dec.add s x
      | none => none) := by
  induction l with
  | nil => intro acc; simp only [List.nil_append, Dec.sumFrom]; cases Dec.add acc x <;> rfl
  | cons d t ih =>
    intro acc
    simp only [List.cons_append, Dec.sumFrom]
    cases Dec.add acc d with
    | none => rfl
    | some s => exact ih s

theorem sgn_not (b : Bool) : sgn (!b) = - sgn b := by cases b <;> simp [sgn]

theorem add_negate (d : Dec) (h : d.isZero = false) :
    ∃ z, Dec.add d d.negate = some z ∧ z.isZero = true := by
  have h' : d.negate.isZero = false := by simpa using h
  unfold Dec.add
  rw [h, h']
  simp only [Bool.false_eq_true, if_false, Dec.negate_scale, Nat.max_self, Nat.sub_self, Nat.pow_zero, Nat.mul_one,
    Dec.negate_coeff]
  have e : sgn d.neg * (d.coeff : Int) + sgn d.negate.neg * (d.coeff : Int) = 0 := by
    simp only [Dec.negate, sgn_not]; rw [Int.neg_mul]; omega
  rw [e]
  simp [Dec.isZero]

end Dec
end Tackler
