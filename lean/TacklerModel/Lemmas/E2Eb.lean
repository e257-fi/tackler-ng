import TacklerModel.Lemmas.E2E
import TacklerModel.Model.Select
import TacklerModel.Model.Equity
import TacklerModel.Model.Print
import TacklerModel.Lemmas.RoundTripTxn
import TacklerModel.Props.C06b
import TacklerModel.Props.C10
import TacklerModel.Props.E2E
/-!
# Helper lemmas of `Props/E2Eb.lean`

* §1 git storage: `parseAll` with the text parser of a blob is `mapMS (acceptText cfg)` over the blob texts
  (`parseAll_text`), so a git load is `loadFiles` of the selected blobs.
* §2 the equity export as characters (`eqChars`, in the vocabulary of `Model/Print.lean`) and its parse: one posting
  line (`parseTxnPosting_eqPosting`), one transaction (`parseTxn_eqTxn`), the whole export (`parseJournal_eqChars`).
* §3 the text `Tackler.equityText` writes is `eqChars` (`equityText_chars`), and exists for printable timestamps
  (`equityText_some`).
* §4 the export of well-formed (C06 `WF`) source transactions is well-formed (`export_wf`).
-/
namespace Tackler
namespace E2E
open Comb Syntax Select

/-! ## 1. git storage: the blobs are texts -/

/-- `txns_text` on the blob with object id `oid` (`blob oid` = its text), with the `&mut Settings` state `st`:
    the `parse` parameter of `Select.gitLoad` for journals that are texts -/
def gitText (cfg : Time.TsCfg) (blob : String → List Char) (st : Settings) (oid : String) :
    Outcome (List Txn × Settings) :=
  acceptText cfg st (blob oid)

theorem parseAll_text (cfg : Time.TsCfg) (blob : String → List Char) : ∀ (sel : List Entry) (st : Settings),
    parseAll (gitText cfg blob) st sel =
      (mapMS (acceptText cfg) st (sel.map (fun e => blob e.oid))).map (fun r => (r.1.flatten, r.2)) := by
  intro sel
  induction sel with
  | nil => intro st; rfl
  | cons e t ih =>
    intro st
    simp only [parseAll, List.map_cons, mapMS, gitText]
    cases acceptText cfg st (blob e.oid) with
    | err => rfl
    | undef => rfl
    | ok r =>
      simp only [ih]
      cases mapMS (acceptText cfg) r.2 (t.map fun e => blob e.oid) <;> rfl

/-! ## 2. the equity export as characters, and its parse

`eqChars` is the export text in the vocabulary of `Model/Print.lean` (lists of characters); §3 shows that it is the
text `Tackler.equityText` writes.  A generated transaction prints like a transaction of the identity export
(`Print.headerL Layout.identity`, posting lines, one empty line) except that a posting line has exactly two blanks
between account and amount and no sign padding: it is the posting line of `C10.toPosting p` in the identity
layout when the amount is negative, and in the layout with a one-blank separator otherwise — so C06's per-line
round trip (`Syntax.parseTxnPosting_print`, any layout of the family) applies line by line. -/

open Print

/-- one posting line of the equity export (`postingLine` of `Model/Equity.lean` and its newline) -/
def eqPostingChars (p : EqPosting) : List Char :=
  [' ', ' ', ' '] ++ acctChars p.acct ++ [' ', ' '] ++ p.amount.toChars ++ commChars p.comm ++ ['\n']

/-- one generated transaction: header line, comment lines, posting lines, empty line -/
def eqTxnChars (t : EqTxn) : List Char :=
  headerL Layout.identity t.toRaw.header ++ (t.posts.map eqPostingChars).flatten ++ ['\n']

def eqChars (out : List EqTxn) : List Char := (out.map eqTxnChars).flatten

def sepOne : Layout := { Layout.identity with sep := [' '] }

theorem layoutOK_sepOne : LayoutOK sepOne :=
  { layoutOK_identity with
    sep := by intro c hc; cases List.mem_singleton.mp hc; rfl
    sep_ne := List.cons_ne_nil _ _ }

/-- the layout in which `C10.toPosting p` prints as the equity export prints `p` -/
def eqLayout (p : EqPosting) : Layout := if p.amount.isNeg then Layout.identity else sepOne

theorem layoutOK_eqLayout (p : EqPosting) : LayoutOK (eqLayout p) := by
  unfold eqLayout; split
  · exact layoutOK_identity
  · exact layoutOK_sepOne

/-- any division will do: an equity posting has no value position -/
def div0 : Dec → Dec → Dec := fun _ _ => Dec.zero

theorem eqPostingChars_eq (p : EqPosting) : eqPostingChars p = postingL (eqLayout p) div0 (C10.toPosting p) := by
  unfold eqPostingChars eqLayout postingL postingValueChars priceChars postCommentChars trailFor C10.toPosting
  by_cases hn : p.amount.isNeg = true
  · simp [hn, Layout.identity]
  · simp [hn, sepOne, Layout.identity]

theorem rawPostingOf_toPosting (p : EqPosting) : rawPostingOf div0 (C10.toPosting p) = p.toRaw := by
  unfold rawPostingOf unitOfPosting closingOfPosting C10.toPosting EqPosting.toRaw
  by_cases hc : p.comm = "" <;> simp [hc]

/-- lexical well-formedness of a generated posting: a valid account name, a representable amount, a valid
    commodity name or none -/
structure EqPostingWF (p : EqPosting) : Prop where
  acct : AcctLex p.acct
  amount : NumWF p.amount
  comm : p.comm = "" ∨ (IdentWF p.comm.toList ∧ isValidId p.comm.toList = true)

theorem postingWF_toPosting (p : EqPosting) (h : EqPostingWF p) : PostingWF div0 (C10.toPosting p) :=
  ⟨h.acct, h.amount, h.comm, fun e => e, fun _ hne => absurd rfl hne, fun _ e => by cases e⟩

theorem parseTxnPosting_eqPosting (p : EqPosting) (h : EqPostingWF p) (rest : List Char) :
    parseTxnPosting (eqPostingChars p ++ rest) = .ok p.toRaw rest := by
  rw [eqPostingChars_eq, ← rawPostingOf_toPosting]
  exact parseTxnPosting_print (eqLayout p) (layoutOK_eqLayout p) div0 _ (postingWF_toPosting p h) rest

theorem eqPostingChars_start (p : EqPosting) (h : EqPostingWF p) (r : List Char) :
    PostingStart (eqPostingChars p ++ r) := by
  rw [eqPostingChars_eq]
  exact postingL_start (eqLayout p) (layoutOK_eqLayout p) div0 _ (postingWF_toPosting p h) r

theorem parseTxnPostings_eq (p0 : EqPosting) (ps : List EqPosting) (hp : ∀ p ∈ p0 :: ps, EqPostingWF p)
    (rest : List Char) (hr : BlankOrEnd rest) :
    parseTxnPostings (((p0 :: ps).map eqPostingChars).flatten ++ rest) =
      .ok ((p0 :: ps).map EqPosting.toRaw, none) rest := by
  unfold parseTxnPostings
  rw [repeat1_list parseTxnPosting parseTxnPosting_cons eqPostingChars EqPosting.toRaw (fun _ => True) rest
    (parseTxnPosting_end hr) trivial p0 ps (fun p hpm r _ => ⟨trivial, parseTxnPosting_eqPosting p (hp p hpm) r⟩)]
  simp only [Res.bind_ok']
  rw [opt_of_bt (parseTxnLastPosting_end hr)]
  rfl

/-- lexical well-formedness of a generated transaction -/
structure EqTxnWF (t : EqTxn) : Prop where
  ts : TsOK t.ts = true
  desc : LineText t.desc.toList ∧ trimEnd t.desc.toList = t.desc.toList
  comments : ∀ c ∈ t.comments, LineText c.toList
  posts_ne : t.posts ≠ []
  posts : ∀ p ∈ t.posts, EqPostingWF p

theorem headerWF_toRaw (t : EqTxn) (h : EqTxnWF t) : HeaderWF t.toRaw.header := by
  refine ⟨fun c e => (by cases e), ?_, ⟨fun u e => (by cases e), fun g e => (by cases e), fun x e => (by cases e)⟩, ?_⟩
  · intro d e
    simp only [EqTxn.toRaw, Option.some.injEq] at e
    subst e
    exact h.desc
  · intro cs e
    simp only [EqTxn.toRaw, optList] at e
    split at e
    · cases e
    · cases e
      refine ⟨?_, h.comments⟩
      intro hn
      simp_all

theorem parseTxn_eqTxn (cfg : Time.TsCfg) (t : EqTxn) (h : EqTxnWF t) (rest : List Char) (hr : TxnStartOrEnd rest) :
    parseTxn cfg (eqTxnChars t ++ rest) = .ok t.toRaw rest := by
  obtain ⟨p0, ps, hps⟩ := List.exists_cons_of_ne_nil h.posts_ne
  have hpw : ∀ p ∈ p0 :: ps, EqPostingWF p := by rw [← hps]; exact h.posts
  have hgb : ∀ l ∈ [([] : List Char)], Blanks l := by
    intro l hl; simp at hl; subst hl; intro c hc; cases hc
  have hform : eqTxnChars t ++ rest =
      headerL Layout.identity t.toRaw.header ++ (((p0 :: ps).map eqPostingChars).flatten ++
        (blankLines Layout.identity [[]] ++ rest)) := by
    simp [eqTxnChars, hps, blankLines, Layout.identity]
  rw [hform]
  unfold parseTxn
  rw [cutErr_of_ok (parseTxnHeader_print cfg Layout.identity layoutOK_identity t.toRaw.header
    (ts_roundtrip cfg t.ts h.ts) (headerWF_toRaw t h) _ (by
      simp only [List.map_cons, List.flatten_cons, List.append_assoc]
      exact eqPostingChars_start p0 (hpw p0 List.mem_cons_self) _))]
  simp only [Res.bind_ok']
  rw [cutErr_of_ok (parseTxnPostings_eq p0 ps hpw _
    (blankLines_blankOrEnd Layout.identity layoutOK_identity [] [] (hgb [] (by simp)) rest))]
  simp only [Res.bind_ok']
  rw [alt_of_ok (multispace_print Layout.identity layoutOK_identity [] [] hgb rest hr)]
  simp only [Res.bind_ok']
  simp [EqTxn.toRaw, hps]

theorem eqTxnChars_form (t : EqTxn) (r : List Char) :
    ∃ rest', eqTxnChars t ++ r = pad 4 (tsY t.ts) ++ rest' := by
  have e : t.toRaw.header.ts = t.ts := rfl
  exact ⟨_, by rw [eqTxnChars, List.append_assoc, List.append_assoc, headerL_eq, e, rfc3339_eq]⟩

theorem eqTxnChars_start (t : EqTxn) (r : List Char) : TxnStartOrEnd (eqTxnChars t ++ r) := by
  obtain ⟨rest', hform⟩ := eqTxnChars_form t r
  obtain ⟨c, u, hc⟩ := List.exists_cons_of_ne_nil (pad_ne_nil 4 (tsY t.ts))
  have hd : isDecDigit c = true := by
    have := padLeft_all_digits 4 (tsY t.ts) c
    apply this
    show c ∈ pad 4 _
    rw [hc]; exact List.mem_cons_self
  rw [hform, hc]
  refine Or.inr ⟨c, u ++ rest', rfl, isSpace_of_digit c hd, ?_, ?_⟩
  · intro e; rw [e] at hd; revert hd; decide
  · intro e; rw [e] at hd; revert hd; decide

theorem eqTxnChars_ne_nil (t : EqTxn) : eqTxnChars t ≠ [] := by
  simp [eqTxnChars]

/-- any journal zone: the export prints offsets -/
theorem parseJournal_eqChars (cfg : Time.TsCfg) (out : List EqTxn) (hne : out ≠ []) (hw : ∀ t ∈ out, EqTxnWF t) :
    parseJournal cfg (eqChars out) = some (out.map EqTxn.toRaw) := by
  obtain ⟨t0, tl, rfl⟩ := List.exists_cons_of_ne_nil hne
  obtain ⟨hrt, hq⟩ := repeatTill1_list (parseTxn cfg) (parseTxn_cons cfg) eqTxnChars EqTxn.toRaw TxnStartOrEnd (Or.inl rfl)
    t0 tl (fun t htm => ⟨eqTxnChars_ne_nil t, fun r hr => ⟨eqTxnChars_start t r, parseTxn_eqTxn cfg t (hw t htm) r hr⟩⟩)
  have hlead : opt multispace0LineEnding (eqChars (t0 :: tl)) = .ok none (((t0 :: tl).map eqTxnChars).flatten) := by
    apply opt_of_bt
    unfold multispace0LineEnding repeat1
    unfold eqChars
    rw [blankLine_stop hq]; rfl
  unfold parseJournal parseTxns
  rw [hlead]; simp only [Res.bind_ok']
  rw [hrt]

/-! ## 3. the text `equityText` writes is `eqChars`

`Model/Equity.lean` renders with `String`s (`rfc3339`, `postingLine`, `txnLines`, `allLines`, `equityText`); here its
characters are identified with the `Print` vocabulary, so that §2 applies to the exact text of the export. -/

theorem pad2_toList (n : Nat) : (pad2 n).toList = pad 2 n := by simp [pad2, pad]
theorem pad4_toList (n : Nat) : (pad4 n).toList = pad 4 n := by simp [pad4, pad]

theorem fracStr_toList (ns : Nat) : (fracStr ns).toList = fracChars ns := by
  unfold fracStr fracChars
  split
  · rfl
  · simp [dropTrailingZeros, dropEndWhile_eq, pad]

theorem offsetStr_toList (off : Int) : (offsetStr off).toList = offsetChars off := by
  unfold offsetStr offsetChars
  simp only [String.toList_append, pad2_toList]
  split <;> split <;> simp [pad2_toList]

theorem eq_rfc3339_toList (ts : Ts) (s : String) (h : Tackler.rfc3339 ts = some s) : s.toList = Print.rfc3339 ts := by
  unfold Tackler.rfc3339 at h
  generalize hc : Time.civilAt ts.ns ts.offset = c at h
  obtain ⟨y, m, d, hh, mi, sec, ns⟩ := c
  simp only at h
  split at h
  · exact absurd h (by simp)
  · have e := Option.some.inj h
    subst e
    simp [Print.rfc3339, hc, pad2_toList, pad4_toList, fracStr_toList, offsetStr_toList]

theorem eq_rfc3339_some (ts : Ts) (h : TsOK ts = true) : ∃ s, Tackler.rfc3339 ts = some s := by
  have hneg : ¬ (Time.civilAt ts.ns ts.offset).1 < 0 := by
    intro hn
    have := C06.negative_year_not_tsOK ts hn
    rw [h] at this; cases this
  have hy := (C06.fields_of_tsOK ts h).1
  unfold Tackler.rfc3339
  generalize hc : Time.civilAt ts.ns ts.offset = c at hneg hy
  obtain ⟨y, m, d, hh, mi, sec, ns⟩ := c
  simp only at hneg hy ⊢
  rw [if_neg (by omega)]
  exact ⟨_, rfl⟩

theorem acctName_chars (p : Path) : (acctName p).toList = acctChars p := by
  rw [KeyOrder.acctName_toList]; rfl

theorem postingLine_toList (p : EqPosting) : (postingLine p ++ "\n").toList = eqPostingChars p := by
  unfold postingLine eqPostingChars eqIndent commChars Dec.toString
  by_cases hc : p.comm = "" <;> simp [hc, acctName_chars]

theorem commentLines_optList (cs : List String) :
    commentLines Layout.identity (optList cs) = (cs.map (commentLine Layout.identity)).flatten := by
  unfold optList
  cases cs with
  | nil => rfl
  | cons c t => rfl

theorem commentLine_toList (c : String) : (eqIndent ++ "; " ++ c ++ "\n").toList = commentLine Layout.identity c := by
  simp [commentLine, eqIndent, Layout.identity]

theorem headerL_toRaw (t : EqTxn) :
    headerL Layout.identity t.toRaw.header =
      Print.rfc3339 t.ts ++ " '".toList ++ t.desc.toList ++ ['\n'] ++ (t.comments.map (commentLine Layout.identity)).flatten := by
  simp [headerL, EqTxn.toRaw, codeChars, descChars, Layout.identity, metaItem, uuidLine, locationLine, tagsLine]
  exact commentLines_optList t.comments

theorem lines_chars {α} (f : α → String) (g : α → List Char) (h : ∀ a, (f a ++ "\n").toList = g a) (l : List α) :
    (((l.map f).map (· ++ "\n")).map String.toList).flatten = (l.map g).flatten := by
  simp only [List.map_map, Function.comp_def, h]

theorem txnLines_chars (t : EqTxn) (ls : List String) (h : txnLines t = some ls) :
    ((ls.map (· ++ "\n")).map String.toList).flatten = eqTxnChars t := by
  unfold txnLines at h
  split at h
  · cases h
  · rename_i tss hts
    cases h
    have hc := lines_chars (fun c => eqIndent ++ "; " ++ c) _ commentLine_toList t.comments
    have hp := lines_chars postingLine _ postingLine_toList t.posts
    simp only [List.map_append, List.flatten_append, hc, hp, eqTxnChars, headerL_toRaw]
    simp [eq_rfc3339_toList t.ts tss hts]

theorem allLines_nil : allLines [] = some [] := rfl

/-- (`allLines`' own equation lemmas are too expensive to generate: stated with `Option.bind`) -/
theorem allLines_cons (t : EqTxn) (r : List EqTxn) :
    allLines (t :: r) = (txnLines t).bind (fun l => (allLines r).bind (fun ls => some (l ++ ls))) := by
  show (match txnLines t with
    | none => none
    | some l => match allLines r with
      | none => none
      | some ls => some (l ++ ls)) = _
  cases txnLines t with
  | none => rfl
  | some l => cases allLines r <;> rfl

theorem allLines_chars : ∀ (out : List EqTxn) (ls : List String), allLines out = some ls →
    ((ls.map (· ++ "\n")).map String.toList).flatten = eqChars out := by
  intro out
  induction out with
  | nil =>
    intro ls h
    rw [allLines_nil] at h
    have e := Option.some.inj h
    subst e
    simp [eqChars]
  | cons t rest ih =>
    intro ls h
    rw [allLines_cons] at h
    cases hl : txnLines t with
    | none => rw [hl] at h; exact absurd h (by simp)
    | some l =>
      cases hls' : allLines rest with
      | none => rw [hl, hls'] at h; exact absurd h (by simp)
      | some ls' =>
        rw [hl, hls'] at h
        have e : l ++ ls' = ls := by simpa using h
        subst e
        simp only [List.map_append, List.flatten_append, eqChars, List.map_cons, List.flatten_cons]
        rw [txnLines_chars t l hl]
        congr 1
        exact ih ls' hls'

theorem equityText_chars (out : List EqTxn) (s : String) (h : equityText out = some s) : s.toList = eqChars out := by
  unfold equityText at h
  split at h
  · exact absurd h (by simp)
  · rename_i ls hls
    have e := Option.some.inj h
    subst e
    rw [← allLines_chars out ls hls]
    simp [List.flatMap, List.map_map, Function.comp_def]

theorem txnLines_some (t : EqTxn) (h : TsOK t.ts = true) : ∃ ls, txnLines t = some ls := by
  obtain ⟨s, hs⟩ := eq_rfc3339_some t.ts h
  exact ⟨_, by unfold txnLines; rw [hs]⟩

theorem allLines_some : ∀ (out : List EqTxn), (∀ t ∈ out, TsOK t.ts = true) → ∃ ls, allLines out = some ls := by
  intro out
  induction out with
  | nil => intro _; exact ⟨[], allLines_nil⟩
  | cons t rest ih =>
    intro h
    obtain ⟨l, hl⟩ := txnLines_some t (h t List.mem_cons_self)
    obtain ⟨ls, hls⟩ := ih (fun x hx => h x (List.mem_cons_of_mem _ hx))
    exact ⟨l ++ ls, by rw [allLines_cons, hl, hls]; rfl⟩

theorem equityText_some (out : List EqTxn) (h : ∀ t ∈ out, TsOK t.ts = true) : ∃ s, equityText out = some s := by
  obtain ⟨ls, hls⟩ := allLines_some out h
  exact ⟨_, by unfold equityText; rw [hls]⟩

/-! ## 4. the export of well-formed source transactions is well-formed -/

theorem row_posted (sb : Settings) (txns : List Txn) (hpw : C02.PostsWF (postsOf txns)) (all : List BalRow)
    (hall : balance sb (postsOf txns) = .ok all) (r : BalRow) (hr : r ∈ all) (hnz : r.own.isZero = false) :
    ∃ t ∈ txns, ∃ q ∈ t.posts, q.acct = r.acct ∧ q.comm = r.comm := by
  have hown := C02.own_sum sb _ hpw all hall r hr
  have hne : C02.ownSum (postsOf txns) r.key ≠ 0 := by rw [← hown]; exact Dec.units_ne_zero r.own hnz
  unfold C02.ownSum at hne
  cases hf : (postsOf txns).filter (fun p => decide (p.key = r.key)) with
  | nil => rw [hf] at hne; exact absurd rfl hne
  | cons p rest =>
    have hp : p ∈ (postsOf txns).filter (fun p => decide (p.key = r.key)) := by rw [hf]; exact List.mem_cons_self
    obtain ⟨hp1, hp2⟩ := List.mem_filter.mp hp
    have hk : p.key = r.key := by simpa using hp2
    obtain ⟨t, ht, q, hq, rfl⟩ := (mem_postsOf txns p).mp hp1
    simp only [BPost.key, BalRow.key, Prod.mk.injEq] at hk
    exact ⟨t, ht, q, hq, hk.2, hk.1⟩

theorem balance_own_wf (sb : Settings) (posts : List BPost) (rows : List BalRow)
    (hwf : ∀ p ∈ posts, p.amount.scale ≤ 28 ∧ p.amount.coeff ≤ max96) (h : balance sb posts = .ok rows) :
    ∀ r ∈ rows, r.own.scale ≤ 28 ∧ r.own.coeff ≤ max96 := by
  refine EqL.balance_P (fun d => d.scale ≤ 28 ∧ d.coeff ≤ max96) (by simp [Dec.zero]) sb posts rows ?_ h
  intro sums hs ks hks
  unfold accountSums at hs
  obtain ⟨g, hg, hsum⟩ := (C02.sumGroups_spec _ _ hs).2 ks hks
  refine C06.sumFrom_wf _ Dec.zero ks.2 (by simp [Dec.zero]) (by simp [Dec.zero]) ?_ hsum
  intro d hd
  obtain ⟨p, hp, rfl⟩ := List.mem_map.mp hd
  have := ChunkBy.chunk_subset BPost.key _ _ hg p hp
  exact hwf p ((List.mergeSort_perm posts _).mem_iff.mp this)

theorem lineText_of_noWs (l : List Char) (h : ∀ c ∈ l, isWhitespace c = false) : LineText l := by
  intro c hc
  have := h c hc
  simp only [notEol, Bool.and_eq_true, bne_iff_ne, ne_eq]
  constructor <;> (intro e; subst e; revert this; decide)

theorem trimEnd_noWs : ∀ (l : List Char), (∀ c ∈ l, isWhitespace c = false) → trimEnd l = l := by
  intro l
  induction l with
  | nil => intro _; rfl
  | cons c t ih =>
    intro h
    have e := ih (fun d hd => h d (List.mem_cons_of_mem _ hd))
    simp only [trimEnd, e]
    cases t with
    | nil => simp [h c List.mem_cons_self]
    | cons a b => rfl

theorem trimEnd_append_noWs : ∀ (x y : List Char), y ≠ [] → (∀ c ∈ y, isWhitespace c = false) → trimEnd (x ++ y) = x ++ y := by
  intro x
  induction x with
  | nil => intro y _ h; exact trimEnd_noWs y h
  | cons d x ih =>
    intro y hy h
    have e := ih y hy h
    simp only [List.cons_append, trimEnd, e]
    cases hxy : x ++ y with
    | nil => exact absurd (List.append_eq_nil_iff.mp hxy).2 hy
    | cons a b => rfl

theorem validId_noWs (l : List Char) (h : isValidId l = true) : l ≠ [] ∧ ∀ c ∈ l, isWhitespace c = false := by
  unfold isValidId at h
  split at h
  · cases h
  · rename_i c t
    simp only [Bool.and_eq_true, Bool.not_eq_true', List.any_eq_false] at h
    refine ⟨by simp, ?_⟩
    intro d hd
    have := h.2 d hd
    simp only [illegalCharacters, Bool.or_eq_true, not_or, Bool.not_eq_true] at this
    exact this.2

theorem uuid_noWs (u : List Char) (h : UuidWF u) : u ≠ [] ∧ ∀ c ∈ u, isWhitespace c = false := by
  refine ⟨?_, ?_⟩
  · intro e; have := uuidWF_length u h; rw [e] at this; cases this
  · intro c hc
    rcases uuidWF_chars u h c hc with h1 | rfl
    · simp only [isLowerHex, isDecDigit, Bool.or_eq_true, Bool.and_eq_true, decide_eq_true_eq] at h1
      simp only [isWhitespace, inRange, Bool.or_eq_false_iff, Bool.and_eq_false_iff, decide_eq_false_iff_not, beq_eq_false_iff_ne]
      omega
    · decide

theorem lineText_append {a b : List Char} (ha : LineText a) (hb : LineText b) : LineText (a ++ b) := by
  intro c hc
  rcases List.mem_append.mp hc with h | h
  · exact ha c h
  · exact hb c h

theorem lineText_trimEnd_append (x y : List Char) (hx : LineText x) (hy : y ≠ []) (hw : ∀ c ∈ y, isWhitespace c = false) :
    LineText (x ++ y) ∧ trimEnd (x ++ y) = x ++ y :=
  ⟨lineText_append hx (lineText_of_noWs y hw), trimEnd_append_noWs x y hy hw⟩

theorem eqDesc_wf (c : String) (uuid : Option String) (hc : c = "" ∨ isValidId c.toList = true)
    (hu : ∀ u, uuid = some u → UuidWF u.toList) :
    LineText (eqDesc c uuid).toList ∧ trimEnd (eqDesc c uuid).toList = (eqDesc c uuid).toList := by
  have hE : ∀ ch ∈ "Equity".toList, isWhitespace ch = false := by rw [String.toList_ofList]; decide
  have hF : LineText " for ".toList := by rw [String.toList_ofList]; unfold LineText; decide
  have hL : LineText ": last txn (uuid): ".toList := by rw [String.toList_ofList]; unfold LineText; decide
  have hC : LineText (commStr c).toList := by
    unfold commStr
    split
    · intro _ h; cases h
    · rename_i he
      rw [String.toList_append]
      exact lineText_append hF (lineText_of_noWs _ (validId_noWs _ (hc.resolve_left he)).2)
  have e : (eqDesc c uuid).toList = "Equity".toList ++ (commStr c).toList ++ (uuidStr uuid).toList := by
    rw [eqDesc, String.toList_append, String.toList_append]
  rw [e]
  cases uuid with
  | some u =>
    have hw := uuid_noWs _ (hu u rfl)
    rw [show uuidStr (some u) = ": last txn (uuid): " ++ u from rfl, String.toList_append, ← List.append_assoc]
    exact lineText_trimEnd_append _ _ (lineText_append (lineText_append (lineText_of_noWs _ hE) hC) hL) hw.1 hw.2
  | none =>
    rw [show (uuidStr none).toList = [] from rfl, List.append_nil]
    by_cases he : c = ""
    · rw [commStr, if_pos he, show "".toList = [] from rfl, List.append_nil]
      exact ⟨lineText_of_noWs _ hE, trimEnd_noWs _ hE⟩
    · have hw := validId_noWs _ (hc.resolve_left he)
      rw [commStr, if_neg he, String.toList_append, ← List.append_assoc]
      exact lineText_trimEnd_append _ _ (lineText_append (lineText_of_noWs _ hE) hF) hw.1 hw.2

theorem warningLines_lineText : ∀ c ∈ warningLines, LineText c.toList := by
  unfold LineText
  simp only [warningLines, List.mem_cons, List.not_mem_nil, or_false, forall_eq_or_imp, forall_eq]
  -- the characters of each literal: see `Ex.sample_parses`
  refine ⟨?_, ?_, ?_, ?_, ?_⟩ <;> (rw [String.toList_ofList]; decide)

/-- a selected row has a non-zero own sum, so it is posted to (`row_posted`): its names are those of a source posting -/
theorem selRow_wf (sb : Settings) (acc : Option (Path → Bool)) (txns : List Txn)
    (hsrc : ∀ t ∈ txns, C06.WF div0 t) (hpw : C02.PostsWF (postsOf txns)) (all : List BalRow)
    (hall : balance sb (postsOf txns) = .ok all) (r : BalRow) (hr : r ∈ C10.selRows acc all) :
    EqPostingWF ⟨r.acct, r.own, r.comm⟩ := by
  simp only [C10.selRows, List.mem_filter] at hr
  have hnz := C10.nonZeroSel_nonzero acc r hr.2
  obtain ⟨t, ht, q, hq, ha, hc⟩ := row_posted sb txns hpw all hall r hr.1 hnz
  have hq := (hsrc t ht).posts q hq
  have hw := balance_own_wf sb _ all (fun p hp => by
    obtain ⟨t', ht', q', hq', rfl⟩ := (mem_postsOf txns p).mp hp
    exact ⟨((hsrc t' ht').posts q' hq').amount.1, ((hsrc t' ht').posts q' hq').amount.2.1⟩) hall r hr.1
  exact ⟨ha ▸ hq.acct, ⟨hw.1, hw.2, fun _ => by simpa [Dec.isZero] using hnz⟩, hc ▸ hq.comm⟩

/-- the export of transactions satisfying C06's `WF` (what the acceptor produces from text) is well-formed, given
    that the equity account is a valid name and the metadata texts `md` are single lines -/
theorem export_wf (sb : Settings) (acc : Option (Path → Bool)) (eqa : Path) (md : List String) (txns : List Txn)
    (out : List EqTxn) (hsrc : ∀ t ∈ txns, C06.WF div0 t) (hpw : C02.PostsWF (postsOf txns))
    (he : equityExport sb acc eqa md txns = .ok out)
    (heqa : AcctLex eqa) (hmd : ∀ c ∈ md, LineText c.toList) : ∀ t ∈ out, EqTxnWF t := by
  obtain ⟨all, hall, hcase⟩ := C10.export_inv sb acc eqa md txns out he
  rcases hcase with ⟨_, rfl⟩ | ⟨_, last, hlast, hout⟩
  · intro t ht; cases ht
  · intro t ht
    have hlast := hsrc last (List.mem_of_getLast? hlast)
    obtain ⟨kg, hkg, hk⟩ := C10.eqTxns_mem eqa last.header md _ out hout t ht
    obtain ⟨hkne, hkeys⟩ := ChunkBy.chunkBy_keys (fun r : BalRow => r.comm) _ kg hkg
    have hrow : ∀ r ∈ kg.2, EqPostingWF ⟨r.acct, r.own, r.comm⟩ := fun r hr =>
      selRow_wf sb acc txns hsrc hpw all hall r (ChunkBy.chunk_subset _ _ kg hkg r hr)
    have hcomm : kg.1 = "" ∨ (IdentWF kg.1.toList ∧ isValidId kg.1.toList = true) := by
      obtain ⟨r0, rs, hr0⟩ := List.exists_cons_of_ne_nil hkne
      have hm : r0 ∈ kg.2 := by rw [hr0]; exact List.mem_cons_self
      exact hkeys r0 hm ▸ (hrow r0 hm).comm
    obtain ⟨dsum, hd, rfl⟩ := C10.eqTxn_spec eqa last.header md kg.1 kg.2 t hk
    have hdw : dsum.scale ≤ 28 ∧ dsum.coeff ≤ max96 := by
      refine C06.sumFrom_wf _ Dec.zero dsum (by simp [Dec.zero]) (by simp [Dec.zero]) ?_ hd
      intro d hdm
      obtain ⟨r, hr, rfl⟩ := List.mem_map.mp hdm
      exact ⟨(hrow r hr).amount.1, (hrow r hr).amount.2.1⟩
    refine ⟨hlast.ts, eqDesc_wf kg.1 last.header.uuid (hcomm.imp id (·.2)) hlast.header.metaOK.uuid, ?_,
      (C10.export_good sb acc eqa md txns _ he _ ht).nonempty, ?_⟩
    · intro c hc
      rcases List.mem_append.mp hc with h | h
      · exact hmd c h
      · unfold warning at h
        split at h
        · exact warningLines_lineText c h
        · cases h
    · intro p hp
      simp only [List.mem_append, List.mem_map] at hp
      rcases hp with ⟨r, hr, rfl⟩ | hp
      · exact hrow r hr
      · unfold balancing at hp
        split at hp
        · cases hp
        · rename_i hz
          cases List.mem_singleton.mp hp
          refine ⟨heqa, ⟨by simpa [Dec.negate] using hdw.1, by simpa [Dec.negate] using hdw.2, fun _ => ?_⟩, hcomm⟩
          simpa [Dec.negate, Dec.isZero] using hz

end E2E
end Tackler
