import TacklerModel.Model.Audit
import TacklerModel.Lemmas.Order
import TacklerModel.Props.C12
/-!
# C09 — audit mode: UUIDs enforced; the set checksum is the specified hash of the set

Statement (properties.jsonl): in audit mode a journal is accepted only if every transaction carries a
UUID, and producing a transaction set fails if two selected transactions share one; the reported set
checksum is the configured hash of the selected transactions' canonical lower-case UUIDs, sorted, each
followed by a newline, and the size is the number selected; hence it is invariant under reordering and
differs whenever the selected set differs; the account-selector checksum is the same construction
over the sorted selector patterns.

| clause                                   | theorems                                                                     |
|------------------------------------------|------------------------------------------------------------------------------|
| UUID required in audit mode              | `audit_requires_uuid`, `audit_rejects_txn`, `audit_requires_uuid_journal`, `audit_requires_uuid_load`, `audit_rejects_journal` |
| duplicates ⇒ no set                      | `dup_rejected`, `dup_rejected_set`, `filter_outcome` (exactly when), `missing_uuid_rejected` |
| checksum = H(sorted lower-case UUIDs ‖ "\n"), size | `calcTxnChecksum_spec`, `checksum_def`, `checksum_def_all`, `audit_set` (load + filter end to end), `audit_off_no_checksum` |
| invariant under reordering               | `sortStrings_perm_eq`, `checksum_perm`, `set_checksum_perm`                     |
| differs whenever the set differs         | `preimage_injective` (+ `_bytes`, `_fixed`): the hashed message determines the UUID multiset; `equal_checksum_is_collision`: otherwise an explicit hash collision is exhibited.  Collision resistance itself is a cryptographic assumption. |
| selector checksum                        | `peel_wrap`, `selector_checksum`, `selector_checksum_empty`, `selector_checksum_perm`, `selector_preimage_injective`, `selector_newline_witness`, `acc_sel_checksum_audit` |
| algorithms                               | `ofName_name`, `ofName_some`; known-answer tests in `Lemmas/HashVectors.lean`, of whole sets in `Props/C09Vectors.lean` |

`H` is the executable Lean implementation of the five digests (`Model/Hash.lean`); a *filter* is any
predicate `Txn → Bool`; `preimage` below is the specification of the hashed message.
-/
namespace Tackler
namespace C09
open Hash

/-! ## 1. audit mode requires a UUID on every transaction -/

theorem acceptTxn_audit (st st' : Settings) (r : RawTxn) (t : Txn) (h : acceptTxn st r = .ok (t, st')) :
    st'.audit = st.audit ∧ t.header = r.header ∧ (st.audit = true → t.header.uuid.isSome = true) := by
  obtain ⟨s1, ps, hh, _, rfl, _⟩ := (acceptTxn_ok _ _ _ _).mp h
  obtain ⟨_, hu, _⟩ := (acceptHeader_ok _ _ _).mp hh
  have hf := C12.acceptTxn_spec.flags _ _ _ _ h
  simp only [C12.Flags, Prod.mk.injEq] at hf
  refine ⟨hf.2.1, rfl, fun ha => ?_⟩
  rw [ha] at hu
  simpa using hu

theorem audit_requires_uuid (st st' : Settings) (r : RawTxn) (t : Txn) (ha : st.audit = true)
    (h : acceptTxn st r = .ok (t, st')) : t.header.uuid.isSome = true :=
  (acceptTxn_audit st st' r t h).2.2 ha

theorem audit_rejects_txn (st : Settings) (r : RawTxn) (ha : st.audit = true) (hu : r.header.uuid = none) :
    ∀ t st', acceptTxn st r ≠ .ok (t, st') := by
  intro t st' h
  obtain ⟨_, hh, hs⟩ := acceptTxn_audit st st' r t h
  have := hs ha
  rw [hh, hu] at this
  cases this

theorem audit_requires_uuid_journal (st st' : Settings) (rs : List RawTxn) (ts : List Txn) (ha : st.audit = true)
    (h : acceptJournal st rs = .ok (ts, st')) :
    st'.audit = true ∧ (∀ t ∈ ts, t.header.uuid.isSome = true) ∧ (∀ r ∈ rs, r.header.uuid.isSome = true) := by
  obtain ⟨h1, h2, h3⟩ := mapMS_invariant acceptTxn (fun s => s.audit = true)
    (fun s a b s' hs hf => (acceptTxn_audit s s' a b hf).1.trans hs) rs st st' ts ha h
  refine ⟨h1, fun t ht => ?_, fun r hr => ?_⟩
  · obtain ⟨a, _, s₁, s₂, hP, hf⟩ := h2 t ht
    exact (acceptTxn_audit _ _ _ _ hf).2.2 hP
  · obtain ⟨b, _, s₁, s₂, hP, hf⟩ := h3 r hr
    obtain ⟨_, hh, hu⟩ := acceptTxn_audit _ _ _ _ hf
    exact hh ▸ hu hP

/-- `string_to_txns`: accept, then sort -/
theorem audit_requires_uuid_load (st st' : Settings) (rs : List RawTxn) (ts : List Txn) (ha : st.audit = true)
    (h : loadJournal st rs = .ok (ts, st')) :
    (∀ t ∈ ts, t.header.uuid.isSome = true) ∧ (∀ r ∈ rs, r.header.uuid.isSome = true) := by
  obtain ⟨ts0, h0, rfl⟩ := loadJournal_some h
  obtain ⟨_, h1, h2⟩ := audit_requires_uuid_journal st _ _ ts0 ha h0
  exact ⟨fun t ht => h1 t ((sortTxns_perm ts0).mem_iff.mp ht), h2⟩

theorem audit_rejects_journal (st : Settings) (rs : List RawTxn) (r : RawTxn) (ha : st.audit = true)
    (hr : r ∈ rs) (hu : r.header.uuid = none) :
    (∀ x, acceptJournal st rs ≠ .ok x) ∧ (∀ x, loadJournal st rs ≠ .ok x) := by
  constructor
  · intro ⟨ts, st'⟩ h
    have := (audit_requires_uuid_journal st st' rs ts ha h).2.2 r hr
    rw [hu] at this; cases this
  · intro ⟨ts, st'⟩ h
    have := (audit_requires_uuid_load st st' rs ts ha h).2 r hr
    rw [hu] at this; cases this

/-! ## 2. strings: byte order, sorting is canonical, duplicate detection -/

theorem strBytes_inj (a b : String) (h : strBytes a = strBytes b) : a = b := by
  unfold strBytes String.toUTF8 at h
  exact String.toByteArray_inj.mp (ByteArray.ext (Array.toList_inj.mp h))

theorem strLe_total (a b : String) : (strLe a b || strLe b a) = true := by
  unfold strLe
  rcases List.le_total (strBytes a) (strBytes b) with h | h <;> simp [h]

theorem strLe_trans (a b c : String) (h1 : strLe a b = true) (h2 : strLe b c = true) : strLe a c = true := by
  unfold strLe at *
  simp only [decide_eq_true_eq] at *
  exact List.le_trans h1 h2

theorem strLe_antisymm (a b : String) (h1 : strLe a b = true) (h2 : strLe b a = true) : a = b := by
  unfold strLe at *
  simp only [decide_eq_true_eq] at *
  exact strBytes_inj a b (List.le_antisymm h1 h2)

theorem sorted_perm_eq {α} (le : α → α → Prop) (antisymm : ∀ a b, le a b → le b a → a = b) :
    ∀ (l₁ l₂ : List α), l₁.Perm l₂ → l₁.Pairwise le → l₂.Pairwise le → l₁ = l₂ :=
  fun l₁ l₂ p s1 s2 => _root_.Tackler.sorted_perm_eq le l₁ l₂ p s1 s2 (fun a b _ _ => antisymm a b)

theorem sortStrings_perm (l : List String) : (sortStrings l).Perm l := List.mergeSort_perm l strLe

theorem sortStrings_sorted (l : List String) : (sortStrings l).Pairwise (fun a b => strLe a b = true) :=
  List.pairwise_mergeSort strLe_trans strLe_total l

theorem sortStrings_eq (l r : List String) (hp : l.Perm r) (hs : r.Pairwise (fun a b => strLe a b = true)) :
    sortStrings l = r :=
  sorted_perm_eq _ strLe_antisymm _ _ ((sortStrings_perm l).trans hp) (sortStrings_sorted l) hs

theorem sortStrings_perm_eq (l₁ l₂ : List String) (h : l₁.Perm l₂) : sortStrings l₁ = sortStrings l₂ :=
  sortStrings_eq l₁ _ (h.trans (sortStrings_perm l₂).symm) (sortStrings_sorted l₂)

theorem duplicatesAux_nil_iff : ∀ (l seen : List String), seen.Nodup →
    (duplicatesAux seen l = [] ↔ l.Nodup ∧ ∀ x ∈ l, x ∉ seen) := by
  intro l
  induction l with
  | nil => intro seen _; simp [duplicatesAux]
  | cons x t ih =>
    intro seen hs
    unfold duplicatesAux
    by_cases hx : x ∈ seen
    · have hc : seen.count x = 1 := by rw [hs.count]; simp [hx]
      simp [hc, hx]
    · have hc : seen.count x = 0 := List.count_eq_zero.mpr hx
      simp only [hc, Nat.zero_ne_one, if_false]
      rw [ih (x :: seen) (List.nodup_cons.mpr ⟨hx, hs⟩)]
      grind

theorem duplicates_nil_iff (l : List String) : duplicates l = [] ↔ l.Nodup := by
  unfold duplicates
  rw [duplicatesAux_nil_iff l [] List.nodup_nil]
  simp

/-! ## 3. the transaction-set checksum -/

/-- canonical (lower-case) UUID texts of the transactions that have one -/
def uuidsOf (txns : List Txn) : List String := txns.filterMap (fun t => t.header.uuid.map uuidToString)

/-- the hashed message: canonical UUIDs, sorted, each followed by a newline -/
def preimage (txns : List Txn) : Bytes :=
  (sortStrings (uuidsOf txns)).flatMap (fun u => strBytes u ++ [0x0a])

def allHaveUuid (txns : List Txn) : Bool := txns.all (fun t => t.header.uuid.isSome)

theorem preimage_nil : preimage [] = [] := by
  simp [preimage, uuidsOf, sortStrings]

theorem txnUuids_spec : ∀ (txns : List Txn),
    txnUuids txns = if allHaveUuid txns then .ok (uuidsOf txns) else .err := by
  intro txns
  induction txns with
  | nil => simp [txnUuids, allHaveUuid, uuidsOf]
  | cons t ts ih =>
    unfold txnUuids
    cases hu : t.header.uuid with
    | none => simp [allHaveUuid, hu]
    | some u =>
      simp only [ih]
      have h1 : allHaveUuid (t :: ts) = allHaveUuid ts := by simp [allHaveUuid, hu]
      have h2 : uuidsOf (t :: ts) = uuidToString u :: uuidsOf ts := by simp [uuidsOf, hu]
      rw [h1, h2]
      by_cases ha : allHaveUuid ts = true <;> simp [ha]

theorem calcTxnChecksum_spec (txns : List Txn) (alg : Algo) :
    calcTxnChecksum txns alg =
      if allHaveUuid txns = true ∧ (uuidsOf txns).Nodup then .ok ⟨alg.name, hex (alg.digest (preimage txns))⟩
      else .err := by
  have hnd : (duplicates (sortStrings (uuidsOf txns))).isEmpty = true ↔ (uuidsOf txns).Nodup := by
    rw [List.isEmpty_iff, duplicates_nil_iff]
    exact (sortStrings_perm _).nodup_iff
  rw [calcTxnChecksum, txnUuids_spec]
  by_cases ha : allHaveUuid txns = true
  · simp only [ha, if_true, true_and, hnd]
    rfl
  · simp [ha]

/-- UUIDs are compared after case normalisation (`uuidToString`) -/
theorem dup_rejected (txns : List Txn) (alg : Algo) (h : ¬ (uuidsOf txns).Nodup) :
    calcTxnChecksum txns alg = .err := by
  rw [calcTxnChecksum_spec]; simp [h]

/-- cannot happen after an audit-mode load (`audit_requires_uuid_load`) -/
theorem missing_uuid_rejected (txns : List Txn) (alg : Algo) (t : Txn) (ht : t ∈ txns) (hu : t.header.uuid = none) :
    calcTxnChecksum txns alg = .err := by
  rw [calcTxnChecksum_spec]
  have : ¬ allHaveUuid txns = true := by
    intro h
    have := List.all_eq_true.mp h t ht
    simp [hu] at this
  simp [this]

theorem uuidsOf_perm (a b : List Txn) (h : a.Perm b) : (uuidsOf a).Perm (uuidsOf b) := h.filterMap _

theorem preimage_perm (a b : List Txn) (h : a.Perm b) : preimage a = preimage b := by
  unfold preimage
  rw [sortStrings_perm_eq _ _ (uuidsOf_perm a b h)]

theorem checksummable_perm (a b : List Txn) (h : a.Perm b) :
    (allHaveUuid a = true ∧ (uuidsOf a).Nodup) ↔ (allHaveUuid b = true ∧ (uuidsOf b).Nodup) := by
  rw [show allHaveUuid a = allHaveUuid b from h.all_eq, (uuidsOf_perm a b h).nodup_iff]

theorem checksum_perm (a b : List Txn) (alg : Algo) (h : a.Perm b) :
    calcTxnChecksum a alg = calcTxnChecksum b alg := by
  simp only [calcTxnChecksum_spec, preimage_perm a b h, checksummable_perm a b h]

/-! ## 4. transaction sets: size and checksum of what the filter selected -/

/-- the checksum item the property prescribes for a selection -/
def specItem (alg : Algo) (sel : List Txn) : TxnSetChecksum :=
  ⟨sel.length, ⟨alg.name, hex (alg.digest (preimage sel))⟩⟩

theorem specItem_perm (alg : Algo) (a b : List Txn) (h : a.Perm b) : specItem alg a = specItem alg b := by
  rw [specItem, specItem, preimage_perm a b h, h.length_eq]

theorem makeMetadata_spec (hash : Option Algo) (sel : List Txn) :
    makeMetadata hash sel =
      match hash with
      | none => .ok none
      | some alg =>
        if allHaveUuid sel = true ∧ (uuidsOf sel).Nodup then .ok (some (specItem alg sel)) else .err := by
  unfold makeMetadata
  cases hash with
  | none => rfl
  | some alg =>
    simp only [calcTxnChecksum_spec]
    by_cases h : allHaveUuid sel = true ∧ (uuidsOf sel).Nodup <;> simp [h, specItem]

theorem filter_eq_getAll (hash : Option Algo) (tf : Txn → Bool) (txns : List Txn) :
    TxnData.filter hash tf txns = TxnData.getAll hash (txns.filter tf) := rfl

theorem getAll_outcome (alg : Algo) (txns : List Txn) :
    TxnData.getAll (some alg) txns =
      if allHaveUuid txns = true ∧ (uuidsOf txns).Nodup then .ok ⟨some (specItem alg txns), txns⟩ else .err := by
  unfold TxnData.getAll
  rw [makeMetadata_spec]
  by_cases hc : allHaveUuid txns = true ∧ (uuidsOf txns).Nodup <;> simp [hc]

theorem filter_outcome (alg : Algo) (tf : Txn → Bool) (txns : List Txn) :
    TxnData.filter (some alg) tf txns =
      if allHaveUuid (txns.filter tf) = true ∧ (uuidsOf (txns.filter tf)).Nodup
      then .ok ⟨some (specItem alg (txns.filter tf)), txns.filter tf⟩ else .err :=
  getAll_outcome alg (txns.filter tf)

theorem checksum_def_all (hash : Option Algo) (txns : List Txn) (s : TxnSet)
    (h : TxnData.getAll hash txns = .ok s) :
    s.txns = txns ∧ s.checksum = hash.map (fun alg => specItem alg txns) := by
  cases hash with
  | none => cases h; exact ⟨rfl, rfl⟩
  | some alg =>
    rw [getAll_outcome] at h
    split at h
    · cases h; exact ⟨rfl, rfl⟩
    · cases h

theorem checksum_def (hash : Option Algo) (tf : Txn → Bool) (txns : List Txn) (s : TxnSet)
    (h : TxnData.filter hash tf txns = .ok s) :
    s.txns = txns.filter tf ∧
    s.checksum = hash.map (fun alg => specItem alg (txns.filter tf)) :=
  checksum_def_all hash (txns.filter tf) s h

/-- duplicates outside the selection do not matter: only `txns.filter tf` is mentioned -/
theorem dup_rejected_set (alg : Algo) (tf : Txn → Bool) (txns : List Txn)
    (h : ¬ (uuidsOf (txns.filter tf)).Nodup) : TxnData.filter (some alg) tf txns = .err := by
  rw [filter_outcome]; simp [h]

theorem audit_off_no_checksum (st : Settings) (alg : Algo) (tf : Txn → Bool) (txns : List Txn)
    (ha : st.audit = false) :
    TxnData.filter (getHash st alg) tf txns = .ok ⟨none, txns.filter tf⟩ := by
  simp [getHash, ha, TxnData.filter, makeMetadata]

/-- load and filter end to end -/
theorem audit_set (st st' : Settings) (alg : Algo) (rs : List RawTxn) (ts : List Txn) (tf : Txn → Bool)
    (ha : st.audit = true) (hl : loadJournal st rs = .ok (ts, st')) :
    TxnData.filter (getHash st alg) tf ts =
      if (uuidsOf (ts.filter tf)).Nodup then .ok ⟨some (specItem alg (ts.filter tf)), ts.filter tf⟩ else .err := by
  have hall : allHaveUuid (ts.filter tf) = true := by
    apply List.all_eq_true.mpr
    intro t ht
    exact (audit_requires_uuid_load st st' rs ts ha hl).1 t (List.mem_filter.mp ht).1
  simp [getHash, ha, filter_outcome, hall]

theorem set_checksum_perm (hash : Option Algo) (tf : Txn → Bool) (a b : List Txn) (h : a.Perm b) :
    (TxnData.filter hash tf a).map (·.checksum) = (TxnData.filter hash tf b).map (·.checksum) := by
  have hf : (a.filter tf).Perm (b.filter tf) := h.filter tf
  cases hash with
  | none => rfl
  | some alg =>
    simp only [filter_outcome, checksummable_perm _ _ hf, specItem_perm alg _ _ hf]
    split <;> rfl

/-! ## 5. the hashed message determines the set -/

theorem strBytes_eq (s : String) : strBytes s = s.toList.flatMap String.utf8EncodeChar := by
  unfold strBytes String.toUTF8
  conv => lhs; rw [← String.ofList_toList (s := s), String.toByteArray_ofList]
  simp [List.utf8Encode]

theorem ofNat_eq_ten (n : Nat) (h : (10 : UInt8) = UInt8.ofNat n) : n % 256 = 10 := by
  have := congrArg UInt8.toNat h
  simpa using this.symm

/-- lead and continuation bytes of a multi-byte encoding are `≥ 0x80` -/
theorem high_byte_ne_nl (q m k : Nat) (hm : 0 < m) (h : m + k ≤ 256) (hk : 10 < k) :
    ((10 : UInt8) = UInt8.ofNat (q % m + k)) = False := by
  apply eq_false
  intro e
  have := ofNat_eq_ten _ e
  have := Nat.mod_lt q hm
  omega

theorem nl_in_char (c : Char) : (0x0a : UInt8) ∈ String.utf8EncodeChar c ↔ c = '\n' := by
  constructor
  · intro h
    unfold String.utf8EncodeChar at h
    simp only at h
    split at h
    · simp only [List.mem_cons, List.not_mem_nil, or_false] at h
      have := ofNat_eq_ten _ h
      apply Char.ext
      apply UInt32.toNat_inj.mp
      show c.val.toNat = 10
      omega
    · exfalso
      repeat' split at h
      all_goals simp (disch := decide) only [List.mem_cons, List.not_mem_nil, high_byte_ne_nl, or_self] at h
  · rintro rfl; decide

theorem nl_in_strBytes (s : String) : (0x0a : UInt8) ∈ strBytes s ↔ '\n' ∈ s.toList := by
  rw [strBytes_eq, List.mem_flatMap]
  constructor
  · rintro ⟨c, hc, h⟩; rw [(nl_in_char c).mp h] at hc; exact hc
  · intro h; exact ⟨'\n', h, (nl_in_char '\n').mpr rfl⟩


/-- A concatenation of code words determines the words as soon as the first word and the rest can be
    told apart (`hcut`); the codes used below are of this kind: fixed width, and a separator byte that no
    item contains. -/
theorem flatMap_injective {α β} (g : α → List β) (P : α → Prop) (hne : ∀ x, g x ≠ [])
    (hcut : ∀ x y s t, P x → P y → g x ++ s = g y ++ t → x = y ∧ s = t) :
    ∀ (xs ys : List α), (∀ x ∈ xs, P x) → (∀ y ∈ ys, P y) → xs.flatMap g = ys.flatMap g → xs = ys := by
  intro xs
  induction xs with
  | nil =>
    intro ys _ _ h
    cases ys with
    | nil => rfl
    | cons y u => simp [hne] at h
  | cons x t ih =>
    intro ys hx hy h
    cases ys with
    | nil => simp [hne] at h
    | cons y u =>
      rw [List.flatMap_cons, List.flatMap_cons] at h
      obtain ⟨rfl, ht⟩ := hcut x y _ _ (hx x List.mem_cons_self) (hy y List.mem_cons_self) h
      rw [ih u (fun a ha => hx a (List.mem_cons_of_mem _ ha)) (fun a ha => hy a (List.mem_cons_of_mem _ ha)) ht]

theorem fed_injective_fixed (w : Nat) (sep : Bytes) (xs ys : List String)
    (hx : ∀ x ∈ xs, (strBytes x).length = w) (hy : ∀ y ∈ ys, (strBytes y).length = w) (hsep : sep ≠ [])
    (h : fed xs sep = fed ys sep) : xs = ys := by
  refine flatMap_injective _ (fun x => (strBytes x).length = w) (by simp [hsep]) ?_ xs ys hx hy h
  intro x y s t hx hy h
  rw [List.append_assoc, List.append_assoc] at h
  obtain ⟨h1, h2⟩ := List.append_inj h (hx.trans hy.symm)
  exact ⟨strBytes_inj x y h1, List.append_cancel_left h2⟩

theorem append_sep_inj (c : UInt8) (a b s t : Bytes) (ha : c ∉ a) (hb : c ∉ b) (h : a ++ c :: s = b ++ c :: t) :
    a = b ∧ s = t := by
  induction a generalizing b with
  | nil =>
    cases b with
    | nil => exact ⟨rfl, (List.cons.inj h).2⟩
    | cons y b' => cases h; exact absurd List.mem_cons_self hb
  | cons x a' ih =>
    cases b with
    | nil => cases h; exact absurd List.mem_cons_self ha
    | cons y b' =>
      obtain ⟨rfl, h'⟩ := List.cons.inj h
      obtain ⟨rfl, h2⟩ := ih b' (fun m => ha (List.mem_cons_of_mem _ m)) (fun m => hb (List.mem_cons_of_mem _ m)) h'
      exact ⟨rfl, h2⟩

theorem fed_injective_nl (xs ys : List String)
    (hx : ∀ x ∈ xs, (0x0a : UInt8) ∉ strBytes x) (hy : ∀ y ∈ ys, (0x0a : UInt8) ∉ strBytes y)
    (h : fed xs [0x0a] = fed ys [0x0a]) : xs = ys := by
  refine flatMap_injective _ (fun x => (0x0a : UInt8) ∉ strBytes x) (by simp) ?_ xs ys hx hy h
  intro x y s t hx hy h
  rw [List.append_assoc, List.append_assoc] at h
  obtain ⟨h1, h2⟩ := append_sep_inj 0x0a _ _ _ _ hx hy h
  exact ⟨strBytes_inj x y h1, h2⟩

theorem mem_sortStrings {x : String} {l : List String} : x ∈ sortStrings l ↔ x ∈ l := (sortStrings_perm l).mem_iff

theorem perm_of_sortStrings_eq {a b : List String} (h : sortStrings a = sortStrings b) : a.Perm b :=
  (sortStrings_perm a).symm.trans (h ▸ sortStrings_perm b)

theorem sorted_fed_injective_nl (a b : List String)
    (ha : ∀ x ∈ a, (0x0a : UInt8) ∉ strBytes x) (hb : ∀ x ∈ b, (0x0a : UInt8) ∉ strBytes x)
    (h : fed (sortStrings a) [0x0a] = fed (sortStrings b) [0x0a]) : a.Perm b :=
  perm_of_sortStrings_eq (fed_injective_nl _ _ (fun x hx => ha x (mem_sortStrings.mp hx))
    (fun x hx => hb x (mem_sortStrings.mp hx)) h)

theorem preimage_injective_bytes (a b : List Txn)
    (ha : ∀ u ∈ uuidsOf a, (0x0a : UInt8) ∉ strBytes u) (hb : ∀ u ∈ uuidsOf b, (0x0a : UInt8) ∉ strBytes u)
    (h : preimage a = preimage b) : (uuidsOf a).Perm (uuidsOf b) :=
  sorted_fed_injective_nl _ _ ha hb h

/-- Canonical UUIDs are 36 characters from `0-9a-f-`, so the hypotheses hold for them.  Together with collision
    resistance of the hash – a cryptographic assumption, not a theorem – this is "the checksum differs
    whenever the selected set differs". -/
theorem preimage_injective (a b : List Txn)
    (ha : ∀ u ∈ uuidsOf a, '\n' ∉ u.toList) (hb : ∀ u ∈ uuidsOf b, '\n' ∉ u.toList)
    (h : preimage a = preimage b) : (uuidsOf a).Perm (uuidsOf b) :=
  preimage_injective_bytes a b (fun u hu hn => ha u hu ((nl_in_strBytes u).mp hn))
    (fun u hu hn => hb u hu ((nl_in_strBytes u).mp hn)) h

theorem preimage_injective_fixed (w : Nat) (a b : List Txn)
    (ha : ∀ u ∈ uuidsOf a, (strBytes u).length = w) (hb : ∀ u ∈ uuidsOf b, (strBytes u).length = w)
    (h : preimage a = preimage b) : (uuidsOf a).Perm (uuidsOf b) :=
  perm_of_sortStrings_eq (fed_injective_fixed w [0x0a] _ _ (fun x hx => ha x (mem_sortStrings.mp hx))
    (fun x hx => hb x (mem_sortStrings.mp hx)) (by simp) h)

/-! ## 6. account-selector checksum -/

theorem stripPrefix_append (x s : List Char) : stripPrefix x (x ++ s) = some s := by
  rw [stripPrefix, if_pos (List.isPrefixOf_iff_prefix.mpr (List.prefix_append x s)), List.drop_left]

theorem stripSuffix_append (x s : List Char) : stripSuffix x (s ++ x) = some s := by
  rw [stripSuffix, if_pos (List.isSuffixOf_iff_suffix.mpr (List.suffix_append s x)), List.length_append,
    Nat.add_sub_cancel, List.take_left]

/-- also for a pattern that contains the wrapper text itself -/
theorem peel_wrap (p : String) : peelFullHaystackPattern (intoFullHaystackPattern p) = p := by
  unfold peelFullHaystackPattern intoFullHaystackPattern
  simp only [String.toList_ofList, List.append_assoc, stripPrefix_append, stripSuffix_append]
  exact String.ofList_toList

/-- what is hashed are the configured patterns themselves (one wrapper layer on, one off) -/
theorem peeled_regexSet (ras : List String) : peeledPatterns (regexSetPatterns ras) = ras := by
  simp only [peeledPatterns, regexSetPatterns, List.map_map, Function.comp_def, peel_wrap, List.map_id']

theorem selector_checksum (kind : SelectorKind) (alg : Algo) (ras : List String) (hne : ras ≠ []) :
    selectorChecksum kind alg ras =
      ⟨alg.name, hex (alg.digest ((sortStrings ras).flatMap (fun p => strBytes p ++ [0x0a])))⟩ := by
  unfold selectorChecksum
  cases ras with
  | nil => exact absurd rfl hne
  | cons a t => simp only [peeled_regexSet, Hash.checksum, fed]

theorem selector_checksum_empty (kind : SelectorKind) (alg : Algo) :
    selectorChecksum kind alg [] = ⟨"None", if kind = .equity then "select all non-zero" else "select all"⟩ := by
  cases kind <;> simp [selectorChecksum]

theorem selector_checksum_perm (kind : SelectorKind) (alg : Algo) (a b : List String) (h : a.Perm b) :
    selectorChecksum kind alg a = selectorChecksum kind alg b := by
  cases a with
  | nil => rw [List.Perm.nil_eq h]
  | cons x t =>
    have hb : b ≠ [] := by intro e; subst e; exact absurd h (by simp)
    rw [selector_checksum kind alg _ (by simp), selector_checksum kind alg b hb, sortStrings_perm_eq _ _ h]

/-- the hypothesis is needed: `selector_newline_witness` -/
theorem selector_preimage_injective (a b : List String)
    (ha : ∀ p ∈ a, '\n' ∉ p.toList) (hb : ∀ p ∈ b, '\n' ∉ p.toList)
    (h : fed (sortStrings a) [0x0a] = fed (sortStrings b) [0x0a]) : a.Perm b :=
  sorted_fed_injective_nl a b (fun x hx hn => ha x hx ((nl_in_strBytes x).mp hn))
    (fun x hx hn => hb x hx ((nl_in_strBytes x).mp hn)) h

theorem acc_sel_checksum_audit (st : Settings) (alg : Algo) (kind : SelectorKind) (ras : List String) :
    accSelChecksum st alg kind ras = if st.audit = true then some (selectorChecksum kind alg ras) else none := by
  unfold accSelChecksum getHash
  cases st.audit <;> simp

/-! ## 7. algorithm names -/

theorem ofName_name (a : Algo) : Algo.ofName a.name = some a := by cases a <;> decide

theorem ofName_some (s : String) (a : Algo) (h : Algo.ofName s = some a) : s = a.name := by
  unfold Algo.ofName at h
  grind [Algo.name]

theorem checksum_algorithm (alg : Algo) (items : List String) (sep : Bytes) :
    (Hash.checksum alg items sep).algorithm = alg.name := rfl

/-! ## 8. hex text is injective; equal checksums of different sets are hash collisions -/

def unhexDigit (c : Char) : UInt8 := if c.toNat < 58 then UInt8.ofNat (c.toNat - 48) else UInt8.ofNat (c.toNat - 87)

def unhexByte : List Char → UInt8
  | [a, b] => (unhexDigit a <<< 4) ||| unhexDigit b
  | _ => 0

theorem unhexByte_hexByte (b : UInt8) : unhexByte (hexByte b) = b := by
  have h : ∀ k, k < 256 → unhexByte (hexByte (UInt8.ofNat k)) = UInt8.ofNat k := by decide +kernel
  simpa using h b.toNat b.toNat_lt

theorem hexChars_inj (a b : Bytes) (h : hexChars a = hexChars b) : a = b := by
  refine flatMap_injective hexByte (fun _ => True) (by simp [hexByte]) ?_ a b (by simp) (by simp) h
  intro x y s t _ _ h
  obtain ⟨h1, h2⟩ := List.append_inj h (by simp [hexByte])
  exact ⟨by rw [← unhexByte_hexByte x, ← unhexByte_hexByte y, h1], h2⟩

theorem hex_inj (a b : Bytes) (h : hex a = hex b) : a = b :=
  hexChars_inj a b (String.ofList_inj.mp h)

/-- "differs whenever the set differs" without an assumption: two selections with different UUID multisets and the
    same checksum text exhibit a collision of the configured hash function (different messages, equal digests). -/
theorem equal_checksum_is_collision (alg : Algo) (a b : List Txn) (ca cb : Checksum)
    (ha : calcTxnChecksum a alg = .ok ca) (hb : calcTxnChecksum b alg = .ok cb)
    (hna : ∀ u ∈ uuidsOf a, '\n' ∉ u.toList) (hnb : ∀ u ∈ uuidsOf b, '\n' ∉ u.toList)
    (hne : ¬ (uuidsOf a).Perm (uuidsOf b)) (heq : ca.value = cb.value) :
    preimage a ≠ preimage b ∧ alg.digest (preimage a) = alg.digest (preimage b) := by
  refine ⟨fun h => hne (preimage_injective a b hna hnb h), ?_⟩
  rw [calcTxnChecksum_spec] at ha hb
  split at ha
  · split at hb
    · cases ha; cases hb
      exact hex_inj _ _ heq
    · cases hb
  · cases ha

/-! ## 9. non-vacuity and witnesses -/

def auditSt : Settings := Settings.ofConfig false true true [] [] []
def laxSt : Settings := Settings.ofConfig false false true [] [] []
def hdr (ns : Int) (u : Option String) : Header := ⟨⟨ns, 0⟩, none, none, u, none, none, none⟩
def raw (ns : Int) (u : Option String) : RawTxn :=
  ⟨hdr ns u, [⟨["a"], Dec.ofInt 1, none, none⟩, ⟨["b"], Dec.ofInt (-1), none, none⟩], none⟩
def txn (ns : Int) (u : Option String) : Txn :=
  ⟨hdr ns u, [⟨["a"], "", Dec.ofInt 1, Dec.ofInt 1, false, "", none⟩, ⟨["b"], "", Dec.ofInt (-1), Dec.ofInt (-1), false, "", none⟩]⟩

def u1 : String := "9c123cbe-4acd-475d-bbcf-96c1fcba58cb"
def u1U : String := "9C123CBE-4ACD-475D-BBCF-96C1FCBA58CB"
def u2 : String := "2e546b18-6ce6-4bb3-9f4b-21b77a768a4c"
def u3 : String := "67bdab27-da08-4647-B0D1-57c9ed129657"     -- mixed case as written
def u3c : String := "67bdab27-da08-4647-b0d1-57c9ed129657"

/-- a literal is `String.ofList` of its characters: the sample UUIDs are lower-cased without evaluating `String.toList` -/
theorem uuidToString_ofList (cs : List Char) :
    uuidToString (String.ofList cs) = String.ofList (cs.map Char.toLower) := by
  rw [uuidToString, String.toList_ofList]

theorem lower_u1 : uuidToString u1 = u1 := (uuidToString_ofList _).trans (congrArg String.ofList (by decide))
theorem lower_u1U : uuidToString u1U = u1 := (uuidToString_ofList _).trans (congrArg String.ofList (by decide))
theorem lower_u2 : uuidToString u2 = u2 := (uuidToString_ofList _).trans (congrArg String.ofList (by decide))
theorem lower_u3 : uuidToString u3 = u3c := (uuidToString_ofList _).trans (congrArg String.ofList (by decide))

/-- the hypotheses of `audit_requires_uuid` are satisfiable … -/
example : auditSt.audit = true ∧ (acceptTxn auditSt (raw 1 (some u1))).map (·.1) = .ok (txn 1 (some u1)) := by
  decide
/-- … the same transaction without UUID is rejected in audit mode and accepted otherwise -/
example : acceptTxn auditSt (raw 1 none) = .err := by decide
example : (acceptTxn laxSt (raw 1 none)).map (·.1) = .ok (txn 1 none) := by decide
/-- a journal whose last transaction lacks the UUID is rejected as a whole -/
example : acceptJournal auditSt [raw 1 (some u1), raw 2 (some u2), raw 3 none] = .err := by decide
example : (acceptJournal auditSt [raw 1 (some u1), raw 2 (some u2)]).map (·.1) =
    .ok [txn 1 (some u1), txn 2 (some u2)] := by decide

/-- upper- and mixed-case UUIDs are hashed in canonical lower case -/
example : uuidsOf [txn 1 (some u1U), txn 2 (some u3)] = [u1, u3c] := by
  show [uuidToString u1U, uuidToString u3] = _
  rw [lower_u1U, lower_u3]

/-- duplicates that differ only in letter case are duplicates (`dup_rejected` is not vacuous) -/
example : calcTxnChecksum [txn 1 (some u1), txn 2 (some u2), txn 3 (some u1U)] .sha3_512 = .err := by
  apply dup_rejected
  show ¬ [uuidToString u1, uuidToString u2, uuidToString u1U].Nodup
  rw [lower_u1, lower_u2, lower_u1U]
  decide

/-- duplicates outside the selection do not matter -/
example : ∃ s, TxnData.filter (some .sha512) (fun t => t.header.ts.ns == 2) [txn 1 (some u1), txn 2 (some u2), txn 3 (some u1)] = .ok s := by
  rw [filter_outcome, if_pos (by decide)]
  exact ⟨_, rfl⟩

/-- canonical UUID texts satisfy the hypotheses of `preimage_injective` (no newline; 36 bytes wide) -/
example : ∀ u ∈ uuidsOf [txn 1 (some u1U), txn 2 (some u3)], '\n' ∉ u.toList ∧ (strBytes u).length = 36 := by
  show ∀ u ∈ [uuidToString u1U, uuidToString u3], _
  rw [lower_u1U, lower_u3]
  simp only [← nl_in_strBytes]
  decide

/-- selector patterns: the already-wrapped `^(?:e.*)$` is hashed as written; order does not matter -/
example : peeledPatterns (regexSetPatterns ["^(?:e.*)$", "a:.*"]) = ["^(?:e.*)$", "a:.*"] := peeled_regexSet _
example (alg : Algo) : selectorChecksum .register alg ["b", "a"] = selectorChecksum .register alg ["a", "b"] :=
  selector_checksum_perm _ _ _ _ (by decide)

/-- a selector pattern may contain a newline; the pattern lists `["a\nb"]` and `["a", "b"]` then get the
    same checksum although they are different selectors (so `selector_preimage_injective` needs its
    hypothesis; UUIDs never contain a newline, so the set checksum is not affected) -/
theorem selector_newline_witness (alg : Algo) :
    selectorChecksum .balance alg ["a\nb"] = selectorChecksum .balance alg ["a", "b"] := by
  rw [selector_checksum _ _ _ (by simp), selector_checksum _ _ _ (by simp)]
  have h1 : sortStrings ["a\nb"] = ["a\nb"] := sortStrings_eq _ _ (by decide) (by decide)
  have h2 : sortStrings ["a", "b"] = ["a", "b"] := sortStrings_eq _ _ (by decide) (by decide)
  rw [h1, h2]
  have : (["a\nb"] : List String).flatMap (fun p => strBytes p ++ [0x0a]) =
      (["a", "b"] : List String).flatMap (fun p => strBytes p ++ [0x0a]) := by decide
  rw [this]

end C09
end Tackler
