import TacklerModel.Props.E2Eb
import TacklerModel.Props.C11
import TacklerModel.Props.C17b
import TacklerModel.Props.C16
import TacklerModel.Props.C09
import TacklerModel.Props.C15
import TacklerModel.Props.C05
/-!
# E2Ec — end-to-end theorems, third part (namespace `E2E`)

§1–§3b are in the style of `Props/E2E.lean`: proved from `Loaded st ts st'` (`loaded_of_text`, `loaded_of_files`,
`loaded_of_git`) for any selection `txns` of the loaded transactions, the representation hypotheses of the stage
theorems (`C02.PostsWF`, `C03.TxnsWF`) discharged from the load, and instantiated for journal text (`text_*`).

| strengthens | theorems |
|---|---|
| C17 | **`loaded_balance_shown`**, **`loaded_register_shown`** (`text_*`), **`loaded_balgrp_shown`** |
| C11 | **`loaded_selector_balance`**, **`loaded_selector_register`** (`text_*`) |
| C16 / C13 | **`loaded_zone_regroups_only`** (`text_*`) |
| C09 | **`loaded_audit_set`** (`text_*`, `files_*`) |

§3c: the rejection classes of C01 from text (`text_rejects_bad_posting`, `files_*`).  §3d: what a block-wise or
batch-wise implementation has to equal (`filter_blockwise`, `identityExport_batchwise`, `sums_blockwise`); these do not
mention a load.  §4: witnesses on the sample text of `Props/E2E.lean`.
-/
-- hides `hl`, `hsel` of `loaded_zone_regroups_only`, whose statement holds of any list of transactions
set_option linter.unusedVariables false

namespace Tackler
namespace E2E
open Syntax KeyOrder

/-! ## 1. C17 — what the text reports print, from journal text -/

/-- **C17 end to end.**  For any selection `txns` of transactions loaded from text, any
    settings, selector and well-formed scale: when the balance report answers, it is `balanceTxt sc` of the kernel's
    balance `b`, the same `b` for every scale; every printed account sum denotes the **exact sum of the postings to
    its (commodity, account) in the journal text's selection**, rounded half away from zero to `max` decimals, every
    printed tree sum the exact sum of the postings at or below it, rounded once; every printed delta is the rounded
    exact sum of the *unrounded* listed account sums of its commodity; and every printed figure has between `min` and
    `max` decimals.  The only hypothesis about the input is that the text loaded. -/
theorem loaded_balance_shown (st st' : Settings) (ts : List Txn) (hl : Loaded st ts st')
    (txns : List Txn) (hsel : ∀ t ∈ txns, t ∈ ts)
    (sb : Settings) (sel : BalRow → Bool) (sc : Scale) (t : BalanceText) (hwf : sc.WF)
    (h : balanceReport sb sel sc (postsOf txns) = .ok t) :
    ∃ b, fromIter sb sel (postsOf txns) = .ok b
      ∧ (∀ sc', balanceReport sb sel sc' (postsOf txns) = .ok (balanceTxt sc' b))
      ∧ t.rows = b.rows.map (fun r => ⟨r.acct, r.comm, shown sc r.own, shown sc r.tree⟩)
      ∧ t.deltas = b.deltas.map (fun cd => (cd.1, shown sc cd.2))
      ∧ (∀ r ∈ b.rows, sel r = true ∧
          C17.valueOfShown (shown sc r.own).toList
            = C17.roundHalfAway (28 - sc.max) (C02.ownSum (postsOf txns) r.key) ∧
          C17.valueOfShown (shown sc r.tree).toList
            = C17.roundHalfAway (28 - sc.max) (C02.treeSum (postsOf txns) r.key) ∧
          (sc.min ≤ C17.decimalsOf (shown sc r.own).toList ∧ C17.decimalsOf (shown sc r.own).toList ≤ sc.max) ∧
          (sc.min ≤ C17.decimalsOf (shown sc r.tree).toList ∧ C17.decimalsOf (shown sc r.tree).toList ≤ sc.max))
      ∧ (∀ cd ∈ b.deltas,
          C17.valueOfShown (shown sc cd.2).toList = C17.roundHalfAway (28 - sc.max)
            (((b.rows.filter (fun r => decide (r.comm = cd.1))).map
                (fun r => C02.ownSum (postsOf txns) r.key)).sum) ∧
          (sc.min ≤ C17.decimalsOf (shown sc cd.2).toList ∧ C17.decimalsOf (shown sc cd.2).toList ≤ sc.max)) := by
  have hp := loaded_postsWF_sel st st' ts hl txns hsel
  obtain ⟨b, hb, hall, hr, hd, hrows, _⟩ := C17.display_only sb sel (postsOf txns) sc t hwf hp.scale h
  have hfig := C11.balance_figures_unchanged sb sel (postsOf txns) hp b hb
  obtain ⟨_, _, _, hdsum⟩ := C02.delta_eq sb sel (postsOf txns) hp b hb
  have hfi := C17.fromIter_figures sb sel (postsOf txns) b hp.scale hb
  refine ⟨b, hb, hall, hr, hd, ?_, ?_⟩
  · intro r hrm
    obtain ⟨hs, ho, htr⟩ := hfig r hrm
    obtain ⟨h1, h2⟩ := hrows r hrm
    refine ⟨hs, ?_, ?_, ?_, ?_⟩
    · rw [h1, ho]
    · rw [h2, htr]
    · rw [C17.shown_toList]; exact C17.decimals_bounds sc r.own hwf
    · rw [C17.shown_toList]; exact C17.decimals_bounds sc r.tree hwf
  · intro cd hcd
    obtain ⟨g, hg, hgm, hu, hs28⟩ := hfi.2 cd hcd
    refine ⟨?_, ?_⟩
    · rw [C17.shown_toList, (C17.shown_value sc cd.2 hs28 hwf).1, hdsum cd hcd]
      congr 1
      rw [List.map_congr_left]
      intro r hrm
      exact (hfig r (List.mem_filter.mp hrm).1).2.1
    · rw [C17.shown_toList]; exact C17.decimals_bounds sc cd.2 hwf

/-- `loaded_balance_shown` for a journal text -/
theorem text_balance_shown (cfg : Time.TsCfg) (st st' : Settings) (text : List Char) (ts : List Txn)
    (hload : loadText cfg st text = .ok (ts, st'))
    (txns : List Txn) (hsel : ∀ t ∈ txns, t ∈ ts)
    (sb : Settings) (sel : BalRow → Bool) (sc : Scale) (t : BalanceText) (hwf : sc.WF)
    (h : balanceReport sb sel sc (postsOf txns) = .ok t) :
    ∃ b, fromIter sb sel (postsOf txns) = .ok b
      ∧ (∀ sc', balanceReport sb sel sc' (postsOf txns) = .ok (balanceTxt sc' b))
      ∧ t.rows = b.rows.map (fun r => ⟨r.acct, r.comm, shown sc r.own, shown sc r.tree⟩)
      ∧ t.deltas = b.deltas.map (fun cd => (cd.1, shown sc cd.2))
      ∧ (∀ r ∈ b.rows, sel r = true ∧
          C17.valueOfShown (shown sc r.own).toList
            = C17.roundHalfAway (28 - sc.max) (C02.ownSum (postsOf txns) r.key) ∧
          C17.valueOfShown (shown sc r.tree).toList
            = C17.roundHalfAway (28 - sc.max) (C02.treeSum (postsOf txns) r.key) ∧
          (sc.min ≤ C17.decimalsOf (shown sc r.own).toList ∧ C17.decimalsOf (shown sc r.own).toList ≤ sc.max) ∧
          (sc.min ≤ C17.decimalsOf (shown sc r.tree).toList ∧ C17.decimalsOf (shown sc r.tree).toList ≤ sc.max))
      ∧ (∀ cd ∈ b.deltas,
          C17.valueOfShown (shown sc cd.2).toList = C17.roundHalfAway (28 - sc.max)
            (((b.rows.filter (fun r => decide (r.comm = cd.1))).map
                (fun r => C02.ownSum (postsOf txns) r.key)).sum) ∧
          (sc.min ≤ C17.decimalsOf (shown sc cd.2).toList ∧ C17.decimalsOf (shown sc cd.2).toList ≤ sc.max)) :=
  loaded_balance_shown st st' ts (loaded_of_text cfg st st' text ts hload) txns hsel sb sel sc t hwf h

/-- **C17 end to end.**  `C17.register_display_only` with `C03.TxnsWF` discharged from the
    load: for any selection of loaded transactions the register report at any well-formed scale prints, per listed
    row, `shown sc` of the posting's own amount and of the exact running total of C03 (one rounding of the exact
    sum, hidden rows included), and the engine's entries serve every scale. -/
theorem loaded_register_shown (st st' : Settings) (ts : List Txn) (hl : Loaded st ts st')
    (txns : List Txn) (hsel : ∀ t ∈ txns, t ∈ ts)
    (sel : RegRow → Bool) (sc : Scale) (t : List ShownRegEntry) (hwf : sc.WF)
    (h : registerReport sc sel txns = .ok t) :
    ∃ es, register sel txns = .ok es
      ∧ (∀ sc', registerReport sc' sel txns = .ok (registerTxt sc' es))
      ∧ t = (es.filter (fun e => !e.rows.isEmpty)).map (fun e =>
          ⟨e.txn, e.rows.map (fun r => ⟨r.post.acct, r.comm, shown sc r.post.amount, shown sc r.total⟩)⟩)
      ∧ es.length = txns.length
      ∧ ∀ i e, es[i]? = some e → ∃ tx, txns[i]? = some tx ∧ e.txn = tx ∧
          ∀ r ∈ e.rows, sel r = true ∧ ∃ j p, (C03.sortedPosts tx)[j]? = some p ∧ r.post = p ∧ r.comm = p.comm ∧
            C17.valueOfShown (shown sc r.post.amount).toList = C17.roundHalfAway (28 - sc.max) p.amount.units ∧
            C17.decimalsOf (shown sc r.post.amount).toList = sc.getPrecision r.post.amount ∧
            C17.valueOfShown (shown sc r.total).toList = C17.roundHalfAway (28 - sc.max)
              (C03.postSum p.acctnKey ((txns.take i).flatMap (·.posts))
                + C03.postSum p.acctnKey ((C03.sortedPosts tx).take (j + 1))) ∧
            C17.decimalsOf (shown sc r.total).toList = sc.getPrecision r.total :=
  C17.register_display_only sel txns sc t hwf (loaded_txnsWF_sel st st' ts hl txns hsel) h

/-- `loaded_register_shown` for a journal text -/
theorem text_register_shown (cfg : Time.TsCfg) (st st' : Settings) (text : List Char) (ts : List Txn)
    (hload : loadText cfg st text = .ok (ts, st'))
    (txns : List Txn) (hsel : ∀ t ∈ txns, t ∈ ts)
    (sel : RegRow → Bool) (sc : Scale) (t : List ShownRegEntry) (hwf : sc.WF)
    (h : registerReport sc sel txns = .ok t) :
    ∃ es, register sel txns = .ok es
      ∧ (∀ sc', registerReport sc' sel txns = .ok (registerTxt sc' es))
      ∧ t = (es.filter (fun e => !e.rows.isEmpty)).map (fun e =>
          ⟨e.txn, e.rows.map (fun r => ⟨r.post.acct, r.comm, shown sc r.post.amount, shown sc r.total⟩)⟩)
      ∧ es.length = txns.length
      ∧ ∀ i e, es[i]? = some e → ∃ tx, txns[i]? = some tx ∧ e.txn = tx ∧
          ∀ r ∈ e.rows, sel r = true ∧ ∃ j p, (C03.sortedPosts tx)[j]? = some p ∧ r.post = p ∧ r.comm = p.comm ∧
            C17.valueOfShown (shown sc r.post.amount).toList = C17.roundHalfAway (28 - sc.max) p.amount.units ∧
            C17.decimalsOf (shown sc r.post.amount).toList = sc.getPrecision r.post.amount ∧
            C17.valueOfShown (shown sc r.total).toList = C17.roundHalfAway (28 - sc.max)
              (C03.postSum p.acctnKey ((txns.take i).flatMap (·.posts))
                + C03.postSum p.acctnKey ((C03.sortedPosts tx).take (j + 1))) ∧
            C17.decimalsOf (shown sc r.total).toList = sc.getPrecision r.total :=
  loaded_register_shown st st' ts (loaded_of_text cfg st st' text ts hload) txns hsel sel sc t hwf h

/-- **C17 end to end.**  The balance-group report (any key function, i.e. any group-by and
    report zone) over any selection of loaded transactions at any well-formed scale: every printed group is the
    *balance report* of the transactions whose period key is its title, at the scale; its figures are those of
    `loaded_balance_shown` for the members — each row figure the exact sum over the **members'** postings rounded
    half away from zero once, each delta the rounded exact sum. -/
theorem loaded_balgrp_shown (st st' : Settings) (ts : List Txn) (hl : Loaded st ts st')
    (txns : List Txn) (hsel : ∀ t ∈ txns, t ∈ ts)
    (sb : Settings) (sel : BalRow → Bool) (key : Txn → String) (sc : Scale) (t : List GroupText) (hwf : sc.WF)
    (h : balgrpReportBy sb sel key sc txns = .ok t) :
    ∃ gs, balanceGroupsBy sb sel key txns = .ok gs
      ∧ (∀ sc', balgrpReportBy sb sel key sc' txns = .ok (balgrpTxt sc' gs))
      ∧ t = gs.map (fun g => ⟨g.title, balanceTxt sc g.bal⟩)
      ∧ (gs.map (·.title)).Pairwise (· < ·)
      ∧ ∀ g ∈ gs, ∃ members, members = txns.filter (fun tx => decide (key tx = g.title))
          ∧ balanceReport sb sel sc (postsOf members) = .ok (balanceTxt sc g.bal)
          ∧ (∀ r ∈ g.bal.rows, sel r = true ∧
              C17.valueOfShown (shown sc r.own).toList
                = C17.roundHalfAway (28 - sc.max) (C02.ownSum (postsOf members) r.key) ∧
              C17.valueOfShown (shown sc r.tree).toList
                = C17.roundHalfAway (28 - sc.max) (C02.treeSum (postsOf members) r.key))
          ∧ (∀ cd ∈ g.bal.deltas,
              C17.valueOfShown (shown sc cd.2).toList = C17.roundHalfAway (28 - sc.max)
                (((g.bal.rows.filter (fun r => decide (r.comm = cd.1))).map
                    (fun r => C02.ownSum (postsOf members) r.key)).sum)) := by
  obtain ⟨gs, hgs, hall, rfl, hg⟩ :=
    C17.balgrp_display_only_by sb sel key txns sc t hwf (loaded_txnsWF_sel st st' ts hl txns hsel) h
  refine ⟨gs, hgs, hall, rfl, C13.group_keys sb sel key txns gs hgs, ?_⟩
  intro g hgm
  obtain ⟨members, hm, hfi, hrep, _, _, _, _⟩ := hg g hgm
  have hmsel : ∀ tx ∈ members, tx ∈ ts := by
    intro tx htx
    rw [hm] at htx
    exact hsel tx (List.mem_filter.mp htx).1
  obtain ⟨b, hb, _, _, _, hrows, hdel⟩ :=
    loaded_balance_shown st st' ts hl members hmsel sb sel sc (balanceTxt sc g.bal) hwf (hrep sc)
  have hbg : b = g.bal := by rw [hfi] at hb; cases hb; rfl
  subst hbg
  refine ⟨members, hm, hrep sc, ?_, ?_⟩
  · intro r hr
    obtain ⟨h1, h2, h3, _⟩ := hrows r hr
    exact ⟨h1, h2, h3⟩
  · intro cd hcd
    exact (hdel cd hcd).1

/-! ## 2. C11 — account selectors given as patterns, from journal text -/

/-- **C11 end to end.**  A pattern list inside the regex subset (`C11.parseAll ras = some rs`)
    compiles to a selector; with it the balance report over any selection of loaded transactions, when it answers,
    lists exactly the rows of the kernel's balance whose **whole account name** matches one of the patterns (all rows
    for the empty list) — each with the own and tree sums over *all* the selection's postings, listed or not — and
    its delta lines are recomputed over the listed rows: one per commodity that still has a row, the exact sum of
    the listed own sums.  Whether the run fails does not depend on the patterns. -/
theorem loaded_selector_balance (st st' : Settings) (ts : List Txn) (hl : Loaded st ts st')
    (txns : List Txn) (hsel : ∀ t ∈ txns, t ∈ ts)
    (sb : Settings) (ras : List String) (rs : List Regex) (hp : C11.parseAll ras = some rs) :
    ∃ sel, accSelector ras = .ok sel ∧
      (fromIter sb (balRowSel sel) (postsOf txns) = .err ↔ balance sb (postsOf txns) = .err) ∧
      ∀ b, fromIter sb (balRowSel sel) (postsOf txns) = .ok b →
        ∃ bal, balance sb (postsOf txns) = .ok bal ∧
          b.rows = bal.filter (C11.balSpec rs) ∧
          (∀ row ∈ bal, C11.balSpec rs row = true ↔
              rs = [] ∨ ∃ r ∈ rs, Regex.FullMatch r (acctName row.acct).toList) ∧
          (∀ row ∈ b.rows, row.own.units = C02.ownSum (postsOf txns) row.key ∧
                           row.tree.units = C02.treeSum (postsOf txns) row.key) ∧
          (b.deltas.map (·.1)).Pairwise (· < ·) ∧
          (∀ c, c ∈ b.deltas.map (·.1) ↔ ∃ r ∈ bal, C11.balSpec rs r = true ∧ r.comm = c) ∧
          (∀ cd ∈ b.deltas, cd.2.units =
              ((bal.filter (fun r => C11.balSpec rs r && decide (r.comm = cd.1))).map (·.own.units)).sum) := by
  obtain ⟨sel, hs, hbs, _, _⟩ := C11.report_selector ras rs hp
  have hwf := loaded_postsWF_sel st st' ts hl txns hsel
  refine ⟨sel, hs, (C11.balance_rowfilter sb (balRowSel sel) (postsOf txns)).1, ?_⟩
  intro b hb
  obtain ⟨bal, hbal, hrows, hpw, hmem, hsum⟩ := C11.balance_deltas_recomputed sb (balRowSel sel) (postsOf txns) hwf b hb
  have hfig := C11.balance_figures_unchanged sb (balRowSel sel) (postsOf txns) hwf b hb
  rw [hbs] at hrows hmem hsum
  exact ⟨bal, hbal, hrows, fun row _ => C11.balSpec_iff rs row, fun row hr => (hfig row hr).2, hpw, hmem, hsum⟩

/-- `loaded_selector_balance` for a journal text -/
theorem text_selector_balance (cfg : Time.TsCfg) (st st' : Settings) (text : List Char) (ts : List Txn)
    (hload : loadText cfg st text = .ok (ts, st'))
    (txns : List Txn) (hsel : ∀ t ∈ txns, t ∈ ts)
    (sb : Settings) (ras : List String) (rs : List Regex) (hp : C11.parseAll ras = some rs) :
    ∃ sel, accSelector ras = .ok sel ∧
      (fromIter sb (balRowSel sel) (postsOf txns) = .err ↔ balance sb (postsOf txns) = .err) ∧
      ∀ b, fromIter sb (balRowSel sel) (postsOf txns) = .ok b →
        ∃ bal, balance sb (postsOf txns) = .ok bal ∧
          b.rows = bal.filter (C11.balSpec rs) ∧
          (∀ row ∈ bal, C11.balSpec rs row = true ↔
              rs = [] ∨ ∃ r ∈ rs, Regex.FullMatch r (acctName row.acct).toList) ∧
          (∀ row ∈ b.rows, row.own.units = C02.ownSum (postsOf txns) row.key ∧
                           row.tree.units = C02.treeSum (postsOf txns) row.key) ∧
          (b.deltas.map (·.1)).Pairwise (· < ·) ∧
          (∀ c, c ∈ b.deltas.map (·.1) ↔ ∃ r ∈ bal, C11.balSpec rs r = true ∧ r.comm = c) ∧
          (∀ cd ∈ b.deltas, cd.2.units =
              ((bal.filter (fun r => C11.balSpec rs r && decide (r.comm = cd.1))).map (·.own.units)).sum) :=
  loaded_selector_balance st st' ts (loaded_of_text cfg st st' text ts hload) txns hsel sb ras rs hp

/-- **C11 end to end.**  With a pattern list inside the subset the register over any
    selection of loaded transactions is, as an equation between outcomes, the unselected register with the rejected
    rows removed entry by entry; every row that remains is a row of the unselected run (amount, running total,
    commodity untouched), is to an account whose whole name matches a pattern, and its running total is the exact
    sum over *all* postings to its (commodity, account) up to its position — hidden rows included. -/
theorem loaded_selector_register (st st' : Settings) (ts : List Txn) (hl : Loaded st ts st')
    (txns : List Txn) (hsel : ∀ t ∈ txns, t ∈ ts)
    (ras : List String) (rs : List Regex) (hp : C11.parseAll ras = some rs) :
    ∃ sel, accSelector ras = .ok sel ∧
      register (regRowSel sel) txns = (register selAll txns).map (fun es => es.map (C03.hide (C11.regSpec rs))) ∧
      (∀ row : RegRow, C11.regSpec rs row = true ↔
          rs = [] ∨ ∃ r ∈ rs, Regex.FullMatch r (acctName row.post.acct).toList) ∧
      ∀ es, register (regRowSel sel) txns = .ok es →
        es.length = txns.length ∧
        ∀ i e, es[i]? = some e → ∃ t, txns[i]? = some t ∧ e.txn = t ∧
          ∀ r ∈ e.rows, C11.regSpec rs r = true ∧
            ∃ j p, (C03.sortedPosts t)[j]? = some p ∧ r.post = p ∧ r.comm = p.comm ∧
              r.total.units = C03.postSum p.acctnKey ((txns.take i).flatMap (·.posts))
                                + C03.postSum p.acctnKey ((C03.sortedPosts t).take (j + 1)) := by
  obtain ⟨sel, hs, _, hrs, _⟩ := C11.report_selector ras rs hp
  refine ⟨sel, hs, ?_, fun row => C11.regSpec_iff rs row, ?_⟩
  · rw [← hrs]
    exact (C11.register_rowfilter sel txns).1
  · rw [← hrs]
    exact fun es hes => C03.running_total_selected _ txns es (loaded_txnsWF_sel st st' ts hl txns hsel) hes

/-- `loaded_selector_register` for a journal text -/
theorem text_selector_register (cfg : Time.TsCfg) (st st' : Settings) (text : List Char) (ts : List Txn)
    (hload : loadText cfg st text = .ok (ts, st'))
    (txns : List Txn) (hsel : ∀ t ∈ txns, t ∈ ts)
    (ras : List String) (rs : List Regex) (hp : C11.parseAll ras = some rs) :
    ∃ sel, accSelector ras = .ok sel ∧
      register (regRowSel sel) txns = (register selAll txns).map (fun es => es.map (C03.hide (C11.regSpec rs))) ∧
      (∀ row : RegRow, C11.regSpec rs row = true ↔
          rs = [] ∨ ∃ r ∈ rs, Regex.FullMatch r (acctName row.post.acct).toList) ∧
      ∀ es, register (regRowSel sel) txns = .ok es →
        es.length = txns.length ∧
        ∀ i e, es[i]? = some e → ∃ t, txns[i]? = some t ∧ e.txn = t ∧
          ∀ r ∈ e.rows, C11.regSpec rs r = true ∧
            ∃ j p, (C03.sortedPosts t)[j]? = some p ∧ r.post = p ∧ r.comm = p.comm ∧
              r.total.units = C03.postSum p.acctnKey ((txns.take i).flatMap (·.posts))
                                + C03.postSum p.acctnKey ((C03.sortedPosts t).take (j + 1)) :=
  loaded_selector_register st st' ts (loaded_of_text cfg st st' text ts hload) txns hsel ras rs hp

/-! ## 3. C16 / C13 — the report zone only regroups -/

/-- **C16 end to end.**  Two balance-group runs over the same selection of loaded
    transactions that differ *only* in the period key (another report zone, another group-by): both partition the
    same transactions (the flattened groups are permutations of each other), and for every (commodity, account) the
    members' sums over the groups add up to the same figure — the own sum over the selection, which is what the
    balance report shows.  The report zone moves transactions between periods; it never changes an amount, drops or
    duplicates a transaction. -/
theorem loaded_zone_regroups_only (st st' : Settings) (ts : List Txn) (hl : Loaded st ts st')
    (txns : List Txn) (hsel : ∀ t ∈ txns, t ∈ ts) (key key' : Txn → String) :
    (((groupCandidates key txns).map (·.2)).flatten).Perm (((groupCandidates key' txns).map (·.2)).flatten) ∧
    ∀ k : AKey,
      ((groupCandidates key txns).map (fun kg => C02.ownSum (postsOf kg.2) k)).sum
        = ((groupCandidates key' txns).map (fun kg => C02.ownSum (postsOf kg.2) k)).sum ∧
      ((groupCandidates key txns).map (fun kg => C02.ownSum (postsOf kg.2) k)).sum = C02.ownSum (postsOf txns) k := by
  obtain ⟨hp, _⟩ := C13.group_partition key txns
  obtain ⟨hp', _⟩ := C13.group_partition key' txns
  refine ⟨hp.trans hp'.symm, ?_⟩
  intro k
  rw [C13.group_total key txns k, C13.group_total key' txns k]
  exact ⟨rfl, rfl⟩

/-- `loaded_zone_regroups_only` for a journal text and the real period keys: any two group-by settings and report
    zones -/
theorem text_zone_regroups_only (cfg : Time.TsCfg) (st st' : Settings) (text : List Char) (ts : List Txn)
    (hload : loadText cfg st text = .ok (ts, st'))
    (txns : List Txn) (hsel : ∀ t ∈ txns, t ∈ ts) (g g' : GroupBy) (tz tz' : Time.JournalTz) :
    (((groupCandidates (groupKey g tz) txns).map (·.2)).flatten).Perm
      (((groupCandidates (groupKey g' tz') txns).map (·.2)).flatten) ∧
    ∀ k : AKey,
      ((groupCandidates (groupKey g tz) txns).map (fun kg => C02.ownSum (postsOf kg.2) k)).sum
        = ((groupCandidates (groupKey g' tz') txns).map (fun kg => C02.ownSum (postsOf kg.2) k)).sum ∧
      ((groupCandidates (groupKey g tz) txns).map (fun kg => C02.ownSum (postsOf kg.2) k)).sum
        = C02.ownSum (postsOf txns) k :=
  loaded_zone_regroups_only st st' ts (loaded_of_text cfg st st' text ts hload) txns hsel _ _

/-! ## 3b. C09 — audit mode from journal text, one file or many -/

/-- **C09 end to end.**  After a load in audit mode – from one text, from several files, from a git
    commit: anything that establishes `Loaded` – and for any filter: the transaction set is produced **iff** the
    canonical UUIDs of the *selected* transactions are pairwise different, wherever those transactions were read from
    (two files, one file); it then carries the number selected and the prescribed checksum.  Every loaded transaction
    carries a UUID. -/
theorem loaded_audit_set (st st' : Settings) (ts : List Txn) (hl : Loaded st ts st') (ha : st.audit = true)
    (alg : Hash.Algo) (tf : Txn → Bool) :
    (∀ t ∈ ts, t.header.uuid.isSome = true) ∧
    TxnData.filter (getHash st alg) tf ts =
      if (C09.uuidsOf (ts.filter tf)).Nodup then .ok ⟨some (C09.specItem alg (ts.filter tf)), ts.filter tf⟩ else .err := by
  obtain ⟨rs, acc, _, hacc, rfl⟩ := hl
  obtain ⟨_, huu, _⟩ := C09.audit_requires_uuid_journal st st' rs acc ha hacc
  have hall : ∀ t ∈ sortTxns acc, t.header.uuid.isSome = true := fun t ht => huu t ((mem_sortTxns acc t).mp ht)
  refine ⟨hall, ?_⟩
  have hf : C09.allHaveUuid ((sortTxns acc).filter tf) = true := by
    apply List.all_eq_true.mpr
    intro t ht
    exact hall t (List.mem_filter.mp ht).1
  simp [getHash, ha, C09.filter_outcome, hf]

/-- `loaded_audit_set` for several journal files (`paths_to_txns`): a UUID shared by transactions of *different* files
    is a duplicate like any other -/
theorem files_audit_set (cfg : Time.TsCfg) (st st' : Settings) (files : List (List Char)) (ts : List Txn)
    (hload : loadFiles cfg st files = .ok (ts, st')) (ha : st.audit = true) (alg : Hash.Algo) (tf : Txn → Bool) :
    (∀ t ∈ ts, t.header.uuid.isSome = true) ∧
    TxnData.filter (getHash st alg) tf ts =
      if (C09.uuidsOf (ts.filter tf)).Nodup then .ok ⟨some (C09.specItem alg (ts.filter tf)), ts.filter tf⟩ else .err :=
  loaded_audit_set st st' ts (loaded_of_files cfg st st' files ts hload) ha alg tf

/-- … and for one journal text -/
theorem text_audit_set (cfg : Time.TsCfg) (st st' : Settings) (text : List Char) (ts : List Txn)
    (hload : loadText cfg st text = .ok (ts, st')) (ha : st.audit = true) (alg : Hash.Algo) (tf : Txn → Bool) :
    (∀ t ∈ ts, t.header.uuid.isSome = true) ∧
    TxnData.filter (getHash st alg) tf ts =
      if (C09.uuidsOf (ts.filter tf)).Nodup then .ok ⟨some (C09.specItem alg (ts.filter tf)), ts.filter tf⟩ else .err :=
  loaded_audit_set st st' ts (loaded_of_text cfg st st' text ts hload) ha alg tf

/-! ## 3c. C01 — the rejection classes, from journal text (one file or many) -/

/-- the posting-level rejection classes of C01, read off a parse tree: a zero amount (`0`, `0.00`, `-0`); a closing
    price (`@` or `=`) in the posting's own commodity; a negative unit price; a total price whose sign differs from the
    amount's -/
def BadPosting (rp : RawPosting) : Prop :=
  rp.amount.isZero = true ∨
  (∃ u cl, rp.unit = some u ∧ u.closing = some cl ∧
      (match cl with | .unitPrice v => v.comm | .total v => v.comm) = u.comm) ∨
  (∃ u v, rp.unit = some u ∧ u.closing = some (.unitPrice v) ∧ v.value.isNeg = true) ∨
  (∃ u v, rp.unit = some u ∧ u.closing = some (.total v) ∧ v.value.isNeg ≠ rp.amount.isNeg)

/-- a parse tree with a bad posting is accepted from no settings state -/
theorem badPosting_not_accepted (r : RawTxn) (rp : RawPosting) (hrp : rp ∈ r.posts) (hbad : BadPosting rp) :
    ∀ s t s', acceptTxn s r ≠ .ok (t, s') := by
  intro s
  rcases hbad with hz | ⟨u, cl, hu, hcl, hsame⟩ | ⟨u, v, hu, hcl, hneg⟩ | ⟨u, v, hu, hcl, hsign⟩
  · exact C01.reject_zero_posting s r rp hrp hz
  · cases cl with
    | unitPrice v => exact C01.reject_price_same_commodity s r rp hrp u _ hu hcl hsame
    | total v => exact C01.reject_price_same_commodity s r rp hrp u _ hu hcl hsame
  · exact C01.reject_negative_unit_price s r rp hrp u v hu hcl hneg
  · exact C01.reject_total_price_sign s r rp hrp u v hu hcl hsign

/-- … nor is a list of parse trees that contains it -/
theorem journal_rejects_bad_posting (st : Settings) (rs : List RawTxn) (r : RawTxn) (hr : r ∈ rs) (rp : RawPosting)
    (hrp : rp ∈ r.posts) (hbad : BadPosting rp) : ∀ acc st', acceptJournal st rs ≠ .ok (acc, st') := by
  intro acc st' hacc
  obtain ⟨s₁, t, s₂, hok⟩ := C15.mapMS_ok_all acceptTxn rs st st' acc hacc r hr
  exact badPosting_not_accepted r rp hrp hbad s₁ t s₂ hok

/-- **C01 end to end.**  A journal text one of whose transactions has a posting in a
    rejection class (zero amount, price in the posting's own commodity, negative unit price, total price of opposite
    sign) does not load – from any settings, whatever else the text contains: the journal is rejected as a whole. -/
theorem text_rejects_bad_posting (cfg : Time.TsCfg) (st : Settings) (text : List Char) (rs : List RawTxn)
    (hp : parseJournal cfg text = some rs) (r : RawTxn) (hr : r ∈ rs) (rp : RawPosting) (hrp : rp ∈ r.posts)
    (hbad : BadPosting rp) : ∀ ts st', loadText cfg st text ≠ .ok (ts, st') := by
  intro ts st' h
  obtain ⟨rs', acc, hp', _, _, hacc, _, _⟩ := load_inv cfg st st' text ts h
  rw [hp] at hp'
  cases hp'
  exact journal_rejects_bad_posting st rs r hr rp hrp hbad acc st' hacc

/-- … and the same for several journal files: one bad posting in any transaction of any file, and nothing is loaded
    from any of them -/
theorem files_rejects_bad_posting (cfg : Time.TsCfg) (st : Settings) (files : List (List Char)) (f : List Char)
    (hf : f ∈ files) (rs : List RawTxn) (hp : parseJournal cfg f = some rs) (r : RawTxn) (hr : r ∈ rs)
    (rp : RawPosting) (hrp : rp ∈ r.posts) (hbad : BadPosting rp) :
    ∀ ts st', loadFiles cfg st files ≠ .ok (ts, st') := by
  intro ts st' h
  obtain ⟨rs', s₁, ts₁, s₂, hp', hacc⟩ := C15.files_ok_all cfg st st' files ts h f hf
  rw [hp] at hp'
  cases hp'
  exact journal_rejects_bad_posting s₁ rs r hr rp hrp hbad ts₁ s₂ hacc

/-! ## 3d. Size independence (what a block-wise or batch-wise implementation has to equal) -/

/-- **C05.**  The selection is made transaction by transaction: cutting the journal into any blocks, selecting in each
    block and concatenating gives the selection of the whole — for every cutting, a remainder block included. -/
theorem filter_blockwise (m : String → String → Bool) (f : Filter) (blocks : List (List Txn)) :
    filterTxns m f blocks.flatten = (blocks.map (filterTxns m f)).flatten :=
  List.filter_flatten

/-- … and in particular nothing of a journal is outside its blocks: the selected and the rejected transactions of all
    blocks together are as many as the journal has -/
theorem filter_blockwise_complete (m : String → String → Bool) (f : Filter) (blocks : List (List Txn)) :
    ((blocks.map (filterTxns m f)).flatten).length + ((blocks.map (filterTxns m (.not f))).flatten).length
      = blocks.flatten.length := by
  rw [← filter_blockwise, ← filter_blockwise]
  exact (C05.partition m f blocks.flatten).2

/-- **C06.**  The identity export is one transaction text after the other (each followed by its blank line): writing
    the journal in batches of any sizes and concatenating the batches' texts gives the export of the whole. -/
theorem identityExport_batchwise (div : Dec → Dec → Dec) (batches : List (List Txn)) :
    Print.identityExport div batches.flatten = (batches.map (Print.identityExport div)).flatten := by
  have hlead : Print.blankLines Print.Layout.identity Print.Layout.identity.lead = [] := by decide
  have h1 : ∀ ts : List Txn, Print.identityExport div ts = (ts.map (Print.txnL Print.Layout.identity div)).flatten := by
    intro ts
    unfold Print.identityExport Print.printL
    rw [hlead]; rfl
  induction batches with
  | nil => simp [h1]
  | cons b rest ih =>
    simp only [List.flatten_cons, List.map_cons]
    rw [← ih, h1, h1, h1, List.map_append, List.flatten_append]

/-- **C02.**  The exact account sum and tree sum over a journal are the sums of the blocks' exact
    sums, for every cutting of the posting stream into blocks: what any chunked, batched or parallel summation has to
    equal (with `C02.own_sum` / `tree_sum`: what the balance report shows). -/
theorem sums_blockwise (blocks : List (List BPost)) (k : AKey) :
    C02.ownSum blocks.flatten k = (blocks.map (fun b => C02.ownSum b k)).sum ∧
    C02.treeSum blocks.flatten k = (blocks.map (fun b => C02.treeSum b k)).sum := by
  induction blocks with
  | nil => simp [C02.ownSum, C02.treeSum]
  | cons b rest ih =>
    simp only [List.flatten_cons, List.map_cons, List.sum_cons]
    rw [← ih.1, ← ih.2]
    unfold C02.ownSum C02.treeSum
    simp only [List.filter_append, List.map_append, List.sum_append]
    exact ⟨trivial, trivial⟩

/-! ## 4. Non-vacuity: the sample text of `Props/E2E.lean` through the new theorems -/
namespace ExC
open Ex

/-- scale 0..1: `a:b` is posted 1.50 and is shown `1.5`; the unposted ancestor `a` shows its tree sum `3.5` -/
def sc01 : Scale := ⟨0, 1⟩

theorem sc01_wf : sc01.WF := by decide

theorem sample_report01 : balanceReport stAfter (fun _ => true) sc01 (postsOf [t1, t2])
    = .ok (balanceTxt sc01 ⟨rowsAll, [("", ⟨false, 0, 2⟩)]⟩) := by
  unfold balanceReport; rw [sample_fromIter]; rfl

/-- the hypotheses of `text_balance_shown` are satisfiable, and its conclusion says what it should on the sample:
    the printed own sum of `a:b` denotes 1.50 = the exact sum of the text's postings to it (rounded to one decimal:
    unchanged), for the kernel balance `b` the theorem hands back -/
example : ∃ b, fromIter stAfter (fun _ => true) (postsOf [t1, t2]) = .ok b ∧
    ∀ r ∈ b.rows, C17.valueOfShown (shown sc01 r.own).toList
      = C17.roundHalfAway (28 - sc01.max) (C02.ownSum (postsOf [t1, t2]) r.key) := by
  obtain ⟨b, hb, _, _, _, hrows, _⟩ := text_balance_shown utc lax0 stAfter sample [t1, t2] sample_loads [t1, t2] (sel_all _)
    stAfter (fun _ => true) sc01 _ sc01_wf sample_report01
  exact ⟨b, hb, fun r hr => (hrows r hr).2.1⟩

/-- scale 0..0 rounds: `a:b` 1.50 is printed `2` (half away from zero), `f` −3.5 is printed `-4` -/
example : (balanceTxt ⟨0, 0⟩ ⟨rowsAll, [("", ⟨false, 0, 2⟩)]⟩).rows.map (·.own) = ["0", "2", "2", "0", "-4"] := by decide

/-- the selector pattern `a:b` (inside the regex subset) lists `a:b` only — not `a:bc`, of whose name it is a proper
    prefix: `text_selector_balance` applies to the sample -/
example : ∃ sel, accSelector ["a:b"] = .ok sel ∧
    ∀ b, fromIter stAfter (balRowSel sel) (postsOf [t1, t2]) = .ok b →
      ∃ bal, balance stAfter (postsOf [t1, t2]) = .ok bal ∧ b.rows = bal.filter (C11.balSpec [Regex.lits "a:b".toList]) := by
  obtain ⟨sel, hs, _, h⟩ := text_selector_balance utc lax0 stAfter sample [t1, t2] sample_loads [t1, t2] (sel_all _)
    stAfter ["a:b"] [Regex.lits "a:b".toList] (by decide)
  refine ⟨sel, hs, fun b hb => ?_⟩
  obtain ⟨bal, hbal, hrows, _⟩ := h b hb
  exact ⟨bal, hbal, hrows⟩

example : (rowsAll.filter (C11.balSpec [Regex.lits "a:b".toList])).map (·.acct) = [["a", "b"]] := by decide

/-- two report zones 14 h apart put `t1` (2024-01-01T00:00Z) into different days; `text_zone_regroups_only` says
    the groups are still a partition of the same transactions with the same per-account totals -/
example : (((groupCandidates (groupKey .date (.fixed 0)) [t1, t2]).map (·.2)).flatten).Perm
    (((groupCandidates (groupKey .date (.fixed (-36000))) [t1, t2]).map (·.2)).flatten) :=
  (text_zone_regroups_only utc lax0 stAfter sample [t1, t2] sample_loads [t1, t2] (sel_all _) .date .date
    (.fixed 0) (.fixed (-36000))).1

/-- `text_rejects_bad_posting` on a concrete text: the second transaction has a total price of opposite sign
    (`e 1 ACME = -5 EUR`), so nothing of the text loads — although the first transaction alone is fine -/
def badText : List Char := "2024-01-01\n a 1\n b\n\n2024-01-02\n e 1 ACME = -5 EUR\n f\n".toList

def badR1 : RawTxn := ⟨⟨⟨1704067200000000000, 0⟩, none, none, none, none, none, none⟩,
  [⟨["a"], ⟨false, 1, 0⟩, none, none⟩], some (["b"], none)⟩
def badR2 : RawTxn := ⟨⟨⟨1704153600000000000, 0⟩, none, none, none, none, none, none⟩,
  [⟨["e"], ⟨false, 1, 0⟩, some ⟨"ACME", none, some (.total ⟨⟨true, 5, 0⟩, "EUR"⟩)⟩, none⟩], some (["f"], none)⟩

theorem badText_parses : parseJournal utc badText = some [badR1, badR2] := by
  unfold badText
  rw [String.toList_ofList]
  decide

example : ∀ ts st', loadText utc lax0 badText ≠ .ok (ts, st') :=
  text_rejects_bad_posting utc lax0 badText _ badText_parses badR2 (by decide) _ List.mem_cons_self
    (.inr (.inr (.inr ⟨_, _, rfl, rfl, by decide⟩)))

/-! ### further witnesses -/

/-- C01: the *written* amounts cancel (`10 ACME @ 2 EUR` / `-10 EUR`), the values do not (20 − 10): not accepted -/
def writtenCancel : List Char := "2024-01-01\n a 10 ACME @ 2 EUR\n c -10 EUR\n".toList
example : ∀ ts st', loadText utc lax0 writtenCancel ≠ .ok (ts, st') := by
  intro ts st' h
  have : loadText utc lax0 writtenCancel = .err := by
    unfold writtenCancel
    rw [String.toList_ofList]
    decide
  rw [this] at h; cases h

/-- C01: explicit postings in two commodities without a closing price plus an amount-less last posting: not accepted -/
def mixedWithImplicit : List Char := "2024-01-01\n h 100 EUR\n t 20 USD\n cash\n".toList
example : ∀ ts st', loadText utc lax0 mixedWithImplicit ≠ .ok (ts, st') := by
  intro ts st' h
  have : loadText utc lax0 mixedWithImplicit = .err := by
    unfold mixedWithImplicit
    rw [String.toList_ofList]
    decide
  rw [this] at h; cases h

/-- C05: a box across the antimeridian (west 170 > east −170) is inclusive at its east edge: a transaction located at
    longitude exactly −170 is selected (instance of `C05.bbox_spec`) -/
example : Filter.eval (fun _ _ => false) (.bbox ⟨true, 10, 0⟩ ⟨false, 170, 0⟩ ⟨false, 10, 0⟩ ⟨true, 170, 0⟩)
    ⟨⟨⟨0, 0⟩, none, none, none, some ⟨⟨false, 0, 0⟩, ⟨true, 170, 0⟩, none⟩, none, none⟩, []⟩ = true := by decide

end ExC

end E2E
end Tackler
