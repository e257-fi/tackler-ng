import TacklerModel.Lemmas.E2E
import TacklerModel.Props.C01
import TacklerModel.Props.C02
import TacklerModel.Props.C03
import TacklerModel.Props.C04
import TacklerModel.Props.C06b
import TacklerModel.Props.C09
import TacklerModel.Props.C10
import TacklerModel.Props.C12
import TacklerModel.Props.C13
import TacklerModel.Props.C15
/-!
# E2E — the per-stage theorems composed, starting from journal TEXT

The property theorems of C01, C02, C03, C04, C09, C10 and C13 are stated over parse trees / accepted transactions and
carry representation hypotheses (`C01.RawWF`, `C02.PostsWF`, `C03.TxnsWF`, "uuid texts contain no newline").  Here they
are composed with the grammar so that the **only hypothesis about the input is that it loads**:

    loadText cfg st text = .ok (ts, st')          (`string_to_txns`: one text)        theorems `text_*`
    loadFiles cfg st files = .ok (ts, st')        (`paths_to_txns`: a list of files)  theorems `files_*`

for any journal-zone configuration (`C06.CfgOK` is not needed: nothing uses the timestamp clause of `C06.RawLex`) and
any settings (the "never errs" theorems need the initial chart ancestor-closed, as `Settings.ofConfig` builds it).
Both entry points establish `Loaded st ts st'` (`loaded_of_text`, `loaded_of_files`); each theorem is proved from that
(`loaded_*`), and its `text_*` / `files_*` forms are the two instances, with literally the same conclusion.

Reports are computed from a *selection* of the loaded transactions (`TxnData::filter`), so the report theorems are
stated for any `txns` with `hsel : ∀ t ∈ txns, t ∈ ts`: the whole journal (`sel_all`), what a filter keeps
(`sel_filter`), the members of a balance group.  The settings `sb` a report kernel runs with are arbitrary.

| strengthens | theorems (`text_…`; also `loaded_…`, `files_…`) |
|---|---|
| C01 | `text_txn_origin`, **`text_accept_balanced`** |
| C02 | `text_postsWF` (`_sel`), **`text_balance_exact`**, `text_balance_deltas`, `text_delta_zero` (`_unpriced`), **`text_balance_never_errs`** (`_closed`) |
| C03 | `text_txnsWF` (`_sel`), `text_sorted`, **`text_register_exact`**, `text_register_selected` |
| C10 | **`text_equity`** |
| C13 | **`text_groups`**, `text_groups_total`, `text_groups_never_err` |
| C09 | `text_uuid_no_newline`, **`text_checksum_determines_set`**, `text_equal_checksum_is_collision` |
| C04 | **`text_order_free`**, `text_order_free_values` (files: `C04.shards_free_files`) |

What stays explicit is content, not well-formedness: `text_delta_zero` keeps the property's own premise "no posting is
priced into another commodity" (`text_delta_zero_unpriced` reads it off the parse trees); the carry clause of
`text_equity` keeps "the equity account is not itself selected".
-/
-- hides `hlb` of `files_order_free_values`, whose statement does not use it
set_option linter.unusedVariables false

namespace Tackler
namespace E2E
open Syntax KeyOrder

/-! ## 0. what a successful load of text is -/

/-- `ts`, `st'` are the result of accepting lexically well-formed parse trees (`TxnLex`: what the grammar produces)
    one after the other from the settings `st` and sorting the accepted transactions — what both text-level entry
    points of the loader establish (`loaded_of_text`, `loaded_of_files`) -/
def Loaded (st : Settings) (ts : List Txn) (st' : Settings) : Prop :=
  ∃ rs acc, (∀ r ∈ rs, TxnLex r) ∧ acceptJournal st rs = .ok (acc, st') ∧ ts = sortTxns acc

/-- a text that loads parsed to at least one parse tree, every parse tree is lexically well-formed
    (`TxnLex`), all were accepted (threading the settings) and the result is the sorted accepted list. -/
theorem load_inv (cfg : Time.TsCfg) (st st' : Settings) (text : List Char) (ts : List Txn)
    (h : loadText cfg st text = .ok (ts, st')) :
    ∃ rs acc, parseJournal cfg text = some rs ∧ rs ≠ [] ∧ (∀ r ∈ rs, TxnLex r) ∧
      acceptJournal st rs = .ok (acc, st') ∧ ts = sortTxns acc ∧ loadJournal st rs = .ok (ts, st') := by
  cases hp : parseJournal cfg text with
  | none => rw [loadText, hp] at h; cases h
  | some rs =>
    obtain ⟨hne, hlex⟩ := parseJournal_lex cfg text rs hp
    have hl : loadJournal st rs = .ok (ts, st') := by rwa [loadText, hp] at h
    obtain ⟨r0, rt, rfl⟩ := List.exists_cons_of_ne_nil hne
    obtain ⟨⟨acc, s0⟩, ha, he⟩ := (Outcome.map_ok _ _ _).mp hl
    cases he
    exact ⟨_, acc, rfl, hne, hlex, ha, rfl, hl⟩

/-- `string_to_txns` establishes `Loaded` -/
theorem loaded_of_text (cfg : Time.TsCfg) (st st' : Settings) (text : List Char) (ts : List Txn)
    (h : loadText cfg st text = .ok (ts, st')) : Loaded st ts st' := by
  obtain ⟨rs, acc, _, _, hlex, hacc, hts, _⟩ := load_inv cfg st st' text ts h
  exact ⟨rs, acc, hlex, hacc, hts⟩

theorem files_parse (cfg : Time.TsCfg) : ∀ (files : List (List Char)) (st : Settings) (r : List (List Txn) × Settings),
    mapMS (acceptText cfg) st files = .ok r → ∃ rss : List (List RawTxn), files.map (parseJournal cfg) = rss.map some := by
  intro files
  induction files with
  | nil => intro st r _; exact ⟨[], rfl⟩
  | cons f tl ih =>
    intro st r h
    obtain ⟨b, s1, bs, hb, hbs, _⟩ := (mapMS_cons_ok _ st r.2 f tl r.1).mp h
    obtain ⟨rss, hrss⟩ := ih s1 _ hbs
    cases hp : parseJournal cfg f with
    | none => rw [acceptText, hp] at hb; cases hb
    | some rs => exact ⟨rs :: rss, by simp [hp, hrss]⟩

theorem files_all (cfg : Time.TsCfg) {P : RawTxn → Prop}
    (hP : ∀ f rs, parseJournal cfg f = some rs → ∀ r ∈ rs, P r) {files : List (List Char)} {rss : List (List RawTxn)}
    (hrss : files.map (parseJournal cfg) = rss.map some) : ∀ r ∈ rss.flatten, P r := by
  intro r hr
  obtain ⟨rs, hrs, hrr⟩ := List.mem_flatten.mp hr
  have hm : some rs ∈ files.map (parseJournal cfg) := by rw [hrss]; exact List.mem_map.mpr ⟨rs, hrs, rfl⟩
  obtain ⟨f, _, hf⟩ := List.mem_map.mp hm
  exact hP f rs hf r hrr

/-- a list of file texts that loads (`paths_to_txns`): every file parsed, every parse tree is
    lexically well-formed, the concatenation of the parse trees was accepted (threading the settings through the
    files in order) and the result is the sorted accepted list. -/
theorem files_inv (cfg : Time.TsCfg) (st st' : Settings) (files : List (List Char)) (ts : List Txn)
    (h : loadFiles cfg st files = .ok (ts, st')) :
    ∃ (rss : List (List RawTxn)) (acc : List Txn), files.map (parseJournal cfg) = rss.map some ∧ (∀ r ∈ rss.flatten, TxnLex r) ∧
      acceptJournal st rss.flatten = .ok (acc, st') ∧ ts = sortTxns acc := by
  have h0 := h
  unfold loadFiles at h0
  obtain ⟨r, hr, _⟩ := (Outcome.map_ok _ _ _).mp h0
  obtain ⟨rss, hrss⟩ := files_parse cfg files st r hr
  rw [AcceptOrder.loadFiles_eq cfg files rss st hrss, AcceptOrder.loadTrees_eq] at h
  obtain ⟨⟨acc, s0⟩, ha, he⟩ := (Outcome.map_ok _ _ _).mp h
  cases he
  exact ⟨rss, acc, hrss, files_all cfg (fun f rs hf => (parseJournal_lex cfg f rs hf).2) hrss, ha, rfl⟩

/-- `paths_to_txns` establishes `Loaded` -/
theorem loaded_of_files (cfg : Time.TsCfg) (st st' : Settings) (files : List (List Char)) (ts : List Txn)
    (h : loadFiles cfg st files = .ok (ts, st')) : Loaded st ts st' := by
  obtain ⟨rss, acc, _, hlex, hacc, hts⟩ := files_inv cfg st st' files ts h
  exact ⟨rss.flatten, acc, hlex, hacc, hts⟩

/-- the converse direction used by the examples: a text whose parse trees are all accepted loads, to the sorted
    accepted list (`List.mergeSort` does not evaluate under `decide`; `acceptText` does) -/
theorem load_of_acceptText (cfg : Time.TsCfg) (st st' : Settings) (text : List Char) (acc : List Txn)
    (h : acceptText cfg st text = .ok (acc, st')) : loadText cfg st text = .ok (sortTxns acc, st') := by
  cases hp : parseJournal cfg text with
  | none => rw [acceptText, hp] at h; cases h
  | some rs =>
    obtain ⟨r0, rt, rfl⟩ := List.exists_cons_of_ne_nil (parseJournal_lex cfg text rs hp).1
    rw [acceptText, hp] at h
    simp only [loadText, hp, loadJournal, h, Outcome.map]

theorem mem_sortTxns (acc : List Txn) (t : Txn) : t ∈ sortTxns acc ↔ t ∈ acc := (sortTxns_perm acc).mem_iff

/-- the whole journal is a selection of itself … -/
theorem sel_all (ts : List Txn) : ∀ t ∈ ts, t ∈ ts := fun _ h => h

/-- … and so is what a transaction filter keeps (`TxnData::filter`) -/
theorem sel_filter (ts : List Txn) (tf : Txn → Bool) : ∀ t ∈ ts.filter tf, t ∈ ts :=
  fun _ ht => (List.mem_filter.mp ht).1

theorem mem_postsOf (txns : List Txn) (p : BPost) :
    p ∈ postsOf txns ↔ ∃ t ∈ txns, ∃ q ∈ t.posts, p = ⟨q.acct, q.comm, q.amount⟩ := by
  unfold postsOf
  simp only [List.mem_flatMap, List.mem_map]
  constructor
  · rintro ⟨t, ht, q, hq, rfl⟩; exact ⟨t, ht, q, hq, rfl⟩
  · rintro ⟨t, ht, q, hq, rfl⟩; exact ⟨t, ht, q, hq, rfl⟩

/-- the contrapositive of `C01.foreign_posting_priced`: without `@` / `=` positions in the parse tree every accepted
    posting is in the transaction commodity -/
theorem accepted_unpriced (st st' : Settings) (r : RawTxn) (t : Txn) (hwf : C01.RawWF r)
    (h : acceptTxn st r = .ok (t, st')) (hnc : ∀ rp ∈ r.posts, ∀ u, rp.unit = some u → u.closing = none) :
    ∀ p ∈ t.posts, p.comm = p.txnComm := by
  intro p hp
  by_cases hne : p.comm = p.txnComm
  · exact hne
  · obtain ⟨rp, hrp, _, _, u, hu, _, hc⟩ := C01.foreign_posting_priced st st' r t hwf h p hp hne
    have hn := hnc rp hrp u hu
    rcases hc with ⟨v, hcl, _⟩ | ⟨v, hcl, _⟩
    · rw [hn] at hcl; cases hcl
    · rw [hn] at hcl; cases hcl

/-- a lexically well-formed parse tree (`C06.RawLex`, what `C06.parseJournal_rawLex` proves of
    the grammar's output) satisfies C01's representation invariant `RawWF` — its numbers come from `Dec.ofToken`,
    so they have at most 28 decimals. -/
theorem rawWF_of_rawLex (r : RawTxn) (h : C06.RawLex r) : C01.RawWF r :=
  fun rp hrp => rawPostingWF_of_postLex rp
    ⟨(h.posts rp hrp).acct, (h.posts rp hrp).amount, (h.posts rp hrp).unit, (h.posts rp hrp).comment⟩

/-- every parse tree the grammar produces from a text satisfies `C01.RawWF` (any zone
    configuration). -/
theorem text_rawWF (cfg : Time.TsCfg) (text : List Char) (rs : List RawTxn)
    (hp : parseJournal cfg text = some rs) : ∀ r ∈ rs, C01.RawWF r :=
  fun r hr => rawWF_of_lex r ((parseJournal_lex cfg text rs hp).2 r hr)

/-- every transaction of a loaded text was accepted by `acceptTxn` from one of the text's parse
    trees, which is well-formed — so every theorem of C01 about `acceptTxn` (`foreign_posting_priced`,
    `implicit_last`, the rejection classes) applies to it without further hypothesis. -/
theorem text_txn_origin (cfg : Time.TsCfg) (st st' : Settings) (text : List Char) (ts : List Txn)
    (h : loadText cfg st text = .ok (ts, st')) :
    ∃ rs, parseJournal cfg text = some rs ∧ ts.length = rs.length ∧
      ∀ t ∈ ts, ∃ r ∈ rs, C01.RawWF r ∧ TxnLex r ∧ ∃ s1 s2, acceptTxn s1 r = .ok (t, s2) := by
  obtain ⟨rs, acc, hp, _, hlex, hacc, rfl, _⟩ := load_inv cfg st st' text ts h
  refine ⟨rs, hp, ?_, ?_⟩
  · unfold acceptJournal at hacc
    simp only [sortTxns, List.length_mergeSort]
    exact mapMS_length _ _ _ _ _ hacc
  · intro t ht
    obtain ⟨r, hr, s1, s2, hf⟩ := mapMS_ok acceptTxn rs st st' acc hacc t ((mem_sortTxns acc t).mp ht)
    exact ⟨r, hr, rawWF_of_lex r (hlex r hr), hlex r hr, s1, s2, hf⟩

/-! ## 1. C01 — every transaction loaded from text is balanced -/

/-- every loaded transaction was accepted by `acceptTxn` from a lexically well-formed parse tree -/
theorem Loaded.origin {st st' : Settings} {ts : List Txn} (hl : Loaded st ts st') {t : Txn} (ht : t ∈ ts) :
    ∃ r s1 s2, TxnLex r ∧ acceptTxn s1 r = .ok (t, s2) := by
  obtain ⟨rs, acc, hlex, hacc, rfl⟩ := hl
  obtain ⟨r, hr, s1, s2, hf⟩ := mapMS_ok acceptTxn rs _ st' acc hacc t ((mem_sortTxns acc t).mp ht)
  exact ⟨r, s1, s2, hlex r hr, hf⟩

/-- **C01 end to end.**  Every transaction loaded from text is balanced in a single
    transaction commodity: non-zero postings, one transaction commodity, own-commodity postings valued at their
    amount, values summing to exactly zero.  No hypothesis besides the load. -/
theorem loaded_accept_balanced (st st' : Settings) (ts : List Txn) (hl : Loaded st ts st') :
    ∀ t ∈ ts, C01.Balanced t := by
  intro t ht
  obtain ⟨r, s1, s2, hlex, hf⟩ := hl.origin ht
  exact C01.accept_balanced s1 s2 r t (rawWF_of_lex r hlex) hf

/-- `loaded_accept_balanced` for a journal text -/
theorem text_accept_balanced (cfg : Time.TsCfg) (st st' : Settings) (text : List Char) (ts : List Txn)
    (h : loadText cfg st text = .ok (ts, st')) :
    ∀ t ∈ ts, C01.Balanced t :=
  loaded_accept_balanced st st' ts (loaded_of_text cfg st st' text ts h)

/-- `loaded_accept_balanced` for a list of file texts -/
theorem files_accept_balanced (cfg : Time.TsCfg) (st st' : Settings) (files : List (List Char)) (ts : List Txn)
    (h : loadFiles cfg st files = .ok (ts, st')) :
    ∀ t ∈ ts, C01.Balanced t :=
  loaded_accept_balanced st st' ts (loaded_of_files cfg st st' files ts h)

/-! ## 2. C02 — balance figures of loaded text are the exact sums -/

/-- the amounts loaded from text have at most 28 decimals (`C03.accepted_wf` with `RawWF` discharged) -/
theorem loaded_txnsWF (st st' : Settings) (ts : List Txn) (hl : Loaded st ts st') :
    C03.TxnsWF ts := by
  intro t ht
  obtain ⟨r, s1, s2, hlex, hf⟩ := hl.origin ht
  exact C03.accepted_wf s1 s2 r t (rawWF_of_lex r hlex) hf

/-- `loaded_txnsWF` for a journal text -/
theorem text_txnsWF (cfg : Time.TsCfg) (st st' : Settings) (text : List Char) (ts : List Txn)
    (h : loadText cfg st text = .ok (ts, st')) :
    C03.TxnsWF ts :=
  loaded_txnsWF st st' ts (loaded_of_text cfg st st' text ts h)

/-- `loaded_txnsWF` for a list of file texts -/
theorem files_txnsWF (cfg : Time.TsCfg) (st st' : Settings) (files : List (List Char)) (ts : List Txn)
    (h : loadFiles cfg st files = .ok (ts, st')) :
    C03.TxnsWF ts :=
  loaded_txnsWF st st' ts (loaded_of_files cfg st st' files ts h)

/-- every posting loaded from text — the implicit last posting of a transaction included — is to an account the
    text writes out: a non-empty list of non-empty components without `':'` -/
theorem loaded_accts_good (st st' : Settings) (ts : List Txn) (hl : Loaded st ts st') :
    ∀ t ∈ ts, ∀ p ∈ t.posts, GoodPath p.acct ∧ p.acct ≠ [] := by
  intro t ht p hp
  obtain ⟨r, s1, s2, hlex, hf⟩ := hl.origin ht
  exact (accepted_acct_lex s1 s2 r t hlex hf p hp).good

/-- `loaded_accts_good` for a journal text -/
theorem text_accts_good (cfg : Time.TsCfg) (st st' : Settings) (text : List Char) (ts : List Txn)
    (h : loadText cfg st text = .ok (ts, st')) :
    ∀ t ∈ ts, ∀ p ∈ t.posts, GoodPath p.acct ∧ p.acct ≠ [] :=
  loaded_accts_good st st' ts (loaded_of_text cfg st st' text ts h)

/-- the posting stream loaded from text satisfies C02's `PostsWF`: stored scales ≤ 28, non-empty
    account paths, and account names determine account paths among all prefixes (ancestors) of posted paths. -/
theorem loaded_postsWF (st st' : Settings) (ts : List Txn) (hl : Loaded st ts st') :
    C02.PostsWF (postsOf ts) := by
  have hsc := loaded_txnsWF st st' ts hl
  have hgood := loaded_accts_good st st' ts hl
  have hg : ∀ x ∈ postsOf ts, GoodPath x.acct ∧ x.acct ≠ [] := by
    intro x hx
    obtain ⟨t, ht, q, hq, rfl⟩ := (mem_postsOf ts x).mp hx
    exact hgood t ht q hq
  refine ⟨?_, fun p hp => (hg p hp).2, C02.namesInj_of_good (postsOf ts) (fun x hx => (hg x hx).1)⟩
  intro p hp
  obtain ⟨t, ht, q, hq, rfl⟩ := (mem_postsOf ts p).mp hp
  exact hsc t ht q hq

/-- `loaded_postsWF` for a journal text -/
theorem text_postsWF (cfg : Time.TsCfg) (st st' : Settings) (text : List Char) (ts : List Txn)
    (h : loadText cfg st text = .ok (ts, st')) :
    C02.PostsWF (postsOf ts) :=
  loaded_postsWF st st' ts (loaded_of_text cfg st st' text ts h)

/-- `loaded_postsWF` for a list of file texts -/
theorem files_postsWF (cfg : Time.TsCfg) (st st' : Settings) (files : List (List Char)) (ts : List Txn)
    (h : loadFiles cfg st files = .ok (ts, st')) :
    C02.PostsWF (postsOf ts) :=
  loaded_postsWF st st' ts (loaded_of_files cfg st st' files ts h)

/-- … and so does the posting stream of every selection of its transactions -/
theorem loaded_postsWF_sel (st st' : Settings) (ts : List Txn) (hl : Loaded st ts st')
    (txns : List Txn) (hsel : ∀ t ∈ txns, t ∈ ts) :
    C02.PostsWF (postsOf txns) :=
  C13.postsWF_subset (loaded_postsWF st st' ts hl) (C13.postsOf_subset hsel)

/-- `loaded_postsWF_sel` for a journal text -/
theorem text_postsWF_sel (cfg : Time.TsCfg) (st st' : Settings) (text : List Char) (ts : List Txn)
    (h : loadText cfg st text = .ok (ts, st'))
    (txns : List Txn) (hsel : ∀ t ∈ txns, t ∈ ts) :
    C02.PostsWF (postsOf txns) :=
  loaded_postsWF_sel st st' ts (loaded_of_text cfg st st' text ts h) txns hsel

/-- `loaded_postsWF_sel` for a list of file texts -/
theorem files_postsWF_sel (cfg : Time.TsCfg) (st st' : Settings) (files : List (List Char)) (ts : List Txn)
    (h : loadFiles cfg st files = .ok (ts, st'))
    (txns : List Txn) (hsel : ∀ t ∈ txns, t ∈ ts) :
    C02.PostsWF (postsOf txns) :=
  loaded_postsWF_sel st st' ts (loaded_of_files cfg st st' files ts h) txns hsel

/-- **C02 end to end.**  For any selection `txns` of the transactions loaded from text,
    whenever the balance kernel answers (with whatever settings), its rows are exactly the posted (commodity,
    account) pairs and their proper ancestors, each once, strictly sorted by (commodity, account name); every row's
    account sum is the exact sum of the postings to its pair and its tree sum the exact sum of the postings at or
    below it.  No `PostsWF` hypothesis: the text loaded. -/
theorem loaded_balance_exact (st st' : Settings) (ts : List Txn) (hl : Loaded st ts st')
    (txns : List Txn) (hsel : ∀ t ∈ txns, t ∈ ts)
    (sb : Settings) (bal : List BalRow) (hb : balance sb (postsOf txns) = .ok bal) :
    (bal.map (·.key)).Pairwise (fun a b => keyLt a b = true) ∧
    (∀ k, k ∈ bal.map (·.key) ↔ C02.Posted (postsOf txns) k ∨ C02.ProperAncestor (postsOf txns) k) ∧
    (∀ row ∈ bal, row.own.units = C02.ownSum (postsOf txns) row.key ∧
                  row.tree.units = C02.treeSum (postsOf txns) row.key) := by
  have hwf := loaded_postsWF_sel st st' ts hl txns hsel
  obtain ⟨h1, h2⟩ := C02.rows_exact sb _ hwf bal hb
  exact ⟨h1, h2, fun row hrow => ⟨C02.own_sum sb _ hwf bal hb row hrow, C02.tree_sum_posts sb _ hwf bal hb row hrow⟩⟩

/-- `loaded_balance_exact` for a journal text -/
theorem text_balance_exact (cfg : Time.TsCfg) (st st' : Settings) (text : List Char) (ts : List Txn)
    (h : loadText cfg st text = .ok (ts, st'))
    (txns : List Txn) (hsel : ∀ t ∈ txns, t ∈ ts)
    (sb : Settings) (bal : List BalRow) (hb : balance sb (postsOf txns) = .ok bal) :
    (bal.map (·.key)).Pairwise (fun a b => keyLt a b = true) ∧
    (∀ k, k ∈ bal.map (·.key) ↔ C02.Posted (postsOf txns) k ∨ C02.ProperAncestor (postsOf txns) k) ∧
    (∀ row ∈ bal, row.own.units = C02.ownSum (postsOf txns) row.key ∧
                  row.tree.units = C02.treeSum (postsOf txns) row.key) :=
  loaded_balance_exact st st' ts (loaded_of_text cfg st st' text ts h) txns hsel sb bal hb

/-- `loaded_balance_exact` for a list of file texts -/
theorem files_balance_exact (cfg : Time.TsCfg) (st st' : Settings) (files : List (List Char)) (ts : List Txn)
    (h : loadFiles cfg st files = .ok (ts, st'))
    (txns : List Txn) (hsel : ∀ t ∈ txns, t ∈ ts)
    (sb : Settings) (bal : List BalRow) (hb : balance sb (postsOf txns) = .ok bal) :
    (bal.map (·.key)).Pairwise (fun a b => keyLt a b = true) ∧
    (∀ k, k ∈ bal.map (·.key) ↔ C02.Posted (postsOf txns) k ∨ C02.ProperAncestor (postsOf txns) k) ∧
    (∀ row ∈ bal, row.own.units = C02.ownSum (postsOf txns) row.key ∧
                  row.tree.units = C02.treeSum (postsOf txns) row.key) :=
  loaded_balance_exact st st' ts (loaded_of_files cfg st st' files ts h) txns hsel sb bal hb

/-- `C02.delta_eq` end to end: the report lists the selected rows of the balance; there is
    exactly one delta line per commodity that has a listed row, in strictly increasing commodity order, and each
    delta is the exact sum of the listed rows' own sums in that commodity. -/
theorem loaded_balance_deltas (st st' : Settings) (ts : List Txn) (hl : Loaded st ts st')
    (txns : List Txn) (hsel : ∀ t ∈ txns, t ∈ ts)
    (sb : Settings) (sel : BalRow → Bool) (b : Balance) (hb : fromIter sb sel (postsOf txns) = .ok b) :
    (∃ bal, balance sb (postsOf txns) = .ok bal ∧ b.rows = bal.filter sel) ∧
    (b.deltas.map (·.1)).Pairwise (· < ·) ∧
    (∀ c, c ∈ b.deltas.map (·.1) ↔ ∃ r ∈ b.rows, r.comm = c) ∧
    (∀ cd ∈ b.deltas, cd.2.units = ((b.rows.filter (fun r => decide (r.comm = cd.1))).map (·.own.units)).sum) :=
  C02.delta_eq sb sel _ (loaded_postsWF_sel st st' ts hl txns hsel) b hb

/-- `loaded_balance_deltas` for a journal text -/
theorem text_balance_deltas (cfg : Time.TsCfg) (st st' : Settings) (text : List Char) (ts : List Txn)
    (h : loadText cfg st text = .ok (ts, st'))
    (txns : List Txn) (hsel : ∀ t ∈ txns, t ∈ ts)
    (sb : Settings) (sel : BalRow → Bool) (b : Balance) (hb : fromIter sb sel (postsOf txns) = .ok b) :
    (∃ bal, balance sb (postsOf txns) = .ok bal ∧ b.rows = bal.filter sel) ∧
    (b.deltas.map (·.1)).Pairwise (· < ·) ∧
    (∀ c, c ∈ b.deltas.map (·.1) ↔ ∃ r ∈ b.rows, r.comm = c) ∧
    (∀ cd ∈ b.deltas, cd.2.units = ((b.rows.filter (fun r => decide (r.comm = cd.1))).map (·.own.units)).sum) :=
  loaded_balance_deltas st st' ts (loaded_of_text cfg st st' text ts h) txns hsel sb sel b hb

/-- `loaded_balance_deltas` for a list of file texts -/
theorem files_balance_deltas (cfg : Time.TsCfg) (st st' : Settings) (files : List (List Char)) (ts : List Txn)
    (h : loadFiles cfg st files = .ok (ts, st'))
    (txns : List Txn) (hsel : ∀ t ∈ txns, t ∈ ts)
    (sb : Settings) (sel : BalRow → Bool) (b : Balance) (hb : fromIter sb sel (postsOf txns) = .ok b) :
    (∃ bal, balance sb (postsOf txns) = .ok bal ∧ b.rows = bal.filter sel) ∧
    (b.deltas.map (·.1)).Pairwise (· < ·) ∧
    (∀ c, c ∈ b.deltas.map (·.1) ↔ ∃ r ∈ b.rows, r.comm = c) ∧
    (∀ cd ∈ b.deltas, cd.2.units = ((b.rows.filter (fun r => decide (r.comm = cd.1))).map (·.own.units)).sum) :=
  loaded_balance_deltas st st' ts (loaded_of_files cfg st st' files ts h) txns hsel sb sel b hb

/-- `C02.delta_zero` end to end: with all accounts listed and no posting priced into another
    commodity, every delta of the report is zero — balancedness (C01) and `PostsWF` are discharged from the load. -/
theorem loaded_delta_zero (st st' : Settings) (ts : List Txn) (hl : Loaded st ts st')
    (txns : List Txn) (hsel : ∀ t ∈ txns, t ∈ ts) (sb : Settings)
    (hnp : ∀ t ∈ txns, ∀ p ∈ t.posts, p.comm = p.txnComm)
    (b : Balance) (hb : fromIter sb (fun _ => true) (postsOf txns) = .ok b) :
    ∀ cd ∈ b.deltas, cd.2.units = 0 :=
  C02.delta_zero sb txns (loaded_postsWF_sel st st' ts hl txns hsel)
    (fun t ht => loaded_accept_balanced st st' ts hl t (hsel t ht)) hnp b hb

/-- `loaded_delta_zero` for a journal text -/
theorem text_delta_zero (cfg : Time.TsCfg) (st st' : Settings) (text : List Char) (ts : List Txn)
    (h : loadText cfg st text = .ok (ts, st'))
    (txns : List Txn) (hsel : ∀ t ∈ txns, t ∈ ts) (sb : Settings)
    (hnp : ∀ t ∈ txns, ∀ p ∈ t.posts, p.comm = p.txnComm)
    (b : Balance) (hb : fromIter sb (fun _ => true) (postsOf txns) = .ok b) :
    ∀ cd ∈ b.deltas, cd.2.units = 0 :=
  loaded_delta_zero st st' ts (loaded_of_text cfg st st' text ts h) txns hsel sb hnp b hb

/-- `loaded_delta_zero` for a list of file texts -/
theorem files_delta_zero (cfg : Time.TsCfg) (st st' : Settings) (files : List (List Char)) (ts : List Txn)
    (h : loadFiles cfg st files = .ok (ts, st'))
    (txns : List Txn) (hsel : ∀ t ∈ txns, t ∈ ts) (sb : Settings)
    (hnp : ∀ t ∈ txns, ∀ p ∈ t.posts, p.comm = p.txnComm)
    (b : Balance) (hb : fromIter sb (fun _ => true) (postsOf txns) = .ok b) :
    ∀ cd ∈ b.deltas, cd.2.units = 0 :=
  loaded_delta_zero st st' ts (loaded_of_files cfg st st' files ts h) txns hsel sb hnp b hb

/-- the premise of `text_delta_zero` read off the text: if no posting line of the
    text has a closing position (`@` unit price or `=` total), every delta of the full balance report is zero. -/
theorem text_delta_zero_unpriced (cfg : Time.TsCfg) (st st' : Settings) (text : List Char) (ts : List Txn)
    (h : loadText cfg st text = .ok (ts, st')) (txns : List Txn) (hsel : ∀ t ∈ txns, t ∈ ts) (sb : Settings)
    (hnc : ∀ rs, parseJournal cfg text = some rs →
      ∀ r ∈ rs, ∀ rp ∈ r.posts, ∀ u, rp.unit = some u → u.closing = none)
    (b : Balance) (hb : fromIter sb (fun _ => true) (postsOf txns) = .ok b) :
    ∀ cd ∈ b.deltas, cd.2.units = 0 := by
  obtain ⟨rs, hp, _, horig⟩ := text_txn_origin cfg st st' text ts h
  apply text_delta_zero cfg st st' text ts h txns hsel sb _ b hb
  intro t ht
  obtain ⟨r, hr, hwf, _, s1, s2, hf⟩ := horig t (hsel t ht)
  exact accepted_unpriced s1 s2 r t hwf hf (hnc rs hp r hr)

/-- the ancestors of every account posted to are known to the settings a load leaves behind -/
theorem loaded_parents_known (st st' : Settings) (ts : List Txn) (hcl : if st.strict then C12.AncClosed2 st.accounts st.synthetic else C12.AncClosed st.accounts) (hl : Loaded st ts st')
    (txns : List Txn) (hsel : ∀ t ∈ txns, t ∈ ts) :
    ∀ p ∈ postsOf txns, ∀ q : Path, q ≠ [] → q <+: p.acct → q ≠ p.acct →
      ∃ r, st'.getTxnAccount q p.comm = .ok r := by
  obtain ⟨rs, acc, _, hacc, rfl⟩ := hl
  intro p hp q hq hpre _
  obtain ⟨t, ht, x, hx, rfl⟩ := (mem_postsOf _ p).mp hp
  have ht' : t ∈ acc := (mem_sortTxns acc t).mp (hsel t ht)
  exact ⟨_, C12.report_parents_ok st st' rs acc hcl hacc t ht' x hx q ⟨hq, hpre⟩⟩

/-- `loaded_parents_known` for a journal text -/
theorem text_parents_known (cfg : Time.TsCfg) (st st' : Settings) (text : List Char) (ts : List Txn) (hcl : if st.strict then C12.AncClosed2 st.accounts st.synthetic else C12.AncClosed st.accounts)
    (h : loadText cfg st text = .ok (ts, st'))
    (txns : List Txn) (hsel : ∀ t ∈ txns, t ∈ ts) :
    ∀ p ∈ postsOf txns, ∀ q : Path, q ≠ [] → q <+: p.acct → q ≠ p.acct →
      ∃ r, st'.getTxnAccount q p.comm = .ok r :=
  loaded_parents_known st st' ts hcl (loaded_of_text cfg st st' text ts h) txns hsel

/-- after a successful load from settings whose chart of accounts is
    ancestor-closed (lax mode) or closed together with the synthetic parents (strict mode), the balance kernel run
    with the settings the load leaves behind does not fail (`get_txn_account` finds every gap parent), for any
    selection of the loaded transactions.  (It may still be outside the exact numeric domain: `.undef`.) -/
theorem loaded_balance_never_errs_closed (st st' : Settings) (ts : List Txn) (hcl : if st.strict then C12.AncClosed2 st.accounts st.synthetic else C12.AncClosed st.accounts) (hl : Loaded st ts st')
    (txns : List Txn) (hsel : ∀ t ∈ txns, t ∈ ts) :
    balance st' (postsOf txns) ≠ .err :=
  C02.balance_ok_of_closed st' _ (loaded_postsWF_sel st st' ts hl txns hsel)
    (loaded_parents_known st st' ts hcl hl txns hsel)

/-- `loaded_balance_never_errs_closed` for a journal text -/
theorem text_balance_never_errs_closed (cfg : Time.TsCfg) (st st' : Settings) (text : List Char) (ts : List Txn) (hcl : if st.strict then C12.AncClosed2 st.accounts st.synthetic else C12.AncClosed st.accounts)
    (h : loadText cfg st text = .ok (ts, st'))
    (txns : List Txn) (hsel : ∀ t ∈ txns, t ∈ ts) :
    balance st' (postsOf txns) ≠ .err :=
  loaded_balance_never_errs_closed st st' ts hcl (loaded_of_text cfg st st' text ts h) txns hsel

/-- `loaded_balance_never_errs_closed` for a list of file texts -/
theorem files_balance_never_errs_closed (cfg : Time.TsCfg) (st st' : Settings) (files : List (List Char)) (ts : List Txn) (hcl : if st.strict then C12.AncClosed2 st.accounts st.synthetic else C12.AncClosed st.accounts)
    (h : loadFiles cfg st files = .ok (ts, st'))
    (txns : List Txn) (hsel : ∀ t ∈ txns, t ∈ ts) :
    balance st' (postsOf txns) ≠ .err :=
  loaded_balance_never_errs_closed st st' ts hcl (loaded_of_files cfg st st' files ts h) txns hsel

/-- **C02 end to end.**  Settings built from a configuration (`Settings.ofConfig`, any
    switches, any charts), any text that loads, any selection of its transactions: `Balance::balance` run with
    the settings after the load does not fail. -/
theorem loaded_balance_never_errs (strict audit pe : Bool) (accts : List Path) (comms tags : List String) (st' : Settings) (ts : List Txn)
    (hl : Loaded (Settings.ofConfig strict audit pe accts comms tags) ts st')
    (txns : List Txn) (hsel : ∀ t ∈ txns, t ∈ ts) :
    balance st' (postsOf txns) ≠ .err :=
  loaded_balance_never_errs_closed _ st' ts (C12.ofConfig_closed strict audit pe accts comms tags) hl txns hsel

/-- `loaded_balance_never_errs` for a journal text -/
theorem text_balance_never_errs (cfg : Time.TsCfg) (strict audit pe : Bool) (accts : List Path) (comms tags : List String)
    (st' : Settings) (text : List Char) (ts : List Txn)
    (h : loadText cfg (Settings.ofConfig strict audit pe accts comms tags) text = .ok (ts, st'))
    (txns : List Txn) (hsel : ∀ t ∈ txns, t ∈ ts) :
    balance st' (postsOf txns) ≠ .err :=
  loaded_balance_never_errs strict audit pe accts comms tags st' ts (loaded_of_text cfg _ st' text ts h) txns hsel

/-- `loaded_balance_never_errs` for a list of file texts -/
theorem files_balance_never_errs (cfg : Time.TsCfg) (strict audit pe : Bool) (accts : List Path) (comms tags : List String)
    (st' : Settings) (files : List (List Char)) (ts : List Txn)
    (h : loadFiles cfg (Settings.ofConfig strict audit pe accts comms tags) files = .ok (ts, st'))
    (txns : List Txn) (hsel : ∀ t ∈ txns, t ∈ ts) :
    balance st' (postsOf txns) ≠ .err :=
  loaded_balance_never_errs strict audit pe accts comms tags st' ts (loaded_of_files cfg _ st' files ts h) txns hsel

/-! ## 3. C03 — register of loaded text: canonical order, exact running totals -/

/-- what is loaded from text is in canonical order, and so is what a filter keeps of it -/
theorem loaded_sorted (st st' : Settings) (ts : List Txn) (hl : Loaded st ts st')
    (tf : Txn → Bool) :
    ts.Pairwise (fun a b => txnLe a b = true) ∧ (ts.filter tf).Pairwise (fun a b => txnLe a b = true) := by
  obtain ⟨_, acc, _, _, rfl⟩ := hl
  exact ⟨sortTxns_sorted acc, (sortTxns_sorted acc).sublist List.filter_sublist⟩

/-- `loaded_sorted` for a journal text -/
theorem text_sorted (cfg : Time.TsCfg) (st st' : Settings) (text : List Char) (ts : List Txn)
    (h : loadText cfg st text = .ok (ts, st'))
    (tf : Txn → Bool) :
    ts.Pairwise (fun a b => txnLe a b = true) ∧ (ts.filter tf).Pairwise (fun a b => txnLe a b = true) :=
  loaded_sorted st st' ts (loaded_of_text cfg st st' text ts h) tf

/-- `loaded_sorted` for a list of file texts -/
theorem files_sorted (cfg : Time.TsCfg) (st st' : Settings) (files : List (List Char)) (ts : List Txn)
    (h : loadFiles cfg st files = .ok (ts, st'))
    (tf : Txn → Bool) :
    ts.Pairwise (fun a b => txnLe a b = true) ∧ (ts.filter tf).Pairwise (fun a b => txnLe a b = true) :=
  loaded_sorted st st' ts (loaded_of_files cfg st st' files ts h) tf

theorem loaded_txnsWF_sel (st st' : Settings) (ts : List Txn) (hl : Loaded st ts st')
    (txns : List Txn) (hsel : ∀ t ∈ txns, t ∈ ts) :
    C03.TxnsWF txns :=
  fun t ht => loaded_txnsWF st st' ts hl t (hsel t ht)

/-- `loaded_txnsWF_sel` for a journal text -/
theorem text_txnsWF_sel (cfg : Time.TsCfg) (st st' : Settings) (text : List Char) (ts : List Txn)
    (h : loadText cfg st text = .ok (ts, st'))
    (txns : List Txn) (hsel : ∀ t ∈ txns, t ∈ ts) :
    C03.TxnsWF txns :=
  loaded_txnsWF_sel st st' ts (loaded_of_text cfg st st' text ts h) txns hsel

/-- **C03 end to end.**  The register report without account selector over any selection
    of the transactions loaded from text, whenever the engine answers: one entry per transaction, in the order
    given; entry `i` lists the postings of transaction `i` in `sortedPosts` order and row `j` shows the exact sum
    of all postings to the same (commodity, account) in the transactions before `i` plus those of transaction `i`
    at in-entry positions `≤ j`; every posted (commodity, account) has a last row, and the last running total
    shown for it is the exact sum of all its postings — the balance report's account sum.  No `TxnsWF` hypothesis. -/
theorem loaded_register_exact (st st' : Settings) (ts : List Txn) (hl : Loaded st ts st')
    (txns : List Txn) (hsel : ∀ t ∈ txns, t ∈ ts)
    (es : List RegEntry) (hr : register selAll txns = .ok es) :
    es.map (·.txn) = txns ∧
    (∀ i e, es[i]? = some e → ∃ t, txns[i]? = some t ∧ e.txn = t ∧ e.rows.length = t.posts.length ∧
      ∀ j r, e.rows[j]? = some r → ∃ p, (C03.sortedPosts t)[j]? = some p ∧ r.post = p ∧ r.comm = p.comm ∧
        r.total.units = C03.postSum p.acctnKey ((txns.take i).flatMap (·.posts))
                          + C03.postSum p.acctnKey ((C03.sortedPosts t).take (j + 1))) ∧
    (∀ k, (∃ p ∈ postsOf txns, p.key = k) → ∃ r, C03.lastRow k (es.flatMap (·.rows)) = some r) ∧
    (∀ k r, C03.lastRow k (es.flatMap (·.rows)) = some r → r.total.units = C03.ownSpec txns k) := by
  have hwf := loaded_txnsWF_sel st st' ts hl txns hsel
  exact ⟨(C03.register_order selAll txns es hr).1, (C03.running_total txns es hwf hr).2,
    fun k hk => C03.last_total_exists txns es hr k hk,
    fun k r hl => C03.last_total_balance txns es hwf hr k r hl⟩

/-- `loaded_register_exact` for a journal text -/
theorem text_register_exact (cfg : Time.TsCfg) (st st' : Settings) (text : List Char) (ts : List Txn)
    (h : loadText cfg st text = .ok (ts, st'))
    (txns : List Txn) (hsel : ∀ t ∈ txns, t ∈ ts)
    (es : List RegEntry) (hr : register selAll txns = .ok es) :
    es.map (·.txn) = txns ∧
    (∀ i e, es[i]? = some e → ∃ t, txns[i]? = some t ∧ e.txn = t ∧ e.rows.length = t.posts.length ∧
      ∀ j r, e.rows[j]? = some r → ∃ p, (C03.sortedPosts t)[j]? = some p ∧ r.post = p ∧ r.comm = p.comm ∧
        r.total.units = C03.postSum p.acctnKey ((txns.take i).flatMap (·.posts))
                          + C03.postSum p.acctnKey ((C03.sortedPosts t).take (j + 1))) ∧
    (∀ k, (∃ p ∈ postsOf txns, p.key = k) → ∃ r, C03.lastRow k (es.flatMap (·.rows)) = some r) ∧
    (∀ k r, C03.lastRow k (es.flatMap (·.rows)) = some r → r.total.units = C03.ownSpec txns k) :=
  loaded_register_exact st st' ts (loaded_of_text cfg st st' text ts h) txns hsel es hr

/-- `loaded_register_exact` for a list of file texts -/
theorem files_register_exact (cfg : Time.TsCfg) (st st' : Settings) (files : List (List Char)) (ts : List Txn)
    (h : loadFiles cfg st files = .ok (ts, st'))
    (txns : List Txn) (hsel : ∀ t ∈ txns, t ∈ ts)
    (es : List RegEntry) (hr : register selAll txns = .ok es) :
    es.map (·.txn) = txns ∧
    (∀ i e, es[i]? = some e → ∃ t, txns[i]? = some t ∧ e.txn = t ∧ e.rows.length = t.posts.length ∧
      ∀ j r, e.rows[j]? = some r → ∃ p, (C03.sortedPosts t)[j]? = some p ∧ r.post = p ∧ r.comm = p.comm ∧
        r.total.units = C03.postSum p.acctnKey ((txns.take i).flatMap (·.posts))
                          + C03.postSum p.acctnKey ((C03.sortedPosts t).take (j + 1))) ∧
    (∀ k, (∃ p ∈ postsOf txns, p.key = k) → ∃ r, C03.lastRow k (es.flatMap (·.rows)) = some r) ∧
    (∀ k r, C03.lastRow k (es.flatMap (·.rows)) = some r → r.total.units = C03.ownSpec txns k) :=
  loaded_register_exact st st' ts (loaded_of_files cfg st st' files ts h) txns hsel es hr

/-- with any account selector the entries are those of the unselected report with the
    rejected rows hidden (`selector_only_hides`), and every shown row carries the exact prefix sum of
    `loaded_register_exact` — hidden postings are accumulated all the same. -/
theorem loaded_register_selected (st st' : Settings) (ts : List Txn) (hl : Loaded st ts st')
    (txns : List Txn) (hsel : ∀ t ∈ txns, t ∈ ts)
    (sel : RegRow → Bool) (es : List RegEntry) (hr : register sel txns = .ok es) :
    (∃ es0, register selAll txns = .ok es0 ∧ es = es0.map (C03.hide sel)) ∧
    es.length = txns.length ∧
    ∀ i e, es[i]? = some e → ∃ t, txns[i]? = some t ∧ e.txn = t ∧
      ∀ r ∈ e.rows, sel r = true ∧ ∃ j p, (C03.sortedPosts t)[j]? = some p ∧ r.post = p ∧ r.comm = p.comm ∧
        r.total.units = C03.postSum p.acctnKey ((txns.take i).flatMap (·.posts))
                          + C03.postSum p.acctnKey ((C03.sortedPosts t).take (j + 1)) := by
  have hwf := loaded_txnsWF_sel st st' ts hl txns hsel
  refine ⟨?_, C03.running_total_selected sel txns es hwf hr⟩
  have := hr
  rw [C03.selector_only_hides, Outcome.map_ok] at this
  obtain ⟨es0, h0, e⟩ := this
  exact ⟨es0, h0, e.symm⟩

/-- `loaded_register_selected` for a journal text -/
theorem text_register_selected (cfg : Time.TsCfg) (st st' : Settings) (text : List Char) (ts : List Txn)
    (h : loadText cfg st text = .ok (ts, st'))
    (txns : List Txn) (hsel : ∀ t ∈ txns, t ∈ ts)
    (sel : RegRow → Bool) (es : List RegEntry) (hr : register sel txns = .ok es) :
    (∃ es0, register selAll txns = .ok es0 ∧ es = es0.map (C03.hide sel)) ∧
    es.length = txns.length ∧
    ∀ i e, es[i]? = some e → ∃ t, txns[i]? = some t ∧ e.txn = t ∧
      ∀ r ∈ e.rows, sel r = true ∧ ∃ j p, (C03.sortedPosts t)[j]? = some p ∧ r.post = p ∧ r.comm = p.comm ∧
        r.total.units = C03.postSum p.acctnKey ((txns.take i).flatMap (·.posts))
                          + C03.postSum p.acctnKey ((C03.sortedPosts t).take (j + 1)) :=
  loaded_register_selected st st' ts (loaded_of_text cfg st st' text ts h) txns hsel sel es hr

/-- `loaded_register_selected` for a list of file texts -/
theorem files_register_selected (cfg : Time.TsCfg) (st st' : Settings) (files : List (List Char)) (ts : List Txn)
    (h : loadFiles cfg st files = .ok (ts, st'))
    (txns : List Txn) (hsel : ∀ t ∈ txns, t ∈ ts)
    (sel : RegRow → Bool) (es : List RegEntry) (hr : register sel txns = .ok es) :
    (∃ es0, register selAll txns = .ok es0 ∧ es = es0.map (C03.hide sel)) ∧
    es.length = txns.length ∧
    ∀ i e, es[i]? = some e → ∃ t, txns[i]? = some t ∧ e.txn = t ∧
      ∀ r ∈ e.rows, sel r = true ∧ ∃ j p, (C03.sortedPosts t)[j]? = some p ∧ r.post = p ∧ r.comm = p.comm ∧
        r.total.units = C03.postSum p.acctnKey ((txns.take i).flatMap (·.posts))
                          + C03.postSum p.acctnKey ((C03.sortedPosts t).take (j + 1)) :=
  loaded_register_selected st st' ts (loaded_of_files cfg st st' files ts h) txns hsel sel es hr

/-! ## 4. C10 — equity export of loaded text -/

/-- **C10 end to end.**  The equity export over any selection `txns` of the transactions loaded from
    text, whenever the exporter answers:
    * (shape) one transaction per commodity with a selected non-zero row, in strictly increasing commodity order,
      dated at the last selected transaction, whose postings are exactly the selected rows with their own sums,
      then the balancing posting iff the sum is not zero (`C10.IsEquityTxn`);
    * (accepts) every generated transaction is accepted under lax settings and is `C01.Balanced`;
    * (carries) if the equity account is not itself selected, then after re-loading the export every selected
      non-zero (commodity, account) has the same own sum as in the source, and that is the figure its balance row
      shows.
    `TxnsWF`, and the two facts of the balance kernel that `C10.equity_carries` takes as hypotheses, are discharged
    (`loaded_txnsWF`, `C02.own_sum`, `C02.rows_nodup` with `loaded_postsWF`). -/
theorem loaded_equity (st st' : Settings) (ts : List Txn) (hl : Loaded st ts st')
    (txns : List Txn) (hsel : ∀ t ∈ txns, t ∈ ts)
    (sb : Settings) (acc : Option (Path → Bool)) (eqa : Path) (md : List String) (out : List EqTxn)
    (he : equityExport sb acc eqa md txns = .ok out) :
    (∃ all cs, balance sb (postsOf txns) = .ok all ∧
      cs.Pairwise (· < ·) ∧ (∀ c, c ∈ cs ↔ ∃ r ∈ C10.selRows acc all, r.comm = c) ∧
      C10.Forall2 (fun c t => ∃ last, txns.getLast? = some last ∧
                 C10.IsEquityTxn eqa last.header md (C10.selRows acc all) c t) cs out) ∧
    (∀ s1, C10.Lax s1 → ∀ t ∈ out, ∃ s2, acceptTxn s1 t.toRaw = .ok (C10.toTxn t, s2) ∧ C10.Lax s2 ∧
      C01.Balanced (C10.toTxn t)) ∧
    (∀ all, balance sb (postsOf txns) = .ok all → (∀ r ∈ C10.selRows acc all, r.acct ≠ eqa) →
      ∀ s1 s2 ts', C10.Lax s1 → loadJournal s1 (out.map EqTxn.toRaw) = .ok (ts', s2) →
        ∀ r ∈ C10.selRows acc all,
          C10.ownSpec (postsOf ts') r.key = C10.ownSpec (postsOf txns) r.key ∧
          r.own.units = C10.ownSpec (postsOf txns) r.key) := by
  have hwf : C10.TxnsWF txns := loaded_txnsWF_sel st st' ts hl txns hsel
  have hpw := loaded_postsWF_sel st st' ts hl txns hsel
  refine ⟨C10.equity_shape sb acc eqa md txns out hwf he,
    fun s1 hl => C10.equity_accepts sb acc eqa md txns out hwf he s1 hl, ?_⟩
  intro all hall heqa s1 s2 ts' hl hre r hr
  have hown : ∀ r ∈ all, r.own.units = C10.ownSpec (postsOf txns) r.key :=
    fun r hr => C02.own_sum sb _ hpw all hall r hr
  exact ⟨C10.equity_carries sb acc eqa md txns out he all hall hown (C02.rows_nodup sb _ hpw all hall) heqa
    s1 s2 hl ts' hre r hr, hown r (List.mem_filter.mp hr).1⟩

/-- `loaded_equity` for a journal text -/
theorem text_equity (cfg : Time.TsCfg) (st st' : Settings) (text : List Char) (ts : List Txn)
    (h : loadText cfg st text = .ok (ts, st'))
    (txns : List Txn) (hsel : ∀ t ∈ txns, t ∈ ts)
    (sb : Settings) (acc : Option (Path → Bool)) (eqa : Path) (md : List String) (out : List EqTxn)
    (he : equityExport sb acc eqa md txns = .ok out) :
    (∃ all cs, balance sb (postsOf txns) = .ok all ∧
      cs.Pairwise (· < ·) ∧ (∀ c, c ∈ cs ↔ ∃ r ∈ C10.selRows acc all, r.comm = c) ∧
      C10.Forall2 (fun c t => ∃ last, txns.getLast? = some last ∧
                 C10.IsEquityTxn eqa last.header md (C10.selRows acc all) c t) cs out) ∧
    (∀ s1, C10.Lax s1 → ∀ t ∈ out, ∃ s2, acceptTxn s1 t.toRaw = .ok (C10.toTxn t, s2) ∧ C10.Lax s2 ∧
      C01.Balanced (C10.toTxn t)) ∧
    (∀ all, balance sb (postsOf txns) = .ok all → (∀ r ∈ C10.selRows acc all, r.acct ≠ eqa) →
      ∀ s1 s2 ts', C10.Lax s1 → loadJournal s1 (out.map EqTxn.toRaw) = .ok (ts', s2) →
        ∀ r ∈ C10.selRows acc all,
          C10.ownSpec (postsOf ts') r.key = C10.ownSpec (postsOf txns) r.key ∧
          r.own.units = C10.ownSpec (postsOf txns) r.key) :=
  loaded_equity st st' ts (loaded_of_text cfg st st' text ts h) txns hsel sb acc eqa md out he

/-- `loaded_equity` for a list of file texts -/
theorem files_equity (cfg : Time.TsCfg) (st st' : Settings) (files : List (List Char)) (ts : List Txn)
    (h : loadFiles cfg st files = .ok (ts, st'))
    (txns : List Txn) (hsel : ∀ t ∈ txns, t ∈ ts)
    (sb : Settings) (acc : Option (Path → Bool)) (eqa : Path) (md : List String) (out : List EqTxn)
    (he : equityExport sb acc eqa md txns = .ok out) :
    (∃ all cs, balance sb (postsOf txns) = .ok all ∧
      cs.Pairwise (· < ·) ∧ (∀ c, c ∈ cs ↔ ∃ r ∈ C10.selRows acc all, r.comm = c) ∧
      C10.Forall2 (fun c t => ∃ last, txns.getLast? = some last ∧
                 C10.IsEquityTxn eqa last.header md (C10.selRows acc all) c t) cs out) ∧
    (∀ s1, C10.Lax s1 → ∀ t ∈ out, ∃ s2, acceptTxn s1 t.toRaw = .ok (C10.toTxn t, s2) ∧ C10.Lax s2 ∧
      C01.Balanced (C10.toTxn t)) ∧
    (∀ all, balance sb (postsOf txns) = .ok all → (∀ r ∈ C10.selRows acc all, r.acct ≠ eqa) →
      ∀ s1 s2 ts', C10.Lax s1 → loadJournal s1 (out.map EqTxn.toRaw) = .ok (ts', s2) →
        ∀ r ∈ C10.selRows acc all,
          C10.ownSpec (postsOf ts') r.key = C10.ownSpec (postsOf txns) r.key ∧
          r.own.units = C10.ownSpec (postsOf txns) r.key) :=
  loaded_equity st st' ts (loaded_of_files cfg st st' files ts h) txns hsel sb acc eqa md out he

/-! ## 5. C13 — balance groups of loaded text -/

/-- **C13 end to end.**  The balance-group report (any key function: every group-by setting, every
    report zone) over any selection `txns` of the transactions loaded from text, whenever it answers:
    the group candidates partition `txns` (`group_partition`); the printed titles are strictly ascending; a printed
    group is the candidate of its title, its figures are `Balance::from_iter` of its members' postings, and in it
    every row's own / tree sum is the exact sum of the *members'* postings to / at or below its pair, the rows are
    the selected ones among the pairs the members post to and their ancestors, each once, with one exact delta per
    listed commodity.  No `PostsWF` hypothesis. -/
theorem loaded_groups (st st' : Settings) (ts : List Txn) (hl : Loaded st ts st')
    (txns : List Txn) (hsel : ∀ t ∈ txns, t ∈ ts)
    (sb : Settings) (sel : BalRow → Bool) (key : Txn → String) (gs : List BalGroup)
    (hg : balanceGroupsBy sb sel key txns = .ok gs) :
    ((((groupCandidates key txns).map (·.2)).flatten).Perm txns ∧
      (∀ t ∈ txns, ∃ kg ∈ groupCandidates key txns, t ∈ kg.2 ∧ kg.1 = key t ∧
        ∀ kg' ∈ groupCandidates key txns, t ∈ kg'.2 → kg' = kg)) ∧
    (gs.map (·.title)).Pairwise (· < ·) ∧
    ∀ g ∈ gs, ∃ members bal, members = txns.filter (fun t => decide (key t = g.title)) ∧
      (g.title, members) ∈ groupCandidates key txns ∧
      fromIter sb sel (postsOf members) = .ok g.bal ∧ g.bal.rows ≠ [] ∧
      balance sb (postsOf members) = .ok bal ∧ g.bal.rows = bal.filter sel ∧
      (∀ k, k ∈ bal.map (·.key) ↔ C02.Posted (postsOf members) k ∨ C02.ProperAncestor (postsOf members) k) ∧
      (bal.map (·.key)).Nodup ∧
      (∀ row ∈ g.bal.rows, row.own.units = C02.ownSum (postsOf members) row.key ∧
                           row.tree.units = C02.treeSum (postsOf members) row.key) ∧
      (g.bal.deltas.map (·.1)).Pairwise (· < ·) ∧
      (∀ c, c ∈ g.bal.deltas.map (·.1) ↔ ∃ r ∈ g.bal.rows, r.comm = c) ∧
      (∀ cd ∈ g.bal.deltas,
        cd.2.units = ((g.bal.rows.filter (fun r => decide (r.comm = cd.1))).map (·.own.units)).sum) := by
  have hwf := loaded_postsWF_sel st st' ts hl txns hsel
  obtain ⟨hperm, _, hone, _⟩ := C13.group_partition key txns
  refine ⟨⟨hperm, hone⟩, C13.group_keys sb sel key txns gs hg, ?_⟩
  intro g hgm
  obtain ⟨members, hcand, hm, hfi, hne⟩ := C13.group_figures sb sel key txns gs hg g hgm
  obtain ⟨bal, hbal, hrows, hkeys, hnd, hd1, hd2, hd3⟩ := C13.group_rows_deltas sb sel key txns hwf gs hg g hgm
  subst hm
  exact ⟨_, bal, rfl, hcand, hfi, hne, hbal, hrows, hkeys, hnd,
    C13.group_own_tree_sums sb sel key txns hwf gs hg g hgm, hd1, hd2, hd3⟩

/-- `loaded_groups` for a journal text -/
theorem text_groups (cfg : Time.TsCfg) (st st' : Settings) (text : List Char) (ts : List Txn)
    (h : loadText cfg st text = .ok (ts, st'))
    (txns : List Txn) (hsel : ∀ t ∈ txns, t ∈ ts)
    (sb : Settings) (sel : BalRow → Bool) (key : Txn → String) (gs : List BalGroup)
    (hg : balanceGroupsBy sb sel key txns = .ok gs) :
    ((((groupCandidates key txns).map (·.2)).flatten).Perm txns ∧
      (∀ t ∈ txns, ∃ kg ∈ groupCandidates key txns, t ∈ kg.2 ∧ kg.1 = key t ∧
        ∀ kg' ∈ groupCandidates key txns, t ∈ kg'.2 → kg' = kg)) ∧
    (gs.map (·.title)).Pairwise (· < ·) ∧
    ∀ g ∈ gs, ∃ members bal, members = txns.filter (fun t => decide (key t = g.title)) ∧
      (g.title, members) ∈ groupCandidates key txns ∧
      fromIter sb sel (postsOf members) = .ok g.bal ∧ g.bal.rows ≠ [] ∧
      balance sb (postsOf members) = .ok bal ∧ g.bal.rows = bal.filter sel ∧
      (∀ k, k ∈ bal.map (·.key) ↔ C02.Posted (postsOf members) k ∨ C02.ProperAncestor (postsOf members) k) ∧
      (bal.map (·.key)).Nodup ∧
      (∀ row ∈ g.bal.rows, row.own.units = C02.ownSum (postsOf members) row.key ∧
                           row.tree.units = C02.treeSum (postsOf members) row.key) ∧
      (g.bal.deltas.map (·.1)).Pairwise (· < ·) ∧
      (∀ c, c ∈ g.bal.deltas.map (·.1) ↔ ∃ r ∈ g.bal.rows, r.comm = c) ∧
      (∀ cd ∈ g.bal.deltas,
        cd.2.units = ((g.bal.rows.filter (fun r => decide (r.comm = cd.1))).map (·.own.units)).sum) :=
  loaded_groups st st' ts (loaded_of_text cfg st st' text ts h) txns hsel sb sel key gs hg

/-- `loaded_groups` for a list of file texts -/
theorem files_groups (cfg : Time.TsCfg) (st st' : Settings) (files : List (List Char)) (ts : List Txn)
    (h : loadFiles cfg st files = .ok (ts, st'))
    (txns : List Txn) (hsel : ∀ t ∈ txns, t ∈ ts)
    (sb : Settings) (sel : BalRow → Bool) (key : Txn → String) (gs : List BalGroup)
    (hg : balanceGroupsBy sb sel key txns = .ok gs) :
    ((((groupCandidates key txns).map (·.2)).flatten).Perm txns ∧
      (∀ t ∈ txns, ∃ kg ∈ groupCandidates key txns, t ∈ kg.2 ∧ kg.1 = key t ∧
        ∀ kg' ∈ groupCandidates key txns, t ∈ kg'.2 → kg' = kg)) ∧
    (gs.map (·.title)).Pairwise (· < ·) ∧
    ∀ g ∈ gs, ∃ members bal, members = txns.filter (fun t => decide (key t = g.title)) ∧
      (g.title, members) ∈ groupCandidates key txns ∧
      fromIter sb sel (postsOf members) = .ok g.bal ∧ g.bal.rows ≠ [] ∧
      balance sb (postsOf members) = .ok bal ∧ g.bal.rows = bal.filter sel ∧
      (∀ k, k ∈ bal.map (·.key) ↔ C02.Posted (postsOf members) k ∨ C02.ProperAncestor (postsOf members) k) ∧
      (bal.map (·.key)).Nodup ∧
      (∀ row ∈ g.bal.rows, row.own.units = C02.ownSum (postsOf members) row.key ∧
                           row.tree.units = C02.treeSum (postsOf members) row.key) ∧
      (g.bal.deltas.map (·.1)).Pairwise (· < ·) ∧
      (∀ c, c ∈ g.bal.deltas.map (·.1) ↔ ∃ r ∈ g.bal.rows, r.comm = c) ∧
      (∀ cd ∈ g.bal.deltas,
        cd.2.units = ((g.bal.rows.filter (fun r => decide (r.comm = cd.1))).map (·.own.units)).sum) :=
  loaded_groups st st' ts (loaded_of_files cfg st st' files ts h) txns hsel sb sel key gs hg

/-- every posting counts in exactly one group — for every (commodity, account) pair the
    members' sums over the group candidates add up to the sum over `txns`, and, for a pair the selector lists, the
    own sums shown by the printed groups add up to the own sum shown by the overall balance report. -/
theorem loaded_groups_total (st st' : Settings) (ts : List Txn) (hl : Loaded st ts st')
    (txns : List Txn) (hsel : ∀ t ∈ txns, t ∈ ts)
    (sb : Settings) (sel : BalRow → Bool) (key : Txn → String) (k : AKey) :
    ((groupCandidates key txns).map (fun kg => C02.ownSum (postsOf kg.2) k)).sum = C02.ownSum (postsOf txns) k ∧
    ∀ gs b, balanceGroupsBy sb sel key txns = .ok gs → fromIter sb sel (postsOf txns) = .ok b →
      (∀ r : BalRow, r.key = k → sel r = true) →
      (gs.map (fun g => C13.rowOwn g.bal.rows k)).sum = C13.rowOwn b.rows k :=
  ⟨C13.group_total key txns k, fun gs b hg hb hs =>
    C13.group_total_rows sb sel key txns (loaded_postsWF_sel st st' ts hl txns hsel) gs hg b hb k hs⟩

/-- `loaded_groups_total` for a journal text -/
theorem text_groups_total (cfg : Time.TsCfg) (st st' : Settings) (text : List Char) (ts : List Txn)
    (h : loadText cfg st text = .ok (ts, st'))
    (txns : List Txn) (hsel : ∀ t ∈ txns, t ∈ ts)
    (sb : Settings) (sel : BalRow → Bool) (key : Txn → String) (k : AKey) :
    ((groupCandidates key txns).map (fun kg => C02.ownSum (postsOf kg.2) k)).sum = C02.ownSum (postsOf txns) k ∧
    ∀ gs b, balanceGroupsBy sb sel key txns = .ok gs → fromIter sb sel (postsOf txns) = .ok b →
      (∀ r : BalRow, r.key = k → sel r = true) →
      (gs.map (fun g => C13.rowOwn g.bal.rows k)).sum = C13.rowOwn b.rows k :=
  loaded_groups_total st st' ts (loaded_of_text cfg st st' text ts h) txns hsel sb sel key k

/-- `loaded_groups_total` for a list of file texts -/
theorem files_groups_total (cfg : Time.TsCfg) (st st' : Settings) (files : List (List Char)) (ts : List Txn)
    (h : loadFiles cfg st files = .ok (ts, st'))
    (txns : List Txn) (hsel : ∀ t ∈ txns, t ∈ ts)
    (sb : Settings) (sel : BalRow → Bool) (key : Txn → String) (k : AKey) :
    ((groupCandidates key txns).map (fun kg => C02.ownSum (postsOf kg.2) k)).sum = C02.ownSum (postsOf txns) k ∧
    ∀ gs b, balanceGroupsBy sb sel key txns = .ok gs → fromIter sb sel (postsOf txns) = .ok b →
      (∀ r : BalRow, r.key = k → sel r = true) →
      (gs.map (fun g => C13.rowOwn g.bal.rows k)).sum = C13.rowOwn b.rows k :=
  loaded_groups_total st st' ts (loaded_of_files cfg st st' files ts h) txns hsel sb sel key k

/-- `Balance::from_iter(…).expect(…)` inside `balance_groups` is the one panic site of
    the report; after a load from settings built from a configuration it is not reached (the model never answers
    `.err`), for any key function and any selection of the loaded transactions. -/
theorem loaded_groups_never_err (strict audit pe : Bool) (accts : List Path) (comms tags : List String) (st' : Settings) (ts : List Txn)
    (hl : Loaded (Settings.ofConfig strict audit pe accts comms tags) ts st')
    (txns : List Txn) (hsel : ∀ t ∈ txns, t ∈ ts) (sel : BalRow → Bool) (key : Txn → String) :
    balanceGroupsBy st' sel key txns ≠ .err :=
  C13.no_panic st' sel key txns (loaded_postsWF_sel _ st' ts hl txns hsel)
    (loaded_parents_known _ st' ts (C12.ofConfig_closed strict audit pe accts comms tags) hl txns hsel)

/-- `loaded_groups_never_err` for a journal text -/
theorem text_groups_never_err (cfg : Time.TsCfg) (strict audit pe : Bool) (accts : List Path) (comms tags : List String)
    (st' : Settings) (text : List Char) (ts : List Txn)
    (h : loadText cfg (Settings.ofConfig strict audit pe accts comms tags) text = .ok (ts, st'))
    (txns : List Txn) (hsel : ∀ t ∈ txns, t ∈ ts) (sel : BalRow → Bool) (key : Txn → String) :
    balanceGroupsBy st' sel key txns ≠ .err :=
  loaded_groups_never_err strict audit pe accts comms tags st' ts (loaded_of_text cfg _ st' text ts h) txns hsel sel key

/-- `loaded_groups_never_err` for a list of file texts -/
theorem files_groups_never_err (cfg : Time.TsCfg) (strict audit pe : Bool) (accts : List Path) (comms tags : List String)
    (st' : Settings) (files : List (List Char)) (ts : List Txn)
    (h : loadFiles cfg (Settings.ofConfig strict audit pe accts comms tags) files = .ok (ts, st'))
    (txns : List Txn) (hsel : ∀ t ∈ txns, t ∈ ts) (sel : BalRow → Bool) (key : Txn → String) :
    balanceGroupsBy st' sel key txns ≠ .err :=
  loaded_groups_never_err strict audit pe accts comms tags st' ts (loaded_of_files cfg _ st' files ts h) txns hsel sel key

/-! ## 6. C09 — uuids loaded from text are canonical; the hashed message determines the set -/

/-- every uuid of a transaction loaded from text is the canonical text the grammar produces —
    36 characters, `8-4-4-4-12` lower-case hex digits (`UuidWF`) — so it contains no newline and `Uuid::to_string`
    is the identity on it. -/
theorem loaded_uuid_no_newline (st st' : Settings) (ts : List Txn) (hl : Loaded st ts st') :
    ∀ t ∈ ts, ∀ u, t.header.uuid = some u →
      UuidWF u.toList ∧ u.toList.length = 36 ∧ '\n' ∉ u.toList ∧ uuidToString u = u := by
  intro t ht u hu
  obtain ⟨r, s1, s2, hlex, hf⟩ := hl.origin ht
  have hh : t.header = r.header := (C06.acceptTxn_posts s1 s2 r t hf).1
  have hw := hlex.uuid u (by rw [← hh]; exact hu)
  exact ⟨hw, uuidWF_length _ hw, uuidWF_no_newline _ hw, uuidToString_canonical u hw⟩

/-- `loaded_uuid_no_newline` for a journal text -/
theorem text_uuid_no_newline (cfg : Time.TsCfg) (st st' : Settings) (text : List Char) (ts : List Txn)
    (h : loadText cfg st text = .ok (ts, st')) :
    ∀ t ∈ ts, ∀ u, t.header.uuid = some u →
      UuidWF u.toList ∧ u.toList.length = 36 ∧ '\n' ∉ u.toList ∧ uuidToString u = u :=
  loaded_uuid_no_newline st st' ts (loaded_of_text cfg st st' text ts h)

/-- `loaded_uuid_no_newline` for a list of file texts -/
theorem files_uuid_no_newline (cfg : Time.TsCfg) (st st' : Settings) (files : List (List Char)) (ts : List Txn)
    (h : loadFiles cfg st files = .ok (ts, st')) :
    ∀ t ∈ ts, ∀ u, t.header.uuid = some u →
      UuidWF u.toList ∧ u.toList.length = 36 ∧ '\n' ∉ u.toList ∧ uuidToString u = u :=
  loaded_uuid_no_newline st st' ts (loaded_of_files cfg st st' files ts h)

/-- the hashed uuid texts of any selection of what was loaded from text contain no newline -/
theorem loaded_uuidsOf_no_newline (st st' : Settings) (ts : List Txn) (hl : Loaded st ts st')
    (txns : List Txn) (hsel : ∀ t ∈ txns, t ∈ ts) :
    ∀ u ∈ C09.uuidsOf txns, '\n' ∉ u.toList := by
  intro u hu
  simp only [C09.uuidsOf, List.mem_filterMap, Option.map_eq_some_iff] at hu
  obtain ⟨t, ht, u0, hu0, rfl⟩ := hu
  obtain ⟨_, _, hnl, hcan⟩ := loaded_uuid_no_newline st st' ts hl t (hsel t ht) u0 hu0
  rw [hcan]; exact hnl

/-- `loaded_uuidsOf_no_newline` for a journal text -/
theorem text_uuidsOf_no_newline (cfg : Time.TsCfg) (st st' : Settings) (text : List Char) (ts : List Txn)
    (h : loadText cfg st text = .ok (ts, st'))
    (txns : List Txn) (hsel : ∀ t ∈ txns, t ∈ ts) :
    ∀ u ∈ C09.uuidsOf txns, '\n' ∉ u.toList :=
  loaded_uuidsOf_no_newline st st' ts (loaded_of_text cfg st st' text ts h) txns hsel

/-- `loaded_uuidsOf_no_newline` for a list of file texts -/
theorem files_uuidsOf_no_newline (cfg : Time.TsCfg) (st st' : Settings) (files : List (List Char)) (ts : List Txn)
    (h : loadFiles cfg st files = .ok (ts, st'))
    (txns : List Txn) (hsel : ∀ t ∈ txns, t ∈ ts) :
    ∀ u ∈ C09.uuidsOf txns, '\n' ∉ u.toList :=
  loaded_uuidsOf_no_newline st st' ts (loaded_of_files cfg st st' files ts h) txns hsel

/-- **C09 end to end.**  Two selections of transactions of two loads from text
    (the same or different ones, one text or many files, any settings): equal hashed messages ⇒ equal multisets of
    selected uuids.  The side condition of `C09.preimage_injective` (no newline in a uuid text) is a theorem for
    everything that was loaded from text.  Together with collision resistance of the hash — a cryptographic
    assumption — this is "the checksum differs whenever the selected set differs". -/
theorem loaded_checksum_determines_set (sta sta' stb stb' : Settings) (tsa tsb : List Txn)
    (ha : Loaded sta tsa sta') (hb : Loaded stb tsb stb')
    (a b : List Txn) (hsa : ∀ t ∈ a, t ∈ tsa) (hsb : ∀ t ∈ b, t ∈ tsb)
    (heq : C09.preimage a = C09.preimage b) : (C09.uuidsOf a).Perm (C09.uuidsOf b) :=
  C09.preimage_injective a b (loaded_uuidsOf_no_newline sta sta' tsa ha a hsa)
    (loaded_uuidsOf_no_newline stb stb' tsb hb b hsb) heq

/-- `loaded_checksum_determines_set` for a journal text -/
theorem text_checksum_determines_set (cfga cfgb : Time.TsCfg) (sta sta' stb stb' : Settings)
    (texta textb : List Char) (tsa tsb : List Txn)
    (ha : loadText cfga sta texta = .ok (tsa, sta')) (hb : loadText cfgb stb textb = .ok (tsb, stb'))
    (a b : List Txn) (hsa : ∀ t ∈ a, t ∈ tsa) (hsb : ∀ t ∈ b, t ∈ tsb)
    (heq : C09.preimage a = C09.preimage b) : (C09.uuidsOf a).Perm (C09.uuidsOf b) :=
  loaded_checksum_determines_set sta sta' stb stb' tsa tsb (loaded_of_text cfga sta sta' texta tsa ha)
    (loaded_of_text cfgb stb stb' textb tsb hb) a b hsa hsb heq

/-- `loaded_checksum_determines_set` for a list of file texts -/
theorem files_checksum_determines_set (cfga cfgb : Time.TsCfg) (sta sta' stb stb' : Settings)
    (filesa filesb : List (List Char)) (tsa tsb : List Txn)
    (ha : loadFiles cfga sta filesa = .ok (tsa, sta')) (hb : loadFiles cfgb stb filesb = .ok (tsb, stb'))
    (a b : List Txn) (hsa : ∀ t ∈ a, t ∈ tsa) (hsb : ∀ t ∈ b, t ∈ tsb)
    (heq : C09.preimage a = C09.preimage b) : (C09.uuidsOf a).Perm (C09.uuidsOf b) :=
  loaded_checksum_determines_set sta sta' stb stb' tsa tsb (loaded_of_files cfga sta sta' filesa tsa ha)
    (loaded_of_files cfgb stb stb' filesb tsb hb) a b hsa hsb heq

/-- if two selections of transactions loaded from text with different uuid
    multisets get the same checksum text, their hashed messages are an explicit collision of the configured hash
    function. -/
theorem loaded_equal_checksum_is_collision (sta sta' stb stb' : Settings) (tsa tsb : List Txn)
    (ha : Loaded sta tsa sta') (hb : Loaded stb tsb stb')
    (a b : List Txn) (hsa : ∀ t ∈ a, t ∈ tsa) (hsb : ∀ t ∈ b, t ∈ tsb)
    (alg : Hash.Algo) (ca cb : Hash.Checksum)
    (hca : calcTxnChecksum a alg = .ok ca) (hcb : calcTxnChecksum b alg = .ok cb)
    (hne : ¬ (C09.uuidsOf a).Perm (C09.uuidsOf b)) (heq : ca.value = cb.value) :
    C09.preimage a ≠ C09.preimage b ∧ alg.digest (C09.preimage a) = alg.digest (C09.preimage b) :=
  C09.equal_checksum_is_collision alg a b ca cb hca hcb
    (loaded_uuidsOf_no_newline sta sta' tsa ha a hsa) (loaded_uuidsOf_no_newline stb stb' tsb hb b hsb) hne heq

/-- `loaded_equal_checksum_is_collision` for a journal text -/
theorem text_equal_checksum_is_collision (cfga cfgb : Time.TsCfg) (sta sta' stb stb' : Settings)
    (texta textb : List Char) (tsa tsb : List Txn)
    (ha : loadText cfga sta texta = .ok (tsa, sta')) (hb : loadText cfgb stb textb = .ok (tsb, stb'))
    (a b : List Txn) (hsa : ∀ t ∈ a, t ∈ tsa) (hsb : ∀ t ∈ b, t ∈ tsb)
    (alg : Hash.Algo) (ca cb : Hash.Checksum)
    (hca : calcTxnChecksum a alg = .ok ca) (hcb : calcTxnChecksum b alg = .ok cb)
    (hne : ¬ (C09.uuidsOf a).Perm (C09.uuidsOf b)) (heq : ca.value = cb.value) :
    C09.preimage a ≠ C09.preimage b ∧ alg.digest (C09.preimage a) = alg.digest (C09.preimage b) :=
  loaded_equal_checksum_is_collision sta sta' stb stb' tsa tsb (loaded_of_text cfga sta sta' texta tsa ha)
    (loaded_of_text cfgb stb stb' textb tsb hb) a b hsa hsb alg ca cb hca hcb hne heq

/-! ## 7. C04 — the order in which a text supplies its transactions is immaterial -/

/-- **C04 end to end.**  Two texts whose parse trees are permutations of each other (the same
    transactions written in another order), loaded from the same settings: both load or both fail; when they load,
    the loaded lists are permutations of each other, *equal* when the transactions are pairwise distinguishable by
    (instant, code, description, uuid) = `hdrKey`, and — from an ancestor-closed chart in lax mode, as
    `Settings.ofConfig` builds it — the settings after the load have the same switches and the same charts as sets.
    (For files: `C04.shards_free_files`, which has no representation hypothesis.) -/
theorem text_order_free (cfga cfgb : Time.TsCfg) (st : Settings) (ta tb : List Char) (ra rb : List RawTxn)
    (hpa : parseJournal cfga ta = some ra) (hpb : parseJournal cfgb tb = some rb) (hp : ra.Perm rb) :
    (loadText cfga st ta).isOk = (loadText cfgb st tb).isOk ∧
    ∀ la sa lb sb, loadText cfga st ta = .ok (la, sa) → loadText cfgb st tb = .ok (lb, sb) →
      la.Perm lb ∧
      ((∀ a b, a ∈ ra → b ∈ ra → hdrKey a.header = hdrKey b.header → a = b) → la = lb) ∧
      ((st.strict = false → C12.AncClosed st.accounts) →
        AcceptOrder.SameCharts sa sb ∧
        (st.strict = false → C12.AncClosed sa.accounts ∧ C12.AncClosed sb.accounts)) := by
  rw [AcceptOrder.loadText_eq cfga ta ra st hpa (parseJournal_lex cfga ta ra hpa).1,
    AcceptOrder.loadText_eq cfgb tb rb st hpb (parseJournal_lex cfgb tb rb hpb).1]
  have h := C04.shards_free st [ra] [rb]
  simp only [List.flatten_cons, List.flatten_nil, List.append_nil] at h
  exact h hp

/-- … and when the transactions are *not* distinguishable (the loaded lists are then
    only permutations of each other) every balance figure still agrees: the same rows in the same order, the same
    own and tree sums as numbers, and through an account selector that looks at the (commodity, account) key only,
    the same delta lines.  `C04.load_values_perm` / `report_values_perm` with `PostsWF` discharged. -/
theorem text_order_free_values (cfga cfgb : Time.TsCfg) (st : Settings) (ta tb : List Char) (ra rb : List RawTxn)
    (hpa : parseJournal cfga ta = some ra) (hpb : parseJournal cfgb tb = some rb) (hp : ra.Perm rb)
    (la lb : List Txn) (sa sb : Settings)
    (hla : loadText cfga st ta = .ok (la, sa)) (hlb : loadText cfgb st tb = .ok (lb, sb)) (s1 s2 : Settings) :
    (∀ bal bal', balance s1 (postsOf la) = .ok bal → balance s2 (postsOf lb) = .ok bal' →
      bal.map C04.rowVal = bal'.map C04.rowVal) ∧
    (∀ (sel : BalRow → Bool), (∀ r r' : BalRow, r.key = r'.key → sel r = sel r') →
      ∀ b b', fromIter s1 sel (postsOf la) = .ok b → fromIter s2 sel (postsOf lb) = .ok b' →
        b.rows.map C04.rowVal = b'.rows.map C04.rowVal ∧ b.deltas.map C04.deltaVal = b'.deltas.map C04.deltaVal) := by
  have hperm : la.Perm lb := ((text_order_free cfga cfgb st ta tb ra rb hpa hpb hp).2 la sa lb sb hla hlb).1
  have hwf := text_postsWF cfga st sa ta la hla
  exact ⟨fun bal bal' h1 h2 => C04.load_values_perm s1 s2 la lb hperm hwf bal bal' h1 h2,
    fun sel hsel b b' h1 h2 =>
      C04.report_values_perm s1 s2 sel hsel _ _ (C04.postsOf_perm la lb hperm) hwf b b' h1 h2⟩

/-- the same for two multi-file loads whose loaded lists are permutations of each other
    (which `C04.shards_free_files` proves for arrangements of the same parse trees). -/
theorem files_order_free_values (cfga cfgb : Time.TsCfg) (sta stb : Settings) (fa fb : List (List Char))
    (la lb : List Txn) (sa sb : Settings)
    (hla : loadFiles cfga sta fa = .ok (la, sa)) (hlb : loadFiles cfgb stb fb = .ok (lb, sb)) (hperm : la.Perm lb)
    (s1 s2 : Settings) :
    (∀ bal bal', balance s1 (postsOf la) = .ok bal → balance s2 (postsOf lb) = .ok bal' →
      bal.map C04.rowVal = bal'.map C04.rowVal) ∧
    (∀ (sel : BalRow → Bool), (∀ r r' : BalRow, r.key = r'.key → sel r = sel r') →
      ∀ b b', fromIter s1 sel (postsOf la) = .ok b → fromIter s2 sel (postsOf lb) = .ok b' →
        b.rows.map C04.rowVal = b'.rows.map C04.rowVal ∧ b.deltas.map C04.deltaVal = b'.deltas.map C04.deltaVal) := by
  have hwf := files_postsWF cfga sta sa fa la hla
  exact ⟨fun bal bal' h1 h2 => C04.load_values_perm s1 s2 la lb hperm hwf bal bal' h1 h2,
    fun sel hsel b b' h1 h2 =>
      C04.report_values_perm s1 s2 sel hsel _ _ (C04.postsOf_perm la lb hperm) hwf b b' h1 h2⟩

/-! ## 8. non-vacuity: a concrete text that loads, and the further hypotheses of the theorems on it

```
2024-01-01 'one                                   2024-01-02 (c2) 'two
 # uuid: 11111111-2222-3333-4444-5555555555ab      e 3.5
 a:b 1.50                                          f
 a:bc 2
 e
```
Two sibling accounts of which one name is a string prefix of the other (`a:b`, `a:bc`), a never-posted ancestor
(`a`), two amount-less last postings, a uuid.  `List.mergeSort` does not evaluate under `decide`, so the text is
evaluated through `acceptText` (`load_of_acceptText`) and the sorts of the report kernels through
`List.mergeSort_of_pairwise` (`C02.balance_of_steps`). -/
namespace Ex

def utc : Time.TsCfg := Time.utcCfg
def lax0 : Settings := Settings.ofConfig false false true [] [] []

def sample : List Char :=
  "2024-01-01 'one\n # uuid: 11111111-2222-3333-4444-5555555555ab\n a:b 1.50\n a:bc 2\n e\n\n2024-01-02 (c2) 'two\n e 3.5\n f\n".toList

/-- the same two transactions written in the other order -/
def swapped : List Char :=
  "2024-01-02 (c2) 'two\n e 3.5\n f\n\n2024-01-01 'one\n # uuid: 11111111-2222-3333-4444-5555555555ab\n a:b 1.50\n a:bc 2\n e\n".toList

def h1 : Header := ⟨⟨1704067200000000000, 0⟩, none, some "one", some "11111111-2222-3333-4444-5555555555ab", none, none, none⟩
def h2 : Header := ⟨⟨1704153600000000000, 0⟩, some "c2", some "two", none, none, none, none⟩
def r1 : RawTxn := ⟨h1, [⟨["a", "b"], ⟨false, 150, 2⟩, none, none⟩, ⟨["a", "bc"], ⟨false, 2, 0⟩, none, none⟩], some (["e"], none)⟩
def r2 : RawTxn := ⟨h2, [⟨["e"], ⟨false, 35, 1⟩, none, none⟩], some (["f"], none)⟩
def mkP (a : Path) (v : Dec) : Posting := ⟨a, "", v, v, false, "", none⟩
def t1 : Txn := ⟨h1, [mkP ["a", "b"] ⟨false, 150, 2⟩, mkP ["a", "bc"] ⟨false, 2, 0⟩, mkP ["e"] ⟨true, 350, 2⟩]⟩
def t2 : Txn := ⟨h2, [mkP ["e"] ⟨false, 35, 1⟩, mkP ["f"] ⟨true, 35, 1⟩]⟩
/-- the settings after the load: every account named, and the ancestor `a`, were created -/
def stAfter : Settings := ⟨false, false, true, [["a", "b"], ["a"], ["a", "bc"], ["e"], ["f"]], [], [""], []⟩

/- `String.toList_ofList` reads off the characters of a literal (the kernel takes a literal for `String.ofList` of its
   characters); evaluating `String.toList` on it is quadratic in its length and costs far more than the parse. -/
theorem sample_parses : parseJournal utc sample = some [r1, r2] := by
  unfold sample
  rw [String.toList_ofList]
  decide +kernel

theorem swapped_parses : parseJournal utc swapped = some [r2, r1] := by
  unfold swapped
  rw [String.toList_ofList]
  decide +kernel

theorem sample_accepts : acceptText utc lax0 sample = .ok ([t1, t2], stAfter) := by
  rw [acceptText, sample_parses]
  decide

/-- **the hypothesis of every theorem of this file is satisfiable**: the text loads (to the implicit amounts
    `e -3.50` and `f -3.5`) -/
theorem sample_loads : loadText utc lax0 sample = .ok ([t1, t2], stAfter) := by
  rw [load_of_acceptText utc lax0 stAfter sample [t1, t2] sample_accepts]
  unfold sortTxns
  rw [List.mergeSort_of_pairwise (by decide)]

theorem exists_of_isOk {α} {o : Outcome α} (h : o.isOk = true) : ∃ a, o = .ok a := by
  cases o with
  | ok a => exact ⟨a, rfl⟩
  | err => cases h
  | undef => cases h

/-- written the other way round, the text loads as well (`text_order_free`: both load or both fail) -/
theorem swapped_loads : ∃ ts st', loadText utc lax0 swapped = .ok (ts, st') := by
  have h := (text_order_free utc utc lax0 sample swapped [r1, r2] [r2, r1] sample_parses swapped_parses
    (List.Perm.swap r2 r1 [])).1
  rw [sample_loads] at h
  obtain ⟨⟨ts, st'⟩, hl⟩ := exists_of_isOk h.symm
  exact ⟨ts, st', hl⟩

/-- … to the same list: the two transactions are distinguishable, so the loads are equal -/
example : ∀ ts st', loadText utc lax0 swapped = .ok (ts, st') → ts = [t1, t2] := by
  intro ts st' h
  have := (text_order_free utc utc lax0 sample swapped [r1, r2] [r2, r1] sample_parses swapped_parses
    (List.Perm.swap r2 r1 [])).2 [t1, t2] stAfter ts st' sample_loads h
  refine (this.2.1 ?_).symm
  intro a b ha hb hk
  simp only [List.mem_cons, List.not_mem_nil, or_false] at ha hb
  rcases ha with rfl | rfl <;> rcases hb with rfl | rfl <;> first | rfl | (revert hk; decide)

/-- C01: both transactions are balanced -/
example : ∀ t ∈ [t1, t2], C01.Balanced t := text_accept_balanced utc lax0 stAfter sample [t1, t2] sample_loads

/-- C02: `PostsWF` of its posting stream -/
example : C02.PostsWF (postsOf [t1, t2]) := text_postsWF utc lax0 stAfter sample [t1, t2] sample_loads

def rowsAll : List BalRow := [
  ⟨["a"], "", ⟨false, 0, 0⟩, ⟨false, 350, 2⟩⟩, ⟨["a", "b"], "", ⟨false, 150, 2⟩, ⟨false, 150, 2⟩⟩,
  ⟨["a", "bc"], "", ⟨false, 2, 0⟩, ⟨false, 2, 0⟩⟩, ⟨["e"], "", ⟨false, 0, 2⟩, ⟨false, 0, 2⟩⟩,
  ⟨["f"], "", ⟨true, 35, 1⟩, ⟨true, 35, 1⟩⟩]

/-- the tables between the steps are left to unification: each step is an evaluation -/
theorem sample_balance : balance stAfter (postsOf [t1, t2]) = .ok rowsAll :=
  C02.balance_of_steps (by decide) rfl rfl rfl (by decide)

/-- the balance report of the loaded text is inside the exact domain: the hypothesis `fromIter … = .ok b` of
    `text_balance_deltas` / `text_delta_zero` (and `balance … = .ok bal` of `text_balance_exact`) is satisfiable -/
theorem sample_fromIter : fromIter stAfter (fun _ => true) (postsOf [t1, t2]) = .ok ⟨rowsAll, [("", ⟨false, 0, 2⟩)]⟩ := by
  rw [fromIter, sample_balance]
  rfl

/-- `text_balance_exact` on it: e.g. the never-posted ancestor `a` shows 3.50 = 1.50 + 2, the exact sum of the
    postings below it (`a:b`, `a:bc` — not `a:bc` under `a:b`) -/
example : C02.treeSum (postsOf [t1, t2]) ("", ["a"]) = (⟨false, 350, 2⟩ : Dec).units :=
  ((text_balance_exact utc lax0 stAfter sample [t1, t2] sample_loads [t1, t2] (sel_all _) stAfter rowsAll
    sample_balance).2.2 ⟨["a"], "", ⟨false, 0, 0⟩, ⟨false, 350, 2⟩⟩ (by decide)).2.symm

/-- `text_delta_zero_unpriced` on it: the text has no `@`/`=` position, so the delta of the report is zero -/
example : ∀ cd ∈ [(("", ⟨false, 0, 2⟩) : String × Dec)], cd.2.units = 0 :=
  text_delta_zero_unpriced utc lax0 stAfter sample [t1, t2] sample_loads [t1, t2] (sel_all _) stAfter
    (by intro rs hp; rw [sample_parses] at hp; cases hp; decide) _ sample_fromIter

/-- `text_balance_never_errs` applies: `lax0` is built by `Settings.ofConfig` -/
example : balance stAfter (postsOf [t1, t2]) ≠ .err :=
  text_balance_never_errs utc false false true [] [] [] stAfter sample [t1, t2] sample_loads [t1, t2] (sel_all _)

def rrow (a : Path) (v tot : Dec) : RegRow := ⟨mkP a v, tot, "", none⟩

/-- C03: the register of the loaded text is inside the exact domain (the running total of `e` goes -3.50, 0.00) -/
theorem sample_register : register selAll [t1, t2] = .ok [
    ⟨t1, [rrow ["a", "b"] ⟨false, 150, 2⟩ ⟨false, 150, 2⟩, rrow ["a", "bc"] ⟨false, 2, 0⟩ ⟨false, 2, 0⟩,
          rrow ["e"] ⟨true, 350, 2⟩ ⟨true, 350, 2⟩]⟩,
    ⟨t2, [rrow ["e"] ⟨false, 35, 1⟩ ⟨false, 0, 2⟩, rrow ["f"] ⟨true, 35, 1⟩ ⟨true, 35, 1⟩]⟩] := by
  simp [register, registerEngine, plainStream, registerLoop, registerTxn, accPostings, accPosting, noConv,
    List.mergeSort, List.MergeSort.Internal.splitInTwo, itemLe, rowLe, Posting.acctnKey, keyLe, acctName,
    t1, t2, mkP, rrow, RegMap.set, RegMap.empty, RItem.key, Outcome.ofOption, Dec.add, Dec.isZero, sgn, max96]

/-- `text_register_exact` on it: the last running total of `e` (0.00) is its account sum in the balance report -/
example : ∀ k r, C03.lastRow k [rrow ["a", "b"] ⟨false, 150, 2⟩ ⟨false, 150, 2⟩, rrow ["a", "bc"] ⟨false, 2, 0⟩ ⟨false, 2, 0⟩,
      rrow ["e"] ⟨true, 350, 2⟩ ⟨true, 350, 2⟩, rrow ["e"] ⟨false, 35, 1⟩ ⟨false, 0, 2⟩,
      rrow ["f"] ⟨true, 35, 1⟩ ⟨true, 35, 1⟩] = some r → r.total.units = C03.ownSpec [t1, t2] k :=
  (text_register_exact utc lax0 stAfter sample [t1, t2] sample_loads [t1, t2] (sel_all _) _ sample_register).2.2.2

def eqSel : Option (Path → Bool) := some (fun p => p == ["a", "b"] || p == ["f"])

/-- C10: an equity export of the loaded text (accounts `a:b` and `f` selected, equity account `Equity`) is inside
    the exact domain: 1.50 − 3.5 is carried forward with the balancing posting `Equity 2.00` -/
theorem sample_equity : equityExport stAfter eqSel ["Equity"] [] [t1, t2] = .ok [
    ⟨⟨1704153600000000000, 0⟩, "Equity", [],
     [⟨["a", "b"], ⟨false, 150, 2⟩, ""⟩, ⟨["f"], ⟨true, 35, 1⟩, ""⟩, ⟨["Equity"], ⟨false, 200, 2⟩, ""⟩]⟩] := by
  unfold equityExport fromIter
  rw [sample_balance]
  decide

/-- `text_equity` on it: the generated transaction re-loads under lax settings and is balanced -/
example : ∀ t ∈ [(⟨⟨1704153600000000000, 0⟩, "Equity", [],
      [⟨["a", "b"], ⟨false, 150, 2⟩, ""⟩, ⟨["f"], ⟨true, 35, 1⟩, ""⟩, ⟨["Equity"], ⟨false, 200, 2⟩, ""⟩]⟩ : EqTxn)],
    ∃ s2, acceptTxn lax0 t.toRaw = .ok (C10.toTxn t, s2) ∧ C10.Lax s2 ∧ C01.Balanced (C10.toTxn t) :=
  (text_equity utc lax0 stAfter sample [t1, t2] sample_loads [t1, t2] (sel_all _) stAfter eqSel ["Equity"] [] _
    sample_equity).2.1 lax0 ⟨by decide, by decide, by decide⟩

def keyD : Txn → String := groupKey .date (.fixed 0)

theorem sample_candidates : groupCandidates keyD [t1, t2] = [("2024-01-01", [t1]), ("2024-01-02", [t2])] := by
  unfold groupCandidates
  rw [List.mergeSort_of_pairwise (by decide)]
  decide

def bal1 : Balance := ⟨[⟨["a"], "", ⟨false, 0, 0⟩, ⟨false, 350, 2⟩⟩, ⟨["a", "b"], "", ⟨false, 150, 2⟩, ⟨false, 150, 2⟩⟩,
  ⟨["a", "bc"], "", ⟨false, 2, 0⟩, ⟨false, 2, 0⟩⟩, ⟨["e"], "", ⟨true, 350, 2⟩, ⟨true, 350, 2⟩⟩], [("", ⟨false, 0, 2⟩)]⟩
def bal2 : Balance := ⟨[⟨["e"], "", ⟨false, 35, 1⟩, ⟨false, 35, 1⟩⟩, ⟨["f"], "", ⟨true, 35, 1⟩, ⟨true, 35, 1⟩⟩],
  [("", ⟨false, 0, 1⟩)]⟩

theorem sample_bal1 : fromIter stAfter (fun _ => true) (postsOf [t1]) = .ok bal1 := by
  rw [fromIter, C02.balance_of_steps (bal := bal1.rows) (by decide) rfl rfl rfl (by decide)]
  rfl

theorem sample_bal2 : fromIter stAfter (fun _ => true) (postsOf [t2]) = .ok bal2 := by
  rw [fromIter, C02.balance_of_steps (bal := bal2.rows) (by decide) rfl rfl rfl (by decide)]
  rfl

/-- C13: the balance groups by date (report zone UTC) of the loaded text are inside the exact domain -/
theorem sample_groups : balanceGroupsBy stAfter (fun _ => true) keyD [t1, t2]
    = .ok [⟨"2024-01-01", bal1⟩, ⟨"2024-01-02", bal2⟩] := by
  unfold balanceGroupsBy
  rw [sample_candidates]
  simp only [groupBalances, sample_bal1, sample_bal2, Outcome.map]
  decide

/-- `text_groups_total` on it: `e` shows -3.50 on the 1st and 3.5 on the 2nd, 0.00 in the overall report -/
example : ([(⟨"2024-01-01", bal1⟩ : BalGroup), ⟨"2024-01-02", bal2⟩].map (fun g => C13.rowOwn g.bal.rows ("", ["e"]))).sum
    = C13.rowOwn rowsAll ("", ["e"]) :=
  (text_groups_total utc lax0 stAfter sample [t1, t2] sample_loads [t1, t2] (sel_all _) stAfter (fun _ => true) keyD
    ("", ["e"])).2 _ _ sample_groups sample_fromIter (fun _ _ => rfl)

/-- `text_groups` on it: no printed group is empty -/
example : ∀ g ∈ [(⟨"2024-01-01", bal1⟩ : BalGroup), ⟨"2024-01-02", bal2⟩], g.bal.rows ≠ [] := by
  intro g hg
  obtain ⟨_, _, _, _, _, hne, _⟩ := (text_groups utc lax0 stAfter sample [t1, t2] sample_loads [t1, t2] (sel_all _)
    stAfter (fun _ => true) keyD _ sample_groups).2.2 g hg
  exact hne

/-- C09: the uuid of the first transaction is canonical, so `Uuid::to_string` is the identity on it … -/
example : uuidToString "11111111-2222-3333-4444-5555555555ab" = "11111111-2222-3333-4444-5555555555ab" :=
  (text_uuid_no_newline utc lax0 stAfter sample [t1, t2] sample_loads t1 (by decide) _ rfl).2.2.2

/-- … and `text_checksum_determines_set` applies to any two selections of the loaded transactions -/
example (tfa tfb : Txn → Bool) (heq : C09.preimage ([t1, t2].filter tfa) = C09.preimage ([t1, t2].filter tfb)) :
    (C09.uuidsOf ([t1, t2].filter tfa)).Perm (C09.uuidsOf ([t1, t2].filter tfb)) :=
  text_checksum_determines_set utc utc lax0 stAfter lax0 stAfter sample sample [t1, t2] [t1, t2] sample_loads sample_loads
    _ _ (sel_filter _ tfa) (sel_filter _ tfb) heq

def fileA : List Char := "2024-01-02 (c2) 'two\n e 3.5\n f\n".toList
def fileB : List Char :=
  "2024-01-01 'one\n # uuid: 11111111-2222-3333-4444-5555555555ab\n a:b 1.50\n a:bc 2\n e\n".toList

/-- **multi-file loads** (`paths_to_txns`): the same two transactions in two files, the later one first; the list of
    files loads, so the hypothesis of every `files_*` theorem is satisfiable, e.g. … -/
theorem files_load : ∃ ts st', loadFiles utc lax0 [fileA, fileB] = .ok (ts, st') := by
  have h : (mapMS (acceptText utc) lax0 [fileA, fileB]).isOk = true := by
    unfold fileA fileB
    rw [String.toList_ofList, String.toList_ofList]
    decide
  obtain ⟨r, hr⟩ := exists_of_isOk h
  exact ⟨_, _, by rw [loadFiles, hr]; rfl⟩

/-- … every transaction of it is balanced, and its balance never fails -/
example : ∀ ts st', loadFiles utc lax0 [fileA, fileB] = .ok (ts, st') →
    (∀ t ∈ ts, C01.Balanced t) ∧ balance st' (postsOf ts) ≠ .err :=
  fun ts st' h => ⟨files_accept_balanced utc lax0 st' [fileA, fileB] ts h,
    files_balance_never_errs utc false false true [] [] [] st' [fileA, fileB] ts h ts (sel_all _)⟩

/-- the uuid clause is not vacuous for other texts either: an upper-case uuid is read to its canonical text -/
example : (match parseJournal utc "2024-01-01\n # uuid: AAAAAAAA-BBBB-CCCC-DDDD-EEEEEEEEEEFF\n a 1\n b\n".toList with
    | some [r] => r.header.uuid
    | _ => none) = some "aaaaaaaa-bbbb-cccc-dddd-eeeeeeeeeeff" := by
  conv in String.toList _ => rw [String.toList_ofList]
  decide

end Ex

end E2E
end Tackler
