import TacklerModel.Props.C06
import TacklerModel.Props.C15
import TacklerModel.Props.C16
import TacklerModel.Lemmas.RawLex
/-!
# C06, continued (namespace `Tackler.C06`) — the hypotheses of `Props/C06.lean`, proved of what parser and acceptor produce

1. **Timestamps** (`tsOK_iff`, `tsOK_of_resolved`, `timestamp_roundtrip_all`): the decidable per-instant check `TsOK` holds
   exactly of the instants whose civil year at their own offset is 0000…9999, whose offset is a whole number of minutes
   within ±25:59 and which are in `jiff`'s range — by the calendar inverse laws of `Lemmas/Time.lean`, not by evaluation —
   and these are the instants `resolveTs` returns for a fixed-offset journal zone of whole minutes (`CfgOK`).  What does
   not round-trip: offsets with seconds (F13; a named zone or a configured offset with seconds produces them) and negative
   civil years (the grammar has four year digits and no sign; `resolveTs` never produces one at the timestamp's own offset).
2. **`RawLex` of the parser's output** (`parseJournal_rawLex`): one lemma per parser in `Lemmas/RawLex.lean` ("what `p_x`
   returns is well-formed"), composed here over header, transaction and journal.  Hence `roundtrip_text`: the round trip
   for journals that come from text.
3. **Division contract** (`accepted_unit_price_div_exact`, `accepted_div_wf`): for the model's executable division
   `Dec.divQuot` the contract `DivExact` holds of every posting the acceptor produces — an accepted `@` posting has
   `txnAmount = amount × price` exactly (otherwise `valuePosition` answers `inexact`), so `divQuot txnAmount amount` is
   that price: `roundtrip_text_divQuot`.  The statements for an abstract `div` keep `DivExact` as the contract of
   `rust_decimal`'s `Div`; the tie compares the quotient the real `Display for Posting` prints with the model's on every
   generated `@` posting (gen/c06.py: identity export byte for byte).
-/
namespace Tackler
namespace C06
open Comb Syntax Print

/-! ## 1. timestamps -/

/-- `TsOK` in closed form.  Validity of the civil fields and the inverse law `civilNs (civilAt ts) − offset = ts` hold of
    every instant (`Time.civilNs_civilAt`), so they are no conditions. -/
theorem tsOK_iff (ts : Ts) : TsOK ts = true ↔
    (0 ≤ (Time.civilAt ts.ns ts.offset).1 ∧ (Time.civilAt ts.ns ts.offset).1 ≤ 9999) ∧
    Time.offsetOk ts.offset = true ∧ ts.offset.natAbs % 60 = 0 ∧ Time.instantOk ts.ns = true := by
  generalize hc : Time.civilAt ts.ns ts.offset = c
  obtain ⟨y, m, d, h, mi, s, sub⟩ := c
  obtain ⟨hm1, hm2, hd1, hd2, hh, hmi, hs, hsub, hrec⟩ := Time.civilNs_civilAt ts.ns ts.offset y m d h mi s sub hc
  simp only [TsOK, tsY, tsM, tsD, tsH, tsMi, tsS, tsNs, hc, Bool.and_eq_true, decide_eq_true_eq, Time.dateOk,
    Time.timeOk, Time.civilNs]
  constructor
  · rintro ⟨⟨⟨⟨⟨⟨⟨hy, hdate⟩, _⟩, _⟩, hoff⟩, hmin⟩, hinst⟩, hinv⟩
    refine ⟨⟨Decidable.by_contra fun hneg => ?_, by omega⟩, hoff, hmin, hinst⟩
    -- `rfc_3339` prints a negative year with a sign, `tsY` reads it as year 0, whose day number differs
    have hy0 : y.toNat = 0 := by omega
    rw [hy0] at hdate hinv
    have hdays : Time.daysFromCivil ((0 : Nat) : Int) m d = Time.daysFromCivil y m d := by omega
    have := Time.daysFromCivil_inj ((0 : Nat) : Int) y m d m d ⟨hm1, hm2⟩ ⟨hd1, hdate.2.2⟩ ⟨hm1, hm2⟩ ⟨hd1, hd2⟩ hdays
    simp only [Prod.mk.injEq, and_true] at this
    omega
  · rintro ⟨⟨hy0, hy1⟩, hoff, hmin, hinst⟩
    have hyn : ((y.toNat : Nat) : Int) = y := by omega
    rw [hyn]
    exact ⟨⟨⟨⟨⟨⟨⟨by omega, by omega⟩, by omega⟩, hsub⟩, hoff⟩, hmin⟩, hinst⟩, by omega⟩

/-- **which instants print re-parsably**: civil year at the own offset 0000…9999, offset a whole number of minutes within
    ±25:59(:59), instant in range (`tsOK_iff`, right to left) -/
theorem tsOK_of_fields (ts : Ts) (hy0 : 0 ≤ (Time.civilAt ts.ns ts.offset).1) (hy1 : (Time.civilAt ts.ns ts.offset).1 ≤ 9999)
    (hoff : Time.offsetOk ts.offset = true) (hmin : ts.offset.natAbs % 60 = 0) (hinst : Time.instantOk ts.ns = true) :
    TsOK ts = true :=
  (tsOK_iff ts).mpr ⟨⟨hy0, hy1⟩, hoff, hmin, hinst⟩

/-- `tsOK_iff`, left to right, without the lower bound on the year (that is `negative_year_not_tsOK`) -/
theorem fields_of_tsOK (ts : Ts) (h : TsOK ts = true) :
    (Time.civilAt ts.ns ts.offset).1.toNat ≤ 9999 ∧ Time.offsetOk ts.offset = true ∧ ts.offset.natAbs % 60 = 0 ∧
    Time.instantOk ts.ns = true := by
  obtain ⟨⟨_, hy⟩, h⟩ := (tsOK_iff ts).mp h
  exact ⟨by omega, h⟩

theorem fracOk_of_fracDigits (t : Time.TsToken) (h : FracDigits t) : C16.FracOk t :=
  fun hh mi s ds e => ⟨fun c hc => C15.isDig_of_isDecDigit c ((h hh mi s ds e).1 c hc), (h hh mi s ds e).2⟩

/-- a journal zone the export prints re-parsably: a fixed offset of whole minutes within ±25:59 (what
    `kernel.timestamp.timezone.offset = "±HH:MM"` can express) and a valid default time -/
def CfgOK (cfg : Time.TsCfg) : Prop :=
  C16.CfgOk cfg ∧ Time.offsetOk cfg.offset = true ∧ cfg.offset.natAbs % 60 = 0

theorem zoneOffset_ok (cfg : Time.TsCfg) (hcfg : CfgOK cfg) (t : Time.TsToken) (ts : Ts)
    (h : Time.resolveTs cfg t = .ok ts) : Time.offsetOk ts.offset = true ∧ ts.offset.natAbs % 60 = 0 := by
  rw [(C16.instant_formula cfg t ts h).2.1]
  obtain ⟨y, m, d, time, zone⟩ := t
  rcases zone with _ | _ | ⟨neg, hh, mm⟩
  · exact hcfg.2
  · simp only [C16.zoneOffset]; exact ⟨by decide, by decide⟩
  · simp only [C16.zoneOffset]
    -- a written offset has passed `Offset::from_seconds`: otherwise `resolveTs` answers `.err`
    refine ⟨Decidable.by_contra fun hk => ?_, ?_⟩
    · rcases time with _ | ⟨h', mi, s, frac⟩ <;> simp only [Time.resolveTs, hk] at h <;> simp at h
    · cases neg <;> simp <;> omega

/-- **`tsOK_of_resolved`.**  Every instant-with-offset the timestamp grammar can produce under a fixed-offset journal
    zone of whole minutes satisfies `TsOK`. -/
theorem tsOK_of_resolved (cfg : Time.TsCfg) (hcfg : CfgOK cfg) (t : Time.TsToken) (ts : Ts) (hf : C16.FracOk t)
    (h : Time.resolveTs cfg t = .ok ts) : TsOK ts = true := by
  obtain ⟨_, _, hinst, hdate⟩ := C16.instant_formula cfg t ts h
  have hc := C16.roundtrip cfg t ts hcfg.1 hf h
  obtain ⟨hoff, hmin⟩ := zoneOffset_ok cfg hcfg t ts h
  have hy : t.year ≤ 9999 := by
    simp only [Time.dateOk, Bool.and_eq_true, decide_eq_true_eq] at hdate
    exact hdate.1.1
  refine tsOK_of_fields ts ?_ ?_ hoff hmin hinst <;> rw [hc] <;> simp only <;> omega

/-- **`timestamp_roundtrip_all`.**  `rfc_3339` then `parse_timestamp` is the identity on every timestamp the grammar
    produces (any of the three notations, any fraction, any written offset `±HH:MM` up to 25:59, `Z`, or the journal
    zone), whatever zone the re-parse is configured with. -/
theorem timestamp_roundtrip_all (cfg cfg' : Time.TsCfg) (hcfg : CfgOK cfg) (t : Time.TsToken) (ts : Ts) (hf : C16.FracOk t)
    (h : Time.resolveTs cfg t = .ok ts) (r : List Char) : parseTimestamp cfg' (rfc3339 ts ++ r) = .ok ts r :=
  timestamp_roundtrip cfg' ts (tsOK_of_resolved cfg hcfg t ts hf h) r

/-- the same from text: what `parse_timestamp` returned prints and parses back -/
theorem parseTimestamp_tsOK (cfg : Time.TsCfg) (hcfg : CfgOK cfg) (s r : List Char) (ts : Ts)
    (h : parseTimestamp cfg s = .ok ts r) : TsOK ts = true := by
  obtain ⟨t, hf, hres⟩ := parseTimestamp_resolved h
  exact tsOK_of_resolved cfg hcfg t ts (fracOk_of_fracDigits t hf) hres

theorem timestamp_text_roundtrip (cfg cfg' : Time.TsCfg) (hcfg : CfgOK cfg) (s r : List Char) (ts : Ts)
    (h : parseTimestamp cfg s = .ok ts r) (r' : List Char) : parseTimestamp cfg' (rfc3339 ts ++ r') = .ok ts r' :=
  timestamp_roundtrip cfg' ts (parseTimestamp_tsOK cfg hcfg s r ts h) r'

/-- the sub-range that does **not** round-trip, 1: an offset with seconds is printed `±HH:MM:SS`, which `p_offset`
    does not read back (F13) — such a `Ts` is never `TsOK` -/
theorem offset_seconds_not_tsOK (ts : Ts) (h : ts.offset.natAbs % 60 ≠ 0) : TsOK ts = false := by
  cases hk : TsOK ts with
  | false => rfl
  | true => exact absurd (fields_of_tsOK ts hk).2.2.1 h

/-- the sub-range that does **not** round-trip, 2: an instant outside `jiff`'s range is not `TsOK` -/
theorem out_of_range_not_tsOK (ts : Ts) (h : Time.instantOk ts.ns = false) : TsOK ts = false := by
  cases hk : TsOK ts with
  | false => rfl
  | true => rw [(fields_of_tsOK ts hk).2.2.2] at h; cases h

/-- the sub-range that does **not** round-trip, 3: a negative civil year (at the timestamp's own offset).  `rfc_3339`
    prints it with a sign (`-0001-…`), the grammar has four year digits and no sign.  The parser never produces one
    (`tsOK_of_resolved`); a `Ts` built otherwise is not `TsOK`. -/
theorem negative_year_not_tsOK (ts : Ts) (h : (Time.civilAt ts.ns ts.offset).1 < 0) : TsOK ts = false := by
  cases hk : TsOK ts with
  | false => rfl
  | true => exact absurd ((tsOK_iff ts).mp hk).1.1 (by omega)

/-- no restriction is lost by `CfgOK`: a journal zone whose offset has seconds makes the parser itself produce
    timestamps that do not print re-parsably (the fixed-offset form of F13) -/
example : Time.resolveTs ⟨5989, (0, 0, 0, 0)⟩ ⟨1900, 1, 1, none, none⟩ = .ok ⟨-2208994789000000000, 5989⟩ := by decide

/-! ## 2. `RawLex` of the parser's output -/

theorem rawPostingLex_of {rp : RawPosting} (h : PostLex rp) : RawPostingLex rp :=
  ⟨h.acct, h.amount, h.unit, h.comment⟩

theorem opt_some {α} {p : P α} {s r : List Char} {a : α} (h : opt p s = .ok (some a) r) : p s = .ok a r := by
  rcases opt_ok h with ⟨b, e, hb⟩ | ⟨e, _⟩
  · cases e; exact hb
  · cases e

theorem parseTxnHeader_ok_wf (cfg : Time.TsCfg) (hcfg : CfgOK cfg) {s r : List Char} {h : Header}
    (hp : parseTxnHeader cfg s = .ok h r) : TsOK h.ts = true ∧ HeaderWF h := by
  unfold parseTxnHeader at hp
  obtain ⟨ts, s1, hts, hp⟩ := Res.bind_inv hp
  obtain ⟨code, s2, hcode, hp⟩ := Res.bind_inv hp
  obtain ⟨desc, s3, hdesc, hp⟩ := Res.bind_inv hp
  obtain ⟨_, s4, _, hp⟩ := Res.bind_inv hp
  obtain ⟨m, s5, hm, hp⟩ := Res.bind_inv hp
  obtain ⟨comments, s6, hcs, hp⟩ := Res.bind_inv hp
  cases hp
  refine ⟨parseTimestamp_tsOK cfg hcfg s s1 ts hts, ?_, ?_, ?_, ?_⟩
  · rintro c rfl
    obtain ⟨_, t1, _, h1⟩ := Res.bind_inv (opt_some hcode)
    exact parseTxnCode_ok_wf _ _ _ h1
  · rintro d rfl
    obtain ⟨_, t1, _, h1⟩ := Res.bind_inv (opt_some hdesc)
    exact parseTxnDescription_ok_wf _ _ _ h1
  · cases m with
    | none => exact ⟨nofun, nofun, nofun⟩
    | some x =>
      have := parseTxnMeta_ok_wf (opt_some hm)
      exact ⟨this.uuid, this.location, this.tags⟩
  · rintro cs rfl
    exact repeat1_all parseTxnComment (fun c => LineText c.toList) (fun _ _ _ e => parseTxnComment_ok_lineText e)
      (opt_some hcs)

theorem parseTxn_rawLex (cfg : Time.TsCfg) (hcfg : CfgOK cfg) {s r : List Char} {t : RawTxn}
    (hp : parseTxn cfg s = .ok t r) : RawLex t := by
  unfold parseTxn at hp
  obtain ⟨h, s1, hh, hp⟩ := Res.bind_inv hp
  obtain ⟨ps, s2, hps, hp⟩ := Res.bind_inv hp
  obtain ⟨_, s3, _, hp⟩ := Res.bind_inv hp
  cases hp
  obtain ⟨hts, hhw⟩ := parseTxnHeader_ok_wf cfg hcfg (cutErr_ok hh)
  obtain ⟨_, hall, hlast⟩ := parseTxnPostings_ok_wf (ps := ps.1) (last := ps.2) (cutErr_ok hps)
  exact ⟨hts, hhw, fun rp hrp => rawPostingLex_of (hall rp hrp), hlast⟩

/-- **`RawLex` of the parser's output.**  Every parse tree `Syntax.parseJournal` produces from a text is lexically
    well-formed, and there is at least one (`repeat_till(1.., …)`).  This is the hypothesis `hlex` of
    `roundtrip_accepted`. -/
theorem parseJournal_rawLex (cfg : Time.TsCfg) (hcfg : CfgOK cfg) (text : List Char) (rs : List RawTxn)
    (hp : parseJournal cfg text = some rs) : rs ≠ [] ∧ ∀ r ∈ rs, RawLex r := by
  unfold parseJournal at hp
  split at hp
  · rename_i ts hts
    cases hp
    unfold parseTxns at hts
    obtain ⟨_, s1, _, h1⟩ := Res.bind_inv hts
    exact repeatTill1_all (parseTxn cfg) eof RawLex (fun _ _ _ e => parseTxn_rawLex cfg hcfg e) h1
  · cases hp
  · cases hp
  · cases hp

/-- **C06 `roundtrip_text`.**  `roundtrip_accepted` for journals that come from text: parse a journal text, accept it,
    print the accepted transactions in any layout of the family, load that text — the result is the originally loaded
    (sorted) list and state.  Its hypotheses are the contract of the abstract division `div` (see
    `roundtrip_text_divQuot` for the model's own division) and that the journal zone is a fixed offset of whole minutes
    (`CfgOK`; otherwise F13). -/
theorem roundtrip_text (cfg : Time.TsCfg) (hcfg : CfgOK cfg) (L : Layout) (hL : LayoutOK L) (div : Dec → Dec → Dec)
    (st st' : Settings) (text : List Char) (rs : List RawTxn) (ts : List Txn)
    (hparse : parseJournal cfg text = some rs) (hacc : acceptJournal st rs = .ok (ts, st'))
    (hdw : ∀ t ∈ ts, ∀ p ∈ t.posts, p.isTotal = false → NumWF (div p.txnAmount p.amount))
    (hdiv : ∀ t ∈ ts, ∀ p ∈ t.posts, DivExact div p) :
    loadText cfg st (printL L div ts) = loadJournal st rs := by
  obtain ⟨hne, hlex⟩ := parseJournal_rawLex cfg hcfg text rs hparse
  exact roundtrip_accepted cfg L hL div st st' rs ts hacc hne hlex hdw hdiv

/-! ## 3. the division contract for the model's own division -/

theorem handlePosting_inv (st st2 : Settings) (rp : RawPosting) (p : Posting)
    (h : handlePosting st rp = .ok (p, st2)) :
    ∃ vp, valuePosition rp.amount rp.unit = .ok vp ∧
      p = ⟨rp.acct, vp.postComm, vp.postAmount, vp.txnAmount, vp.isTotal, vp.txnComm, rp.comment⟩ ∧
      vp.postAmount.coeff ≠ 0 := by
  obtain ⟨vp, hvp, hnz, rfl⟩ := handlePosting_posting _ _ _ _ h
  exact ⟨vp, hvp, rfl, fun e => hnz (by simp [Dec.units, e])⟩

theorem divQ_numWF (t a : Dec) (hs : t.scale ≤ 28) (hc : t.coeff ≤ max96) : NumWF (divQ t a) := by
  have hz : NumWF Dec.zero := ⟨by simp [Dec.zero], by simp [Dec.zero], by simp [Dec.zero]⟩
  unfold divQ Dec.divQuot
  split
  · exact hz
  · split
    · exact hz
    · split
      · rename_i ha ht hx
        simp only [Option.getD_some]
        refine ⟨by simp; omega, Nat.le_trans (Nat.div_le_self _ _) hc, ?_⟩
        intro _
        simp only
        intro hq
        have := Nat.div_mul_cancel (Nat.dvd_of_mod_eq_zero hx.2)
        rw [hq] at this
        omega
      · exact hz

/-- **C06 `accepted_unit_price_div_exact`.**  `DivExact` holds of the model's executable division `Dec.divQuot` on *every*
    posting the acceptor produces.  `valuePosition` answers `ok` for an `@` posting only when `txnAmount = amount × price` is
    an exact product (`Dec.mul … = some _`; a price has ≤ 28 decimals and is not negative), and the amount is not zero
    (`Posting::from`); then `divQuot txnAmount amount` is the price again (`divQuot_exact`; a zero price gives the zero
    quotient).  For every other posting the contract is void. -/
theorem accepted_unit_price_div_exact (st st2 : Settings) (rp : RawPosting) (p : Posting)
    (h : handlePosting st rp = .ok (p, st2)) : DivExact divQ p := by
  obtain ⟨vp, hvp, rfl, hnz⟩ := handlePosting_inv st st2 rp p h
  intro htot hne
  simp only at htot hne
  obtain ⟨hamt, hspec⟩ := C01.valuePosition_spec _ _ _ hvp
  rcases hspec with ⟨heq, _⟩ | ⟨_, u, _, _, hcl⟩
  · exact absurd heq.symm hne
  · rcases hcl with ⟨v, _, _, hneg, hmul⟩ | ⟨v, _, _, _, ht⟩
    · simp only
      rw [hamt] at hnz ⊢
      by_cases hv : v.value.coeff = 0
      · -- zero price: the product is `ZERO`, and so is the quotient
        have ht : vp.txnAmount = Dec.zero := by
          unfold Dec.mul at hmul
          simp only [Dec.isZero, hv, beq_self_eq_true, Bool.or_true, if_true, Option.some.injEq] at hmul
          exact hmul.symm
        have hq : divQ vp.txnAmount rp.amount = Dec.zero := by
          rw [ht]; unfold divQ Dec.divQuot; simp [hnz, Dec.zero]
        rw [hq, ht]
        refine ⟨rfl, ?_⟩
        unfold Dec.mul
        simp [Dec.isZero, Dec.zero]
      · obtain ⟨q, hq, hm, hs⟩ := divQuot_exact rp.amount v.value vp.txnAmount hnz hv hmul
        have : divQ vp.txnAmount rp.amount = q := by unfold divQ; rw [hq]; rfl
        rw [this]
        exact ⟨by rw [hs]; exact hneg, hm⟩
    · rw [ht] at htot; cases htot

theorem acceptTxn_posts (st st' : Settings) (r : RawTxn) (t : Txn) (h : acceptTxn st r = .ok (t, st')) :
    t.header = r.header ∧ ∃ st1, acceptPostings st1 r.posts r.last = .ok (t.posts, st') := by
  obtain ⟨st1, ps, _, hps, rfl, _⟩ := (acceptTxn_ok ..).mp h
  exact ⟨rfl, st1, hps⟩

/-- every posting of an accepted posting list was produced by `handle_posting`, or it is the implicit last posting,
    which is in the transaction's own commodity -/
theorem acceptPostings_inv (st st' : Settings) (posts : List RawPosting) (last : Option (Path × Option String))
    (all : List Posting) (h : acceptPostings st posts last = .ok (all, st')) :
    ∀ p ∈ all, (∃ rp ∈ posts, ∃ s1 s2, handlePosting s1 rp = .ok (p, s2)) ∨
      (p.txnComm = p.comm ∧ p.txnAmount = p.amount) := by
  obtain ⟨p0, rest, st1, hps, hcase⟩ := (acceptPostings_ok ..).mp h
  have hmain := mapMS_ok handlePosting posts st st1 _ hps
  rcases hcase with ⟨_, rfl, _⟩ | ⟨a, cmt, s, a', l, _, _, _, hl, rfl⟩
  · exact fun p hp => .inl (hmain p hp)
  · intro p hp
    rcases List.mem_append.mp hp with hp | hp
    · exact .inl (hmain p hp)
    · cases List.mem_singleton.mp hp
      obtain ⟨rfl, _⟩ := mkPosting_ok _ _ hl
      exact .inr ⟨rfl, rfl⟩

theorem acceptTxn_divExact (st st' : Settings) (r : RawTxn) (t : Txn) (h : acceptTxn st r = .ok (t, st')) :
    ∀ p ∈ t.posts, DivExact divQ p := by
  obtain ⟨_, st1, hps⟩ := acceptTxn_posts st st' r t h
  intro p hp
  rcases acceptPostings_inv st1 st' r.posts r.last t.posts hps p hp with ⟨rp, _, s1, s2, hf⟩ | ⟨hc, _⟩
  · exact accepted_unit_price_div_exact s1 s2 rp p hf
  · intro _ hne; exact absurd hc hne

/-- the quotients the export prints are well-formed numbers: the transaction amount of an accepted posting is
    representable (a parsed number, an exact product, or the negated exact sum) -/
theorem accepted_div_wf (st st' : Settings) (r : RawTxn) (t : Txn) (h : acceptTxn st r = .ok (t, st')) (hl : RawLex r) :
    ∀ p ∈ t.posts, NumWF (divQ p.txnAmount p.amount) := by
  obtain ⟨_, st1, hps⟩ := acceptTxn_posts st st' r t h
  have hwf := accept_wf (fun _ _ => Dec.zero) st st' r t h hl
    (fun _ _ _ => ⟨by simp [Dec.zero], by simp [Dec.zero], by simp [Dec.zero]⟩)
  intro p hp
  rcases acceptPostings_inv st1 st' r.posts r.last t.posts hps p hp with ⟨rp, hrp, s1, s2, hf⟩ | ⟨_, ha⟩
  · obtain ⟨_, h1, h2⟩ := handlePosting_wf (fun _ _ => Dec.zero) s1 s2 rp p hf (hl.posts rp hrp)
      (fun _ => ⟨by simp [Dec.zero], by simp [Dec.zero], by simp [Dec.zero]⟩)
    exact divQ_numWF _ _ h1 h2
  · have := (hwf.posts p hp).amount
    rw [ha]
    exact divQ_numWF _ _ this.1 this.2.1

/-- the round trip for parse trees given directly, with the model's executable division: `roundtrip_accepted` without
    its two division hypotheses -/
theorem roundtrip_accepted_divQuot (cfg : Time.TsCfg) (L : Layout) (hL : LayoutOK L)
    (st st' : Settings) (rs : List RawTxn) (ts : List Txn)
    (hacc : acceptJournal st rs = .ok (ts, st')) (hrs : rs ≠ []) (hlex : ∀ r ∈ rs, RawLex r) :
    loadText cfg st (printL L divQ ts) = loadJournal st rs := by
  have hsrc := mapMS_ok acceptTxn rs st st' ts hacc
  refine roundtrip_accepted cfg L hL divQ st st' rs ts hacc hrs hlex (fun t ht p hp _ => ?_) (fun t ht p hp => ?_)
  · obtain ⟨r, hr, s1, s2, hf⟩ := hsrc t ht
    exact accepted_div_wf s1 s2 r t hf (hlex r hr) p hp
  · obtain ⟨r, _, s1, s2, hf⟩ := hsrc t ht
    exact acceptTxn_divExact s1 s2 r t hf p hp

/-- **C06 `roundtrip_text_divQuot`.**  The round trip with the model's executable division: *no* hypothesis about
    division, none about lexical form, none per instant.  Parse a journal text (fixed-offset zone of whole minutes),
    accept it, print the accepted transactions with `Dec.divQuot` in any layout of the family, load the printed text:
    the result is the originally loaded list and settings state. -/
theorem roundtrip_text_divQuot (cfg : Time.TsCfg) (hcfg : CfgOK cfg) (L : Layout) (hL : LayoutOK L)
    (st st' : Settings) (text : List Char) (rs : List RawTxn) (ts : List Txn)
    (hparse : parseJournal cfg text = some rs) (hacc : acceptJournal st rs = .ok (ts, st')) :
    loadText cfg st (printL L divQ ts) = loadJournal st rs := by
  obtain ⟨hne, hlex⟩ := parseJournal_rawLex cfg hcfg text rs hparse
  exact roundtrip_accepted_divQuot cfg L hL st st' rs ts hacc hne hlex

/-! ## non-vacuity -/

theorem cfgOK_utc : CfgOK utc := by
  refine ⟨⟨by decide, by decide⟩, by decide, by decide⟩

/-- `+05:45`, default time `23:59:59.999999999` -/
example : CfgOK ⟨20700, (23, 59, 59, 999999999)⟩ := ⟨⟨by decide, by decide⟩, by decide, by decide⟩

/-- the hypotheses of `roundtrip_text_divQuot` hold of a journal with a code, a description with blanks, an empty
    comment, an `@` price, a `=` total with negative amounts and an implicit amount -/
def sample3 : List Char :=
  "2024-03-01T12:00:00.5+02:00 (c) 'd  e\n ;\n a 1.50 X @ 2.0 Y\n b -3 Z = -4.5 Y\n c\n".toList

def sample3Chars : { l : List Char // sample3 = l } := ⟨_, String.toList_ofList⟩

set_option maxRecDepth 40000 in
example : (match parseJournal utc sample3 with
    | some rs => (acceptJournal lax rs).isOk
    | none => false) = true := by
  rw [sample3Chars.2]
  decide

/-- … and the conclusion of `roundtrip_text_divQuot` before the sort (`loadText`/`loadJournal` = sort of `acceptText`/
    `acceptJournal`), evaluated on it (identity layout and a CRLF layout with tabs, trailing blanks and the metadata order
    tags / uuid / location) -/
def crlfLayout : Layout :=
  { indent := ['\t'], sep := [' ', '\t'], trail := [' '], eol := ['\r', '\n'], metaOrder := [2, 0, 1],
    lead := [[' ']], gap := [[], ['\t']] }

example : LayoutOK crlfLayout := by
  refine ⟨?_, ?_, ?_, ?_, ?_, ?_, ?_, ?_, ?_, ?_⟩ <;> simp [crlfLayout, Blanks, isSpace, IsEol]

set_option maxRecDepth 40000 in
example : (match parseJournal utc sample3 with
    | some rs => (match acceptJournal lax rs with
        | .ok (ts, st') =>
          decide (acceptText utc lax (printL Layout.identity divQ ts) = .ok (ts, st')) &&
          decide (acceptText utc lax (printL crlfLayout divQ ts) = .ok (ts, st'))
        | _ => false)
    | none => false) = true := by
  rw [sample3Chars.2]
  decide +kernel

end C06
end Tackler
