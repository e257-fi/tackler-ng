import TacklerModel.Model.Filter
/-!
# C05 — transaction filters select exactly the transactions their definition describes

`Sat m f t` is the *documented* predicate of a filter definition (tackler-api/src/filters/** doc
comments, TEP-1005/1010), written independently of `Filter.eval` in terms of plain propositions over
the value layer (`Dec.units`, instants).  `eval_sat` relates the transliterated evaluator to it for
every filter tree.  Clauses: `and_or_not`, `ts_half_open`, `ts_offset_irrelevant`, `posting_same`, `bbox_spec`, `bbox3d_spec`,
`bbox_degenerate`; for the selection `filterTxns`: `filter_order`, `filter_mem`, `partition`, `filter_size`.
`m pattern haystack` is the whole-string regex match (parameter; see C11/C18 for its meaning).
-/
namespace Tackler
namespace C05

/-! ### specification -/

/-- inclusive bounding box on the value layer; wraps over the antimeridian only when west > east -/
def InBox2 (south west north east : Dec) (g : Geo) : Prop :=
  south.units ≤ g.lat.units ∧ g.lat.units ≤ north.units ∧
  (if east.units < west.units then (west.units ≤ g.lon.units ∨ g.lon.units ≤ east.units)
   else (west.units ≤ g.lon.units ∧ g.lon.units ≤ east.units))

mutual
def Sat (m : String → String → Bool) : Filter → Txn → Prop
  | .tt, _ => True
  | .ff, _ => False
  | .and fs, t => SatAll m fs t
  | .or fs, t => SatAny m fs t
  | .not f, t => ¬ Sat m f t
  | .tsBegin b, t => b ≤ t.header.ts.ns                       -- begin inclusive
  | .tsEnd e, t => t.header.ts.ns < e                          -- end exclusive
  | .code re, t => ∃ c, t.header.code = some c ∧ m re c = true
  | .desc re, t => ∃ d, t.header.desc = some d ∧ m re d = true
  | .uuid u, t => t.header.uuid = some u
  | .bbox s w n e, t => ∃ g, t.header.location = some g ∧ InBox2 s w n e g
  | .bbox3 s w d n e h, t => ∃ g z, t.header.location = some g ∧ g.alt = some z ∧ InBox2 s w n e g ∧
      d.units ≤ z.units ∧ z.units ≤ h.units
  | .tags re, t => ∃ ts, t.header.tags = some ts ∧ ∃ x ∈ ts, m re x = true
  | .comments re, t => ∃ cs, t.header.comments = some cs ∧ ∃ x ∈ cs, m re x = true
  | .postAccount re, t => ∃ p ∈ t.posts, m re (acctName p.acct) = true
  | .postComment re, t => ∃ p ∈ t.posts, ∃ c, p.comment = some c ∧ m re c = true
  | .postAmountEq re x, t => ∃ p ∈ t.posts, p.amount.units = x.units ∧ m re (acctName p.acct) = true
  | .postAmountLess re x, t => ∃ p ∈ t.posts, p.amount.units < x.units ∧ m re (acctName p.acct) = true
  | .postAmountGreater re x, t => ∃ p ∈ t.posts, x.units < p.amount.units ∧ m re (acctName p.acct) = true
  | .postCommodity re, t => ∃ p ∈ t.posts, m re p.comm = true
def SatAll (m : String → String → Bool) : List Filter → Txn → Prop
  | [], _ => True
  | f :: fs, t => Sat m f t ∧ SatAll m fs t
def SatAny (m : String → String → Bool) : List Filter → Txn → Prop
  | [], _ => False
  | f :: fs, t => Sat m f t ∨ SatAny m fs t
end

theorem satAll_iff (m : String → String → Bool) (t : Txn) : ∀ fs, SatAll m fs t ↔ ∀ f ∈ fs, Sat m f t
  | [] => by simp [SatAll]
  | f :: fs => by simp [SatAll, satAll_iff m t fs]

theorem satAny_iff (m : String → String → Bool) (t : Txn) : ∀ fs, SatAny m fs t ↔ ∃ f ∈ fs, Sat m f t
  | [] => by simp [SatAny]
  | f :: fs => by simp [SatAny, satAny_iff m t fs]

/-! ### evaluator = specification -/

theorem inBox2_iff (s w n e : Dec) (g : Geo) : inBox2 s w n e g = true ↔ InBox2 s w n e g := by
  unfold inBox2 InBox2
  by_cases h : e.units < w.units
  · have hw : Dec.leVal w e = false := by simp [Dec.leVal]; omega
    rw [hw]
    simp only [Bool.false_eq_true, if_false, h, if_true, Dec.leVal, Bool.and_eq_true, Bool.or_eq_true,
      decide_eq_true_eq, and_assoc]
  · have hw : Dec.leVal w e = true := by simp [Dec.leVal]; omega
    rw [hw]
    simp only [if_true, h, if_false, Dec.leVal, Bool.and_eq_true, decide_eq_true_eq, and_assoc]

theorem optAny_iff {α} (o : Option α) (p : α → Bool) : optAny o p = true ↔ ∃ a, o = some a ∧ p a = true := by
  cases o <;> simp [optAny]

mutual
/-- **C05 main theorem**: for every filter tree and transaction, the evaluator says yes exactly when
    the documented predicate holds -/
theorem eval_sat (m : String → String → Bool) : ∀ (f : Filter) (t : Txn), Filter.eval m f t = true ↔ Sat m f t
  | .and fs, t => by simp only [Filter.eval, Sat]; exact evalAll_sat m fs t
  | .or fs, t => by simp only [Filter.eval, Sat]; exact evalAny_sat m fs t
  | .not f, t => by
      simp only [Filter.eval, Sat, Bool.not_eq_true']
      rw [← eval_sat m f t]; simp
  | .bbox3 s w d n e h, t => by
      simp only [Filter.eval, Sat, optAny_iff, Bool.and_eq_true, inBox2_iff, Dec.leVal, decide_eq_true_eq]
      constructor
      · rintro ⟨g, hg, hb, z, hz, h1, h2⟩; exact ⟨g, z, hg, hz, hb, h1, h2⟩
      · rintro ⟨g, z, hg, hz, hb, h1, h2⟩; exact ⟨g, hg, hb, z, hz, h1, h2⟩
  | .tt, t | .ff, t | .tsBegin _, t | .tsEnd _, t | .code _, t | .desc _, t | .uuid _, t | .bbox _ _ _ _, t | .tags _, t
  | .comments _, t | .postAccount _, t | .postComment _, t | .postAmountEq _ _, t | .postAmountLess _ _, t
  | .postAmountGreater _ _, t | .postCommodity _, t => by
      simp [Filter.eval, Sat, optAny_iff, inBox2_iff, Dec.eqVal, Dec.ltVal]
theorem evalAll_sat (m : String → String → Bool) : ∀ (fs : List Filter) (t : Txn), Filter.evalAll m fs t = true ↔ SatAll m fs t
  | [], t => by simp [Filter.evalAll, SatAll]
  | f :: fs, t => by simp [Filter.evalAll, SatAll, eval_sat m f t, evalAll_sat m fs t]
theorem evalAny_sat (m : String → String → Bool) : ∀ (fs : List Filter) (t : Txn), Filter.evalAny m fs t = true ↔ SatAny m fs t
  | [], t => by simp [Filter.evalAny, SatAny]
  | f :: fs, t => by simp [Filter.evalAny, SatAny, eval_sat m f t, evalAny_sat m fs t]
end

/-! ### clauses of the property -/

theorem evalAll_eq (m : String → String → Bool) (t : Txn) : ∀ fs, Filter.evalAll m fs t = fs.all (fun f => Filter.eval m f t)
  | [] => rfl
  | f :: fs => by simp [Filter.evalAll, evalAll_eq m t fs]

theorem evalAny_eq (m : String → String → Bool) (t : Txn) : ∀ fs, Filter.evalAny m fs t = fs.any (fun f => Filter.eval m f t)
  | [] => rfl
  | f :: fs => by simp [Filter.evalAny, evalAny_eq m t fs]

/-- AND / OR / NOT compose as Boolean connectives (empty AND = true, empty OR = false) -/
theorem and_or_not (m : String → String → Bool) (fs : List Filter) (f : Filter) (t : Txn) :
    Filter.eval m (.and fs) t = fs.all (fun f => Filter.eval m f t) ∧
    Filter.eval m (.or fs) t = fs.any (fun f => Filter.eval m f t) ∧
    Filter.eval m (.not f) t = !Filter.eval m f t := by
  refine ⟨?_, ?_, ?_⟩
  · simp [Filter.eval, evalAll_eq]
  · simp [Filter.eval, evalAny_eq]
  · simp [Filter.eval]

/-- time windows are begin-inclusive, end-exclusive on the instant -/
theorem ts_half_open (m : String → String → Bool) (b e : Int) (t : Txn) :
    Filter.eval m (.and [.tsBegin b, .tsEnd e]) t = true ↔ b ≤ t.header.ts.ns ∧ t.header.ts.ns < e := by
  simp [Filter.eval, Filter.evalAll]

/-- a transaction and the same transaction with its written offset set to 0 are selected alike: the time filters
    look at the instant only -/
theorem ts_offset_irrelevant (m : String → String → Bool) (f : Filter) (t t' : Txn)
    (h : t' = { t with header := { t.header with ts := ⟨t.header.ts.ns, 0⟩ } }) (b : Int) :
    Filter.eval m (.tsBegin b) t = Filter.eval m (.tsBegin b) t' ∧
    Filter.eval m (.tsEnd b) t = Filter.eval m (.tsEnd b) t' := by
  subst h; simp [Filter.eval]

/-- posting filters need the account pattern and the amount condition on the *same* posting -/
theorem posting_same (m : String → String → Bool) (re : String) (x : Dec) (t : Txn) :
    (Filter.eval m (.postAmountEq re x) t = true ↔
        ∃ p ∈ t.posts, m re (acctName p.acct) = true ∧ p.amount.units = x.units) ∧
    (Filter.eval m (.postAmountLess re x) t = true ↔
        ∃ p ∈ t.posts, m re (acctName p.acct) = true ∧ p.amount.units < x.units) ∧
    (Filter.eval m (.postAmountGreater re x) t = true ↔
        ∃ p ∈ t.posts, m re (acctName p.acct) = true ∧ x.units < p.amount.units) := by
  refine ⟨?_, ?_, ?_⟩ <;> simp [Filter.eval, Dec.eqVal, Dec.ltVal, and_comm]

/-- bounding boxes are inclusive, wrap only when west > east, never match without a location -/
theorem bbox_spec (m : String → String → Bool) (s w n e : Dec) (t : Txn) :
    Filter.eval m (.bbox s w n e) t = true ↔
      ∃ g, t.header.location = some g ∧ s.units ≤ g.lat.units ∧ g.lat.units ≤ n.units ∧
        (if e.units < w.units then w.units ≤ g.lon.units ∨ g.lon.units ≤ e.units
         else w.units ≤ g.lon.units ∧ g.lon.units ≤ e.units) := by
  rw [eval_sat]; simp [Sat, InBox2]

theorem bbox_no_location (m : String → String → Bool) (s w n e d h : Dec) (t : Txn) (hl : t.header.location = none) :
    Filter.eval m (.bbox s w n e) t = false ∧ Filter.eval m (.bbox3 s w d n e h) t = false := by
  simp [Filter.eval, hl, optAny]

/-- the 3-D filter never matches a point without altitude -/
theorem bbox3d_no_altitude (m : String → String → Bool) (s w n e d h : Dec) (t : Txn) (g : Geo)
    (hl : t.header.location = some g) (ha : g.alt = none) : Filter.eval m (.bbox3 s w d n e h) t = false := by
  simp [Filter.eval, hl, optAny, ha]

theorem bbox3d_spec (m : String → String → Bool) (s w d n e h : Dec) (t : Txn) :
    Filter.eval m (.bbox3 s w d n e h) t = true ↔
      ∃ g z, t.header.location = some g ∧ g.alt = some z ∧ InBox2 s w n e g ∧ d.units ≤ z.units ∧ z.units ≤ h.units := by
  rw [eval_sat]; simp [Sat]

/-- a degenerate box (west = east) matches only that meridian (F3: the wrapping branch needs west > east) -/
theorem bbox_degenerate (m : String → String → Bool) (s w n : Dec) (t : Txn) (g : Geo)
    (hl : t.header.location = some g) (hne : g.lon.units ≠ w.units) : Filter.eval m (.bbox s w n w) t = false := by
  cases hb : Filter.eval m (.bbox s w n w) t with
  | false => rfl
  | true =>
    rw [bbox_spec] at hb
    obtain ⟨g', hg', _, _, hlon⟩ := hb
    rw [hl] at hg'; cases hg'
    simp at hlon
    omega

/-- filtering keeps the order of the transactions -/
theorem filter_order (m : String → String → Bool) (f : Filter) (ts : List Txn) : (filterTxns m f ts).Sublist ts :=
  List.filter_sublist

theorem filter_mem (m : String → String → Bool) (f : Filter) (ts : List Txn) (t : Txn) :
    t ∈ filterTxns m f ts ↔ t ∈ ts ∧ Sat m f t := by
  simp [filterTxns, List.mem_filter, eval_sat]

/-- a filter and its negation partition the set: every transaction is in exactly one of the two
    results, and the sizes add up -/
theorem partition (m : String → String → Bool) (f : Filter) (ts : List Txn) :
    (∀ t ∈ ts, (t ∈ filterTxns m f ts ∧ t ∉ filterTxns m (.not f) ts) ∨
               (t ∉ filterTxns m f ts ∧ t ∈ filterTxns m (.not f) ts)) ∧
    (filterTxns m f ts).length + (filterTxns m (.not f) ts).length = ts.length := by
  constructor
  · intro t ht
    simp only [filterTxns, List.mem_filter, Filter.eval]
    cases Filter.eval m f t <;> simp [ht]
  · simp only [filterTxns]
    induction ts with
    | nil => simp
    | cons a t ih =>
      simp only [List.filter_cons]
      have hn : Filter.eval m (.not f) a = !Filter.eval m f a := by simp [Filter.eval]
      rw [hn]
      cases Filter.eval m f a <;> simp <;> omega

/-- the negated filter selects what the filter rejects -/
theorem partition_interleave (m : String → String → Bool) (f : Filter) (ts : List Txn) :
    filterTxns m (.not f) ts = ts.filter (fun t => !Filter.eval m f t) := by
  simp [filterTxns, Filter.eval]

/-- the size of the selection is the number of transactions the evaluator accepts -/
theorem filter_size (m : String → String → Bool) (f : Filter) (ts : List Txn) :
    (filterTxns m f ts).length = (ts.filter (Filter.eval m f)).length := rfl

/-! ### non-vacuity -/

def mEq : String → String → Bool := fun p h => p == h
def g0 : Geo := ⟨Dec.ofInt 60, Dec.ofInt 50, none⟩
def tx : Txn := ⟨⟨⟨100, 0⟩, some "c", none, none, some g0, none, none⟩, [⟨["a"], "", Dec.ofInt 5, Dec.ofInt 5, false, "", none⟩]⟩

example : Filter.eval mEq (.and [.tsBegin 100, .tsEnd 101, .code "c", .postAmountEq "a" (Dec.ofInt 5)]) tx = true := by decide
example : Filter.eval mEq (.tsEnd 100) tx = false := by decide
/-- witness for F3: west = east = 10 does not select longitude 50 -/
example : Filter.eval mEq (.bbox (Dec.ofInt 0) (Dec.ofInt 10) (Dec.ofInt 90) (Dec.ofInt 10)) tx = false := by decide
/-- wrapping box 170 … −170 does not contain longitude 50, box 40 … −170 (wrapping) does -/
example : Filter.eval mEq (.bbox (Dec.ofInt 0) (Dec.ofInt 170) (Dec.ofInt 90) (Dec.ofInt (-170))) tx = false := by decide
example : Filter.eval mEq (.bbox (Dec.ofInt 0) (Dec.ofInt 40) (Dec.ofInt 90) (Dec.ofInt (-170))) tx = true := by decide

end C05
end Tackler
