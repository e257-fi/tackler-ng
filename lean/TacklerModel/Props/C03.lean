import TacklerModel.Lemmas.Register
import TacklerModel.Lemmas.Order
import TacklerModel.Props.C01
/-!
# C03 — register report: canonical order and exact running totals

Property theorems over `Model/Register.lean` (the transliteration of `register_engine`) and the load-time
sort of `Model/Order.lean` (`TxnData::from`, `impl Ord for TxnHeader`).

* value layer = `Dec.units` (integer number of 10⁻²⁸ units);
* exact domain = the engine returned `.ok` (a running total that is not exactly representable makes it
  `.undef`, DESIGN.md F17);
* `TxnsWF` / `StreamWF` = the representation invariant `scale ≤ 28` of every `Decimal` amount;
* the engine is generic in the stream of (possibly price-converted) items; the theorems come in a stream
  form (`…_stream`, for C07 to instantiate) and in the plain form for the report without conversion
  (`register`), which is what the property talks about.
-/
namespace Tackler
namespace C03
open Reg

/-! ### definitions -/

def StreamWF (stream : List (Txn × List RItem)) : Prop := ∀ x ∈ stream, ∀ it ∈ x.2, it.amount.scale ≤ 28

def TxnsWF (txns : List Txn) : Prop := ∀ t ∈ txns, ∀ p ∈ t.posts, p.amount.scale ≤ 28

/-- all items of a stream, in transaction order -/
def itemsOf (stream : List (Txn × List RItem)) : List RItem := stream.flatMap (·.2)

/-- an entry with the rows a selector rejects removed -/
def hide (sel : RegRow → Bool) (e : RegEntry) : RegEntry := ⟨e.txn, e.rows.filter sel⟩

/-- `Ord for TxnAccount` on the posting's own account key -/
def postLe (a b : Posting) : Bool := keyLe a.acctnKey b.acctnKey

/-- the postings of a transaction in the order an entry lists them -/
def sortedPosts (t : Txn) : List Posting := t.posts.mergeSort postLe

/-- Σ of the amounts of the postings to (commodity, account) `k` -/
def postSum (k : AKey) (ps : List Posting) : Int :=
  ((ps.filter (fun p => decide (p.acctnKey = k))).map (fun p => p.amount.units)).sum

/-- the balance report's account sum of `k`: Σ over the whole posting stream -/
def ownSpec (txns : List Txn) (k : AKey) : Int :=
  (((postsOf txns).filter (fun p => decide (p.key = k))).map (fun p => p.amount.units)).sum

/-- the last row shown for (commodity, account) `k` -/
def lastRow (k : AKey) (R : List RegRow) : Option RegRow := (R.filter (fun r => decide (r.key = k))).getLast?

/-! ### load order -/

/-- **load_sorted**: the load-time sort yields the canonical order (`hdrLe`: instant, code, description,
    uuid, lexicographically – `hdrLe_eq_lex`) and keeps exactly the given transactions -/
theorem load_sorted (ts : List Txn) :
    (sortTxns ts).Pairwise (fun a b => txnLe a b = true) ∧ (sortTxns ts).Perm ts :=
  ⟨sortTxns_sorted ts, sortTxns_perm ts⟩

/-- what the canonical order says in plain terms: by instant, then code (absent = ""), then description, then
    uuid text; (headers equal in all four are ordered absent-before-empty, `hdrLe_antisymm`) -/
theorem canonical_order (a b : Txn) (h : txnLe a b = true) :
    a.header.ts.ns ≤ b.header.ts.ns ∧
    (a.header.ts.ns = b.header.ts.ns → optStr a.header.code ≤ optStr b.header.code ∧
      (optStr a.header.code = optStr b.header.code → optStr a.header.desc ≤ optStr b.header.desc ∧
        (optStr a.header.desc = optStr b.header.desc → optStr a.header.uuid ≤ optStr b.header.uuid))) := by
  unfold txnLe at h
  rw [hdrLe_eq_lex] at h
  obtain ⟨n, h⟩ := lexLe_fst_le_snd_le intLt_lin h
  refine ⟨Int.not_lt.mp (of_decide_eq_false n), fun e => ?_⟩
  obtain ⟨c, h⟩ := lexLe_fst_le_snd_le strLt_lin (h e)
  refine ⟨String.not_lt.mp (of_decide_eq_false c), fun e => ?_⟩
  obtain ⟨d, h⟩ := lexLe_fst_le_snd_le strLt_lin (h e)
  refine ⟨String.not_lt.mp (of_decide_eq_false d), fun e => ?_⟩
  obtain ⟨u, -⟩ := lexLe_fst_le_snd_le strLt_lin (h e)
  exact String.not_lt.mp (of_decide_eq_false u)

/-- the same for a loaded journal: what `string_to_txns` returns is the accepted set in canonical order -/
theorem load_sorted_journal (st st' : Settings) (rs : List RawTxn) (ts : List Txn)
    (h : loadJournal st rs = .ok (ts, st')) :
    ts.Pairwise (fun a b => txnLe a b = true) ∧
    ∃ acc, acceptJournal st rs = .ok (acc, st') ∧ ts.Perm acc := by
  obtain ⟨acc, h0, rfl⟩ := loadJournal_some h
  exact ⟨sortTxns_sorted acc, acc, h0, sortTxns_perm acc⟩

/-! ### loaded journals satisfy the representation invariant -/

/-- the posting amounts of one accepted transaction have at most 28 decimals -/
theorem accepted_wf (st st' : Settings) (r : RawTxn) (t : Txn) (hwf : C01.RawWF r)
    (h : acceptTxn st r = .ok (t, st')) : ∀ p ∈ t.posts, p.amount.scale ≤ 28 := by
  obtain ⟨st1, _, _, hps, _⟩ := acceptTxn_balanced st st' r t h
  obtain ⟨p0, rest, hgood, _, hshape⟩ := C01.acceptPostings_shape st1 st' r hwf t.posts hps
  have hmain : ∀ q ∈ p0 :: rest, q.amount.scale ≤ 28 := by
    intro q hq
    obtain ⟨⟨rp, hrp, hg⟩, _⟩ := hgood q hq
    rw [hg.amount]; exact (hwf rp hrp).1
  rcases hshape with ⟨_, e⟩ | ⟨a, cmt, l, _, e, _, _, _, _, _, _, _, _, hl⟩
  · rw [e]; exact hmain
  · intro q hq
    rw [e] at hq
    rcases List.mem_append.mp hq with h1 | h1
    · exact hmain q h1
    · simp at h1; subst h1; exact hl

/-- **loaded_wf**: numbers that come out of the parser have at most 28 decimals (`C01.ofToken_wf`), hence so has
    every posting amount of a loaded journal – the hypothesis `TxnsWF` of the theorems below holds for every
    journal the implementation can load -/
theorem loaded_wf (st st' : Settings) (rs : List RawTxn) (ts : List Txn) (hwf : ∀ r ∈ rs, C01.RawWF r)
    (h : loadJournal st rs = .ok (ts, st')) : TxnsWF ts := by
  obtain ⟨acc, h0, rfl⟩ := loadJournal_some h
  intro t ht
  obtain ⟨r, hr, s1, s2, hf⟩ := mapMS_ok acceptTxn _ st st' acc h0 t ((sortTxns_perm acc).subset ht)
  exact accepted_wf s1 s2 r t (hwf r hr) hf

/-! ### the selector only hides -/

@[simp] theorem filter_selAll (l : List RegRow) : l.filter selAll = l :=
  List.filter_eq_self.mpr (fun _ _ => rfl)

theorem registerLoop_hide (sel : RegRow → Bool) : ∀ (stream : List (Txn × List RItem)) (m : RegMap),
    registerLoop sel m stream = (registerLoop selAll m stream).map (fun es => es.map (hide sel)) := by
  intro stream
  induction stream with
  | nil => intro m; simp [registerLoop]
  | cons x rest ih =>
    intro m
    obtain ⟨t, items⟩ := x
    rw [registerLoop_cons, registerLoop_cons]
    cases accPostings m (sortItems items) with
    | none => rfl
    | some y => cases h : registerLoop selAll y.1 rest <;> simp [ih y.1, h, hide]

/-- **selector_only_hides** (stream form): the report with a selector is the report without selector with
    the rejected rows removed, entry by entry – in particular it exists exactly when the unrestricted one
    does, and no shown row (account, amount, running total, commodity) is altered -/
theorem selector_only_hides_stream (sel : RegRow → Bool) (stream : List (Txn × List RItem)) :
    registerEngine sel stream = (registerEngine selAll stream).map (fun es => es.map (hide sel)) := by
  unfold registerEngine
  rw [registerLoop_hide sel]
  cases registerLoop selAll RegMap.empty stream <;> simp [Outcome.ofOption, Outcome.map]

theorem selector_only_hides (sel : RegRow → Bool) (txns : List Txn) :
    register sel txns = (register selAll txns).map (fun es => es.map (hide sel)) :=
  selector_only_hides_stream sel _

/-- … and what is printed are the entries that still have a row: entries left empty vanish, nothing else -/
theorem selector_printed (sel : RegRow → Bool) (txns : List Txn) (es : List RegEntry)
    (h : register selAll txns = .ok es) :
    ∃ es', register sel txns = .ok es' ∧
      printedEntries es' = (es.map (hide sel)).filter (fun e => !e.rows.isEmpty) ∧
      ∀ e' ∈ printedEntries es', ∃ e ∈ es, e'.txn = e.txn ∧ e'.rows = e.rows.filter sel ∧ e'.rows ≠ [] := by
  refine ⟨es.map (hide sel), ?_, rfl, ?_⟩
  · rw [selector_only_hides, h]; rfl
  · intro e' he'
    simp only [printedEntries, List.mem_filter, List.mem_map] at he'
    obtain ⟨⟨e, he, rfl⟩, hne⟩ := he'
    refine ⟨e, he, rfl, rfl, ?_⟩
    intro hn
    simp [hn] at hne

/-! ### entry order -/

theorem registerLoop_txns (sel : RegRow → Bool) : ∀ (stream : List (Txn × List RItem)) (m : RegMap)
    (es : List RegEntry), registerLoop sel m stream = some es → es.map (·.txn) = stream.map (·.1) := by
  intro stream
  induction stream with
  | nil => intro m es h; cases h; rfl
  | cons x rest ih =>
    intro m es h
    obtain ⟨m', rows, es', -, h2, rfl⟩ := registerLoop_cons_some h
    simp [ih _ _ h2]

theorem registerEngine_ok_iff (sel : RegRow → Bool) (stream : List (Txn × List RItem)) (es : List RegEntry) :
    registerEngine sel stream = .ok es ↔ registerLoop sel RegMap.empty stream = some es := by
  unfold registerEngine
  cases registerLoop sel RegMap.empty stream <;> simp [Outcome.ofOption]

theorem register_order_stream (sel : RegRow → Bool) (stream : List (Txn × List RItem)) (es : List RegEntry)
    (h : registerEngine sel stream = .ok es) :
    es.map (·.txn) = stream.map (·.1) ∧ ((printedEntries es).map (·.txn)).Sublist (stream.map (·.1)) := by
  have h1 := registerLoop_txns sel stream _ es ((registerEngine_ok_iff sel stream es).mp h)
  refine ⟨h1, ?_⟩
  rw [← h1]
  exact List.Sublist.map _ List.filter_sublist

/-- **register_order**: the engine makes one entry per transaction in the order it is given, and the printed
    entries are a sublist of the transactions, in that order -/
theorem register_order (sel : RegRow → Bool) (txns : List Txn) (es : List RegEntry)
    (h : register sel txns = .ok es) :
    es.map (·.txn) = txns ∧ ((printedEntries es).map (·.txn)).Sublist txns := by
  have := register_order_stream sel (plainStream txns) es h
  simpa [plainStream, Function.comp_def] using this

/-- entries of a loaded journal come in canonical order: a sublist of the sorted accepted set -/
theorem register_order_loaded (sel : RegRow → Bool) (ts : List Txn) (es : List RegEntry)
    (h : register sel (sortTxns ts) = .ok es) :
    ((printedEntries es).map (·.txn)).Sublist (sortTxns ts) ∧
    ((printedEntries es).map (·.txn)).Pairwise (fun a b => txnLe a b = true) := by
  have h1 := (register_order sel _ es h).2
  exact ⟨h1, (sortTxns_sorted ts).sublist h1⟩

/-! ### running totals -/

theorem itemsOf_cons (t : Txn) (items : List RItem) (rest : List (Txn × List RItem)) :
    itemsOf ((t, items) :: rest) = items ++ itemsOf rest := by simp [itemsOf]

theorem sortItems_length (items : List RItem) : (sortItems items).length = items.length :=
  (sortItems_perm items).length_eq

/-- the invariant of the engine, from any map holding the sums of `prev`: row `j` of entry `i` shows, under its key,
    `prev` + the earlier transactions + its own items up to `j`, with a stored scale ≤ 28 -/
theorem registerLoop_spec : ∀ (stream : List (Txn × List RItem)) (m : RegMap) (prev : List RItem)
    (es : List RegEntry), MapInv m prev → StreamWF stream → registerLoop selAll m stream = some es →
    es.length = stream.length ∧
    ∀ i e, es[i]? = some e → ∃ t items, stream[i]? = some (t, items) ∧ e.txn = t ∧
      e.rows.length = items.length ∧
      ∀ j r, e.rows[j]? = some r → ∃ it, (sortItems items)[j]? = some it ∧ RowOf it r ∧
        r.total.units = keySum it.key prev + keySum it.key (itemsOf (stream.take i))
                          + keySum it.key ((sortItems items).take (j + 1)) ∧ r.total.scale ≤ 28 := by
  intro stream
  induction stream with
  | nil =>
    intro m prev es _ _ h
    cases h
    simp
  | cons x rest ih =>
    intro m prev es hinv hwf h
    obtain ⟨t, items⟩ := x
    obtain ⟨m1, rows, es', h1, h2, rfl⟩ := registerLoop_cons_some h
    have hwf1 : ∀ it ∈ sortItems items, it.amount.scale ≤ 28 := fun it hit =>
      hwf (t, items) List.mem_cons_self it ((sortItems_perm items).subset hit)
    have s1 := accPostings_spec (sortItems items) m m1 prev rows hinv hwf1 h1
    have s2 := ih m1 (prev ++ sortItems items) es' s1.1 (fun x hx => hwf x (List.mem_cons_of_mem _ hx)) h2
    refine ⟨by simp [s2.1], ?_⟩
    intro i e hi
    cases i with
    | zero =>
      simp at hi; subst hi
      refine ⟨t, items, by simp, rfl, by simp [s1.2.1, sortItems_length], ?_⟩
      intro j r hj
      obtain ⟨it, hit, hr, ht, h28⟩ := s1.2.2 j r (by simpa using hj)
      exact ⟨it, hit, hr, by rw [ht, keySum_append]; simp [itemsOf], h28⟩
    | succ i =>
      simp only [List.getElem?_cons_succ] at hi
      obtain ⟨t', items', hst, htx, hlen, hrows⟩ := s2.2 i e hi
      refine ⟨t', items', by simpa using hst, htx, hlen, ?_⟩
      intro j r hj
      obtain ⟨it, hit, hr, ht, h28⟩ := hrows j r hj
      refine ⟨it, hit, hr, ?_, h28⟩
      rw [ht, keySum_append, keySum_sortItems, List.take_succ_cons, itemsOf_cons, keySum_append]
      omega

/-- **running_total** (stream form): row `j` of entry `i` shows the sum of everything accumulated under its key
    in the transactions before `i`, plus the items of transaction `i` at in-entry positions `≤ j` -/
theorem running_total_stream (stream : List (Txn × List RItem)) (es : List RegEntry)
    (hwf : StreamWF stream) (h : registerEngine selAll stream = .ok es) :
    es.length = stream.length ∧
    ∀ i e, es[i]? = some e → ∃ t items, stream[i]? = some (t, items) ∧ e.txn = t ∧
      e.rows.length = items.length ∧
      ∀ j r, e.rows[j]? = some r → ∃ it, (sortItems items)[j]? = some it ∧ RowOf it r ∧
        r.total.units = keySum it.key (itemsOf (stream.take i)) + keySum it.key ((sortItems items).take (j + 1)) := by
  have h0 := registerLoop_spec stream RegMap.empty [] es mapInv_empty hwf ((registerEngine_ok_iff _ _ _).mp h)
  refine ⟨h0.1, fun i e hi => ?_⟩
  obtain ⟨t, items, hst, htx, hlen, hrows⟩ := h0.2 i e hi
  refine ⟨t, items, hst, htx, hlen, fun j r hj => ?_⟩
  obtain ⟨it, hit, hr, ht, -⟩ := hrows j r hj
  exact ⟨it, hit, hr, by simpa using ht⟩

/-- `registerLoop_spec` without the positions -/
theorem rows_wf_stream (stream : List (Txn × List RItem)) (es : List RegEntry)
    (hwf : StreamWF stream) (h : registerEngine selAll stream = .ok es) :
    ∀ e ∈ es, ∀ r ∈ e.rows, r.total.scale ≤ 28 ∧ ∃ x ∈ stream, ∃ it ∈ x.2, r.post = it.post := by
  have h0 := registerLoop_spec stream RegMap.empty [] es mapInv_empty hwf ((registerEngine_ok_iff _ _ _).mp h)
  intro e he r hr
  obtain ⟨i, hi⟩ := List.mem_iff_getElem?.mp he
  obtain ⟨j, hj⟩ := List.mem_iff_getElem?.mp hr
  obtain ⟨t, items, hst, -, -, hrows⟩ := h0.2 i e hi
  obtain ⟨it, hit, hrow, -, h28⟩ := hrows j r hj
  exact ⟨h28, (t, items), List.mem_of_getElem? hst, it,
    (sortItems_perm items).subset (List.mem_of_getElem? hit), hrow.1⟩

/-! #### without price conversion -/

def mkItem (p : Posting) : RItem := ⟨p, p.comm, p.amount, none⟩

theorem noConv_eq (t : Txn) : noConv t = t.posts.map mkItem := rfl

theorem sortItems_noConv (t : Txn) : sortItems (noConv t) = (sortedPosts t).map mkItem := by
  unfold sortItems sortedPosts
  rw [noConv_eq]
  exact (List.map_mergeSort (r := postLe) (s := itemLe) (f := mkItem) (l := t.posts) (fun a _ b _ => rfl)).symm

theorem keySum_map_mkItem (k : AKey) (ps : List Posting) : keySum k (ps.map mkItem) = postSum k ps := by
  unfold keySum postSum
  rw [List.filter_map, List.map_map]
  rfl

theorem itemsOf_plainStream (txns : List Txn) :
    itemsOf (plainStream txns) = (txns.flatMap (·.posts)).map mkItem := by
  induction txns with
  | nil => rfl
  | cons t ts ih =>
    have : plainStream (t :: ts) = (t, noConv t) :: plainStream ts := rfl
    rw [this, itemsOf_cons, ih, noConv_eq]
    simp

theorem plainStream_wf (txns : List Txn) (h : TxnsWF txns) : StreamWF (plainStream txns) := by
  intro x hx it hit
  simp only [plainStream, List.mem_map] at hx
  obtain ⟨t, ht, rfl⟩ := hx
  simp only [noConv, List.mem_map] at hit
  obtain ⟨p, hp, rfl⟩ := hit
  exact h t ht p hp

/-- `sortedPosts` is the stable sort by (commodity, account name): a permutation of the postings, ordered, and
    postings with the same key keep their written order -/
theorem sortedPosts_spec (t : Txn) :
    (sortedPosts t).Perm t.posts ∧ (sortedPosts t).Pairwise (fun a b => postLe a b = true) ∧
    ∀ c : List Posting, c.Pairwise (fun a b => postLe a b = true) → c.Sublist t.posts → c.Sublist (sortedPosts t) := by
  refine ⟨List.mergeSort_perm _ _, ?_, ?_⟩
  · exact List.pairwise_mergeSort (le := postLe) (fun a b c => KeyOrder.keyLe_trans _ _ _)
      (fun a b => KeyOrder.keyLe_total _ _) t.posts
  · intro c hc hs
    exact List.sublist_mergeSort (le := postLe) (fun a b c => KeyOrder.keyLe_trans _ _ _)
      (fun a b => KeyOrder.keyLe_total _ _) hc hs

/-- **running_total**: in the report without selector there is one entry per transaction; entry `i` lists the
    postings of transaction `i` in `sortedPosts` order, and row `j` shows as running total the exact sum of all
    postings to the same (commodity, account) in the transactions before `i` plus those of transaction `i` at
    in-entry positions `≤ j`.  (With a selector the rows are the same rows, `selector_only_hides`.) -/
theorem running_total (txns : List Txn) (es : List RegEntry) (hwf : TxnsWF txns)
    (h : register selAll txns = .ok es) :
    es.length = txns.length ∧
    ∀ i e, es[i]? = some e → ∃ t, txns[i]? = some t ∧ e.txn = t ∧ e.rows.length = t.posts.length ∧
      ∀ j r, e.rows[j]? = some r → ∃ p, (sortedPosts t)[j]? = some p ∧ r.post = p ∧ r.comm = p.comm ∧
        r.total.units = postSum p.acctnKey ((txns.take i).flatMap (·.posts))
                          + postSum p.acctnKey ((sortedPosts t).take (j + 1)) := by
  have hs := running_total_stream (plainStream txns) es (plainStream_wf txns hwf) h
  refine ⟨by simpa [plainStream] using hs.1, ?_⟩
  intro i e hi
  obtain ⟨t', items, hst, htx, hlen, hrows⟩ := hs.2 i e hi
  simp only [plainStream, List.getElem?_map, Option.map_eq_some_iff] at hst
  obtain ⟨t, ht, hpair⟩ := hst
  injection hpair with e1 e2
  subst e1 e2
  refine ⟨t, ht, htx, by simpa [noConv] using hlen, ?_⟩
  intro j r hj
  obtain ⟨it, hit, hr, htot⟩ := hrows j r hj
  rw [sortItems_noConv] at hit htot
  simp only [List.getElem?_map, Option.map_eq_some_iff] at hit
  obtain ⟨p, hp, rfl⟩ := hit
  refine ⟨p, hp, hr.1, hr.2.1, ?_⟩
  have e1 : (plainStream txns).take i = plainStream (txns.take i) := by simp [plainStream, List.map_take]
  rw [htot, e1, itemsOf_plainStream, keySum_map_mkItem, ← List.map_take, keySum_map_mkItem]
  rfl

/-! ### last running total = account sum -/

def LastInv (m : RegMap) (R : List RegRow) : Prop := ∀ k r, lastRow k R = some r → m k = some r.total

theorem lastRow_append_one (k : AKey) (R : List RegRow) (r : RegRow) :
    lastRow k (R ++ [r]) = if r.key = k then some r else lastRow k R := by
  unfold lastRow
  by_cases h : r.key = k <;> simp [List.filter_append, h]

theorem accPosting_last (m m' : RegMap) (R : List RegRow) (it : RItem) (r : RegRow)
    (hinv : LastInv m R) (h : accPosting m it = some (m', r)) : LastInv m' (R ++ [r]) := by
  obtain ⟨tot, rfl, rfl, -⟩ := accPosting_some h
  intro k r' hl
  rw [lastRow_append_one] at hl
  unfold RegMap.set
  split at hl
  · rename_i hk
    cases hl
    exact if_pos hk.symm
  · rename_i hk
    have : ¬ k = it.key := fun e => hk e.symm
    simp [this, hinv k r' hl]

theorem accPostings_last : ∀ (l : List RItem) (m m' : RegMap) (R rows : List RegRow),
    LastInv m R → accPostings m l = some (m', rows) → LastInv m' (R ++ rows) := by
  intro l
  induction l with
  | nil => intro m m' R rows hinv h; cases h; simpa using hinv
  | cons it rest ih =>
    intro m m' R rows hinv h
    obtain ⟨m1, r, rs, h1, h2, rfl⟩ := accPostings_cons_some h
    simpa [List.append_assoc] using ih m1 m' (R ++ [r]) rs (accPosting_last m m1 R it r hinv h1) h2

/-- without selector the register is one accumulation over all items, in the order they are listed -/
theorem registerLoop_flat : ∀ (stream : List (Txn × List RItem)) (m : RegMap) (es : List RegEntry),
    registerLoop selAll m stream = some es →
    ∃ mf, accPostings m (stream.flatMap (fun x => sortItems x.2)) = some (mf, es.flatMap (·.rows)) := by
  intro stream
  induction stream with
  | nil => intro m es h; cases h; exact ⟨m, rfl⟩
  | cons x rest ih =>
    intro m es h
    obtain ⟨m1, rows, es', h1, h2, rfl⟩ := registerLoop_cons_some h
    obtain ⟨mf, hf⟩ := ih m1 es' h2
    exact ⟨mf, by simpa using accPostings_append _ _ _ _ _ _ _ h1 hf⟩

theorem keySum_flatMap_sortItems (k : AKey) (stream : List (Txn × List RItem)) :
    keySum k (stream.flatMap (fun x => sortItems x.2)) = keySum k (itemsOf stream) := by
  induction stream with
  | nil => rfl
  | cons x rest ih =>
    obtain ⟨t, items⟩ := x
    rw [List.flatMap_cons, keySum_append, keySum_sortItems, ih, itemsOf_cons, keySum_append]

theorem last_total_stream (stream : List (Txn × List RItem)) (es : List RegEntry) (hwf : StreamWF stream)
    (h : registerEngine selAll stream = .ok es) (k : AKey) (r : RegRow)
    (hl : lastRow k (es.flatMap (·.rows)) = some r) :
    r.total.units = keySum k (itemsOf stream) := by
  obtain ⟨mf, hf⟩ := registerLoop_flat stream _ es ((registerEngine_ok_iff _ _ _).mp h)
  have hwf' : ∀ it ∈ stream.flatMap (fun x => sortItems x.2), it.amount.scale ≤ 28 := by
    intro it hit
    obtain ⟨x, hx, hix⟩ := List.mem_flatMap.mp hit
    exact hwf x hx it ((sortItems_perm x.2).subset hix)
  have hm := (accPostings_spec _ _ _ [] _ mapInv_empty hwf' hf).1
  have hlast := accPostings_last _ _ _ [] _ (fun k r h => by simp [lastRow] at h) hf
  rw [(hm.1 k _ (hlast k r (by simpa using hl))).1]
  simpa using keySum_flatMap_sortItems k stream

theorem keySum_plain (k : AKey) (txns : List Txn) : keySum k (itemsOf (plainStream txns)) = ownSpec txns k := by
  rw [itemsOf_plainStream, keySum_map_mkItem]
  unfold postSum ownSpec postsOf
  rw [← List.map_flatMap, List.filter_map, List.map_map]
  rfl

/-- **last_total_balance**: the last running total shown for a (commodity, account) is the exact sum of all its
    postings – the balance report's account sum (`ownSpec`; C02 `own_sum` states the balance side) -/
theorem last_total_balance (txns : List Txn) (es : List RegEntry) (hwf : TxnsWF txns)
    (h : register selAll txns = .ok es) (k : AKey) (r : RegRow)
    (hl : lastRow k (es.flatMap (·.rows)) = some r) :
    r.total.units = ownSpec txns k := by
  rw [← keySum_plain]
  exact last_total_stream (plainStream txns) es (plainStream_wf txns hwf) h k r hl

theorem last_total_exists_stream (stream : List (Txn × List RItem)) (es : List RegEntry)
    (h : registerEngine selAll stream = .ok es) (k : AKey) (hk : ∃ it ∈ itemsOf stream, it.key = k) :
    ∃ r, lastRow k (es.flatMap (·.rows)) = some r := by
  obtain ⟨mf, hf⟩ := registerLoop_flat stream _ es ((registerEngine_ok_iff _ _ _).mp h)
  obtain ⟨it, hit, hitk⟩ := hk
  have hmem : k ∈ (stream.flatMap (fun x => sortItems x.2)).map (·.key) := by
    rw [List.mem_map]
    refine ⟨it, ?_, hitk⟩
    simp only [itemsOf, List.mem_flatMap] at hit ⊢
    obtain ⟨x, hx, hix⟩ := hit
    exact ⟨x, hx, (sortItems_perm x.2).mem_iff.mpr hix⟩
  rw [← (accPostings_shape _ _ _ _ hf).2, List.mem_map] at hmem
  obtain ⟨r, hr, hrk⟩ := hmem
  have : r ∈ List.filter (fun r => decide (r.key = k)) (es.flatMap (·.rows)) := by
    simp [List.mem_filter, hr, hrk]
  exact Option.isSome_iff_exists.mp (List.getLast?_isSome.mpr (List.ne_nil_of_mem this))

/-- every posted (commodity, account) has a last running total (so `last_total_balance` is about all of them) -/
theorem last_total_exists (txns : List Txn) (es : List RegEntry) (h : register selAll txns = .ok es)
    (k : AKey) (hk : ∃ p ∈ postsOf txns, p.key = k) : ∃ r, lastRow k (es.flatMap (·.rows)) = some r := by
  apply last_total_exists_stream (plainStream txns) es h k
  obtain ⟨p, hp, hpk⟩ := hk
  simp only [postsOf, List.mem_flatMap, List.mem_map] at hp
  obtain ⟨t, ht, q, hq, rfl⟩ := hp
  refine ⟨mkItem q, ?_, hpk⟩
  rw [itemsOf_plainStream]
  simp only [List.mem_map, List.mem_flatMap]
  exact ⟨q, ⟨t, ht, hq⟩, rfl⟩

/-! ### running totals under a selector -/

/-- **running_total_selected**: with any selector, every shown row of entry `i` is accepted by the selector, is the
    row of some in-entry position `j` of transaction `i`, and shows the exact prefix sum of `running_total` –
    hidden postings are accumulated all the same -/
theorem running_total_selected (sel : RegRow → Bool) (txns : List Txn) (es : List RegEntry) (hwf : TxnsWF txns)
    (h : register sel txns = .ok es) :
    es.length = txns.length ∧
    ∀ i e, es[i]? = some e → ∃ t, txns[i]? = some t ∧ e.txn = t ∧
      ∀ r ∈ e.rows, sel r = true ∧ ∃ j p, (sortedPosts t)[j]? = some p ∧ r.post = p ∧ r.comm = p.comm ∧
        r.total.units = postSum p.acctnKey ((txns.take i).flatMap (·.posts))
                          + postSum p.acctnKey ((sortedPosts t).take (j + 1)) := by
  rw [selector_only_hides, Outcome.map_ok] at h
  obtain ⟨es0, h0, rfl⟩ := h
  have hs := running_total txns es0 hwf h0
  refine ⟨by simpa using hs.1, ?_⟩
  intro i e hi
  simp only [List.getElem?_map, Option.map_eq_some_iff] at hi
  obtain ⟨e0, he0, rfl⟩ := hi
  obtain ⟨t, ht, htx, _, hrows⟩ := hs.2 i e0 he0
  refine ⟨t, ht, htx, ?_⟩
  intro r hr
  simp only [hide, List.mem_filter] at hr
  obtain ⟨j, hj⟩ := List.mem_iff_getElem?.mp hr.1
  obtain ⟨p, hp, h1, h2, h3⟩ := hrows j r hj
  exact ⟨hr.2, j, p, hp, h1, h2, h3⟩

/-! ### non-vacuity: concrete journals meeting the hypotheses, and the boundary of the exact domain -/

def d (n : Int) : Dec := Dec.ofInt n
def hdr (ns : Int) : Header := ⟨⟨ns, 0⟩, none, none, none, none, none, none⟩
def po (a : String) (n : Int) : Posting := ⟨[a], "", d n, d n, false, "", none⟩
def tx1 : Txn := ⟨hdr 0, [po "a" 10, po "b" (-10)]⟩
/-- postings written `b, a, a`: listed (and accumulated) as `a, a, b` -/
def tx2 : Txn := ⟨hdr 1, [po "b" 5, po "a" (-2), po "a" (-3)]⟩
def tx3 : Txn := ⟨hdr 2, [po "c" 1, po "b" (-1)]⟩
def row (a : String) (n tot : Int) : RegRow := ⟨po a n, d tot, "", none⟩

/-- the same account twice in one transaction: two rows, totals 10 - 2 = 8 and 8 - 3 = 5 -/
theorem example_register : register selAll [tx1, tx2, tx3] = .ok [
    ⟨tx1, [row "a" 10 10, row "b" (-10) (-10)]⟩,
    ⟨tx2, [row "a" (-2) 8, row "a" (-3) 5, row "b" 5 (-5)]⟩,
    ⟨tx3, [row "b" (-1) (-6), row "c" 1 1]⟩] := by
  simp [register, registerEngine, plainStream, registerLoop, registerTxn, accPostings, accPosting, noConv,
    List.mergeSort, List.MergeSort.Internal.splitInTwo, itemLe, rowLe, Posting.acctnKey, keyLe, acctName,
    tx1, tx2, tx3, po, row, d, RegMap.set, RegMap.empty, RItem.key, Outcome.ofOption, Dec.add, Dec.ofInt,
    Dec.isZero, sgn, max96]

example : TxnsWF [tx1, tx2, tx3] := by
  unfold TxnsWF
  decide

/-- selector `c`: the entries of `tx1` and `tx2` are left empty and vanish; the row of `c` is unchanged -/
example : (register (fun r => r.post.acct == ["c"]) [tx1, tx2, tx3]).map printedEntries
    = .ok [⟨tx3, [row "c" 1 1]⟩] := by
  rw [selector_only_hides, example_register]
  decide

/-- selector `b`: running totals of `b` are those of the full report (-10, -5, -6) -/
example : (register (fun r => r.post.acct == ["b"]) [tx1, tx2, tx3]).map printedEntries
    = .ok [⟨tx1, [row "b" (-10) (-10)]⟩, ⟨tx2, [row "b" 5 (-5)]⟩, ⟨tx3, [row "b" (-1) (-6)]⟩] := by
  rw [selector_only_hides, example_register]
  decide

/-- last rows: `a` ends at 5 = 10 - 2 - 3, the account sum of the balance report -/
example : lastRow ("", ["a"]) ([row "a" 10 10, row "b" (-10) (-10), row "a" (-2) 8, row "a" (-3) 5, row "b" 5 (-5)])
    = some (row "a" (-3) 5) := by
  decide

example : ownSpec [tx1, tx2, tx3] ("", ["a"]) = (d 5).units := by
  decide

/-- outside the exact domain (F17): `7922816251426433759354395033.5 + 0.05` is not representable; the engine
    is undefined there instead of showing a rounded total -/
example : register selAll
    [⟨hdr 0, [⟨["a"], "", ⟨false, 79228162514264337593543950335, 1⟩, ⟨false, 79228162514264337593543950335, 1⟩, false, "", none⟩]⟩,
     ⟨hdr 1, [⟨["a"], "", ⟨false, 5, 2⟩, ⟨false, 5, 2⟩, false, "", none⟩]⟩] = .undef := by
  simp [register, registerEngine, plainStream, registerLoop, registerTxn, accPostings, accPosting, noConv,
    RegMap.set, RegMap.empty, RItem.key, Outcome.ofOption, Dec.add, Dec.isZero, sgn, max96]

/-- equal instants, headers differing only in the code: loaded in code order whatever the written order -/
example : sortTxns [⟨{ hdr 7 with code := some "b" }, []⟩, ⟨{ hdr 7 with code := some "a" }, []⟩, ⟨hdr 3, []⟩]
    = [⟨hdr 3, []⟩, ⟨{ hdr 7 with code := some "a" }, []⟩, ⟨{ hdr 7 with code := some "b" }, []⟩] := by
  simp [sortTxns, List.mergeSort, List.MergeSort.Internal.splitInTwo, txnLe, hdrLe, hdrKey, hdr, optStr]

end C03
end Tackler
