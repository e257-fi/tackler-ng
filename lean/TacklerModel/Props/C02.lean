import TacklerModel.Lemmas.BalanceSpec
import TacklerModel.Props.C01
/-!
# C02 — balance report figures are the exact sums of the postings

Property theorems over the balance kernel of `Model/Balance.lean` (the transliteration of `Balance::balance`,
`bubble_up_acctn`, the `BTreeSet` collect, `get_balance_tree_nodes`, `Balance::from_iter`).
All statements are on the value layer (`Dec.units : Int`, units of 10⁻²⁸), for every settings state, every
posting stream, every tree shape and depth — no bound.  The numeric domain guard of the property ("every
intermediate and final sum is representable") is the hypothesis that the kernel returned `.ok`: a sum that is
not exact is never `.ok` in the model (DESIGN.md F17).

`PostsWF posts` (Lemmas/AccountSums.lean) collects the representation invariants of the input: stored scales
≤ 28, non-empty account paths, and `namesInj` — account names determine account paths among the prefixes of
posted paths — which `namesInj_of_good` proves from "components are non-empty and contain no ':'".

The kernel is specified step by step in Lemmas/AccountSums, Complete, TreeNodes and BalanceSpec (`balance_spec`); here:
* `rows_exact`, `rows_nodup`, `own_sum`, `own_sum_all`, `gap_zero`, `tree_sum`, `tree_sum_posts` – rows and figures
  (`rows_sum_eq_posts_sum`: from sums over rows to sums over postings)
* `delta_eq`, `delta_zero` – the deltas of `Balance::from_iter`
* `balance_ok_of_closed` – no error when the chart of accounts is ancestor-closed
-/
namespace Tackler
namespace C02

open KeyOrder ListSum ChunkBy

/-! ### specification vocabulary -/

/-- exact sum of the postings to a (commodity, account) pair -/
def ownSum (posts : List BPost) (k : AKey) : Int :=
  ((posts.filter (fun p => decide (p.key = k))).map (·.amount.units)).sum

/-- exact sum of the postings to the pair or to any account below it in the same commodity -/
def treeSum (posts : List BPost) (k : AKey) : Int :=
  ((posts.filter (fun p => desc k p.key)).map (·.amount.units)).sum

def Posted (posts : List BPost) (k : AKey) : Prop := ∃ p ∈ posts, p.key = k

/-- `k` is a proper ancestor of a posted pair: same commodity, non-empty proper prefix of its path -/
def ProperAncestor (posts : List BPost) (k : AKey) : Prop :=
  ∃ p ∈ posts, k.1 = p.comm ∧ k.2 ≠ [] ∧ k.2 <+: p.acct ∧ k.2 ≠ p.acct

theorem inPlay_iff (posts : List BPost) (hwf : PostsWF posts) (k : AKey) :
    InPlay posts k ↔ Posted posts k ∨ ProperAncestor posts k := by
  constructor
  · intro ⟨x, hx, h1, h2, h3⟩
    by_cases e : k.2 = x.acct
    · exact .inl ⟨x, hx, (Prod.ext h1 e).symm⟩
    · exact .inr ⟨x, hx, h1, h2, h3, e⟩
  · rintro (⟨p, hp, hpk⟩ | ⟨p, hp, h1, h2, h3, _⟩)
    · refine ⟨p, hp, by rw [← hpk]; rfl, ?_, by rw [← hpk]; exact List.prefix_refl _⟩
      rw [← hpk]; exact hwf.nonempty p hp
    · exact ⟨p, hp, h1, h2, h3⟩

theorem ownSum_eq_zero (posts : List BPost) (k : AKey) (h : ¬ Posted posts k) : ownSum posts k = 0 := by
  unfold ownSum
  have : posts.filter (fun p => decide (p.key = k)) = [] := by
    rw [List.filter_eq_nil_iff]
    intro p hp
    simp only [decide_eq_true_eq]
    intro e; exact h ⟨p, hp, e⟩
  rw [this]; rfl

/-! ### rows -/

/-- **rows_exact**: the rows of the balance are exactly the posted (commodity, account) pairs and their proper
    ancestors, each once (the key list is strictly increasing), sorted by (commodity, account name). -/
theorem rows_exact (st : Settings) (posts : List BPost) (hwf : PostsWF posts) (bal : List BalRow)
    (h : balance st posts = .ok bal) :
    (bal.map (·.key)).Pairwise (fun a b => keyLt a b = true) ∧
    ∀ k, k ∈ bal.map (·.key) ↔ Posted posts k ∨ ProperAncestor posts k := by
  obtain ⟨sums, C, hA, hB, hC, hS⟩ := balance_spec st posts hwf bal h
  refine ⟨hS.sorted, ?_⟩
  intro k
  rw [← inPlay_iff posts hwf k, ← complete_inplay posts sums C hA hB k]
  have : bal.map (·.key) = (bal.map kv).map (·.1) := by rw [List.map_map]; rfl
  rw [this]
  exact (hS.perm.map (·.1)).mem_iff

/-- **own_sum**: a row's account sum is the exact sum of the postings to its (commodity, account) pair
    (for a never-posted ancestor that sum is empty, see `gap_zero`). -/
theorem own_sum (st : Settings) (posts : List BPost) (hwf : PostsWF posts) (bal : List BalRow)
    (h : balance st posts = .ok bal) (row : BalRow) (hrow : row ∈ bal) :
    row.own.units = ownSum posts row.key := by
  obtain ⟨sums, C, hA, hB, hC, hS⟩ := balance_spec st posts hwf bal h
  have hx : kv row ∈ C := hS.perm.mem_iff.mp (List.mem_map.mpr ⟨row, hrow, rfl⟩)
  rcases hB.mem (kv row) hx with hs | ⟨hz, hn⟩
  · exact (hA.sum (kv row) hs).1
  · have h0 : row.own = Dec.zero := hz
    rw [h0, Dec.zero_units, ownSum_eq_zero]
    intro hp
    exact hn ((hA.keys row.key).mpr hp)

theorem rows_nodup (st : Settings) (posts : List BPost) (hwf : PostsWF posts) (bal : List BalRow)
    (h : balance st posts = .ok bal) : (bal.map BalRow.key).Nodup :=
  nodup_of_pairwise_keyLt _ (rows_exact st posts hwf bal h).1

theorem own_sum_all (st : Settings) (posts : List BPost) (hwf : PostsWF posts) (bal : List BalRow)
    (h : balance st posts = .ok bal) :
    ∀ r ∈ bal, r.own.units = ((posts.filter (fun p => decide (p.key = r.key))).map (·.amount.units)).sum :=
  fun r hr => own_sum st posts hwf bal h r hr

/-- **gap_zero**: an ancestor that is never posted to has own sum zero. -/
theorem gap_zero (st : Settings) (posts : List BPost) (hwf : PostsWF posts) (bal : List BalRow)
    (h : balance st posts = .ok bal) (row : BalRow) (hrow : row ∈ bal) (hgap : ¬ Posted posts row.key) :
    row.own.units = 0 := by
  rw [own_sum st posts hwf bal h row hrow, ownSum_eq_zero posts row.key hgap]

/-- **tree_sum**: a row's tree sum is its own sum plus the own sums of all rows below it in the same
    commodity (= the sum of the own sums of the rows whose path has the row's path as a prefix). -/
theorem tree_sum (st : Settings) (posts : List BPost) (hwf : PostsWF posts) (bal : List BalRow)
    (h : balance st posts = .ok bal) (row : BalRow) (hrow : row ∈ bal) :
    row.tree.units = ((bal.filter (fun r => desc row.key r.key)).map (·.own.units)).sum := by
  obtain ⟨sums, C, hA, hB, hC, hS⟩ := balance_spec st posts hwf bal h
  rw [hS.tree row hrow]
  unfold descSum
  have hp := (hS.perm.filter (fun x => desc row.key x.1)).map (fun x => x.2.units)
  rw [← perm_sum hp, List.filter_map, List.map_map]
  rfl

/-- the listed own sums satisfying a predicate on keys add up to the postings satisfying it -/
theorem rows_sum_eq_posts_sum (st : Settings) (posts : List BPost) (hwf : PostsWF posts) (bal : List BalRow)
    (h : balance st posts = .ok bal) (Q : AKey → Bool) :
    ((bal.filter (fun r => Q r.key)).map (·.own.units)).sum
      = ((posts.filter (fun p => Q p.key)).map (·.amount.units)).sum := by
  obtain ⟨hsorted, hkeys⟩ := rows_exact st posts hwf bal h
  have hknd : (bal.map (·.key)).Nodup := nodup_of_pairwise_keyLt _ hsorted
  have hnd : bal.Nodup := nodup_of_nodup_map _ hknd
  rw [sum_filter_eq_ite, sum_filter_eq_ite]
  have step1 : ∀ r ∈ bal, (if Q r.key then r.own.units else 0)
      = (posts.map (fun p => if (Q r.key && decide (p.key = r.key)) then p.amount.units else 0)).sum := by
    intro r hr
    cases hq : Q r.key with
    | false => simp [sum_map_zero]
    | true =>
      simp only [Bool.true_and, if_true]
      rw [own_sum st posts hwf bal h r hr]
      unfold ownSum
      rw [sum_filter_eq_ite]
  rw [sum_map_congr bal _ _ step1, sum_comm]
  apply sum_map_congr
  intro p hp
  cases hq : Q p.key with
  | false =>
    apply sum_map_eq_zero
    intro r _
    by_cases e : p.key = r.key
    · rw [← e, hq]; simp
    · simp [e]
  | true =>
    obtain ⟨r0, hr0, hr0k⟩ := List.mem_map.mp ((hkeys p.key).mpr (.inl ⟨p, hp, rfl⟩))
    simp only [if_true]
    apply sum_ite_unique bal (fun r => Q r.key && decide (p.key = r.key)) p.amount.units r0 hr0 hnd
    intro r hr
    simp only [Bool.and_eq_true, decide_eq_true_eq]
    constructor
    · intro ⟨_, e⟩
      exact eq_of_nodup_map _ hknd hr hr0 (by rw [← e, hr0k])
    · intro e; subst e
      exact ⟨by rw [hr0k]; exact hq, hr0k.symm⟩

/-- **tree_sum** in terms of the postings: own + all descendants = every posting at or below the row -/
theorem tree_sum_posts (st : Settings) (posts : List BPost) (hwf : PostsWF posts) (bal : List BalRow)
    (h : balance st posts = .ok bal) (row : BalRow) (hrow : row ∈ bal) :
    row.tree.units = treeSum posts row.key := by
  rw [tree_sum st posts hwf bal h row hrow]
  exact rows_sum_eq_posts_sum st posts hwf bal h (fun k => desc row.key k)

/-! ### deltas -/

theorem deltaGroups_spec : ∀ (cs : List (String × List BalRow)) (r : List (String × Dec)), deltaGroups cs = some r →
    r.map (·.1) = cs.map (·.1) ∧
    ∀ x ∈ r, ∃ g, (x.1, g) ∈ cs ∧ Dec.sum (g.map (·.own)) = some x.2 := by
  intro cs
  induction cs with
  | nil => intro r h; simp [deltaGroups] at h; subst h; simp
  | cons c rest ih =>
    intro r h
    obtain ⟨k, g⟩ := c
    simp only [deltaGroups] at h
    split at h
    · cases h
    · rename_i s hs
      split at h
      · cases h
      · rename_i r' hr'
        cases h
        obtain ⟨ih1, ih2⟩ := ih r' hr'
        refine ⟨by simp [ih1], ?_⟩
        intro x hx
        rcases List.mem_cons.mp hx with rfl | hx'
        · exact ⟨g, List.mem_cons_self, hs⟩
        · obtain ⟨g', hg', hs'⟩ := ih2 x hx'
          exact ⟨g', List.mem_cons_of_mem _ hg', hs'⟩

/-- **delta_eq**: the report lists the selected rows of the balance; there is exactly one delta line per
    commodity that has a listed row (the commodity list is strictly increasing), and each delta is the exact
    sum of the listed rows' own sums in that commodity. -/
theorem delta_eq (st : Settings) (sel : BalRow → Bool) (posts : List BPost) (hwf : PostsWF posts) (b : Balance)
    (h : fromIter st sel posts = .ok b) :
    (∃ bal, balance st posts = .ok bal ∧ b.rows = bal.filter sel) ∧
    (b.deltas.map (·.1)).Pairwise (· < ·) ∧
    (∀ c, c ∈ b.deltas.map (·.1) ↔ ∃ r ∈ b.rows, r.comm = c) ∧
    (∀ cd ∈ b.deltas, cd.2.units = ((b.rows.filter (fun r => decide (r.comm = cd.1))).map (·.own.units)).sum) := by
  obtain ⟨bal, ds, hbal, hds, rfl⟩ := (fromIter_ok st sel posts b).mp h
  obtain ⟨sums, C, hA, hB, hC, hS⟩ := balance_spec st posts hwf bal hbal
  obtain ⟨hk1, hk2⟩ := deltaGroups_spec _ _ hds
  obtain ⟨hstrict, hkeys, hfil⟩ := comm_chunks (bal.filter sel) ((balance_sorted hbal).filter sel)
  refine ⟨⟨bal, hbal, rfl⟩, by rw [hk1]; exact hstrict, fun c => by rw [hk1]; exact hkeys c, ?_⟩
  intro cd hcd
  obtain ⟨g, hg, hsum⟩ := hk2 cd hcd
  have hgf : g = (bal.filter sel).filter (fun r => decide (r.comm = cd.1)) := hfil (cd.1, g) hg
  have hsc : ∀ d ∈ g.map (·.own), d.scale ≤ 28 := by
    intro d hd
    obtain ⟨r, hr, rfl⟩ := List.mem_map.mp hd
    have hrb : r ∈ bal := by
      rw [hgf] at hr
      exact (List.mem_filter.mp (List.mem_filter.mp hr).1).1
    exact hC.scale (kv r) (hS.perm.mem_iff.mp (List.mem_map.mpr ⟨r, hrb, rfl⟩))
  obtain ⟨hu, _⟩ := Dec.sum_units _ _ hsc hsum
  rw [hu, List.map_map, hgf]
  rfl

theorem postsOf_sum (txns : List Txn) (P : BPost → Bool) :
    (((postsOf txns).filter P).map (·.amount.units)).sum
      = (txns.map (fun t => (((t.posts.map (fun p => (⟨p.acct, p.comm, p.amount⟩ : BPost))).filter P).map
          (·.amount.units)).sum)).sum := by
  unfold postsOf
  rw [List.flatMap_def, List.filter_flatten, sum_map_flatten, List.map_map, List.map_map]
  rfl

/-- **delta_zero**: with all accounts listed, every transaction balanced (C01) and no closing prices in use
    (every posting is in its transaction's commodity), every delta is zero. -/
theorem delta_zero (st : Settings) (txns : List Txn) (hwf : PostsWF (postsOf txns))
    (hbal : ∀ t ∈ txns, C01.Balanced t) (hnp : ∀ t ∈ txns, ∀ p ∈ t.posts, p.comm = p.txnComm)
    (b : Balance) (h : fromIter st (fun _ => true) (postsOf txns) = .ok b) :
    ∀ cd ∈ b.deltas, cd.2.units = 0 := by
  obtain ⟨⟨bal, hb, hrows⟩, _, _, hval⟩ := delta_eq st _ (postsOf txns) hwf b h
  intro cd hcd
  rw [hval cd hcd, hrows]
  have hall : bal.filter (fun _ => true) = bal := by simp
  rw [hall]
  have := rows_sum_eq_posts_sum st (postsOf txns) hwf bal hb (fun k => decide (k.1 = cd.1))
  have e1 : (bal.filter (fun r => decide (r.comm = cd.1))) = bal.filter (fun r => decide (r.key.1 = cd.1)) := rfl
  rw [e1, this, postsOf_sum]
  apply sum_map_eq_zero
  intro t ht
  obtain ⟨c0, hposts, hsum⟩ := hbal t ht
  have hcomm : ∀ p ∈ t.posts, p.comm = c0 := fun p hp => (hnp t ht p hp).trans (hposts p hp).2.1
  by_cases hc : c0 = cd.1
  · -- the transaction's commodity: all its postings count, and they cancel
    have hf : (t.posts.map (fun p => (⟨p.acct, p.comm, p.amount⟩ : BPost))).filter
        (fun p => decide (p.key.1 = cd.1)) = t.posts.map (fun p => (⟨p.acct, p.comm, p.amount⟩ : BPost)) := by
      rw [List.filter_eq_self]
      intro x hx
      obtain ⟨p, hp, rfl⟩ := List.mem_map.mp hx
      simp [BPost.key, hcomm p hp, hc]
    rw [hf, List.map_map, ← hsum]
    apply sum_map_congr
    intro p hp
    have := (hposts p hp).2.2 (hcomm p hp)
    simp [this]
  · have hf : (t.posts.map (fun p => (⟨p.acct, p.comm, p.amount⟩ : BPost))).filter
        (fun p => decide (p.key.1 = cd.1)) = [] := by
      rw [List.filter_eq_nil_iff]
      intro x hx
      obtain ⟨p, hp, rfl⟩ := List.mem_map.mp hx
      simp [BPost.key, hcomm p hp, hc]
    rw [hf]; rfl

/-! ### no error when the chart is closed -/

theorem map_ne_err {α β} (f : α → β) (x : Outcome α) (h : x ≠ .err) : x.map f ≠ .err := by
  cases x <;> simp_all [Outcome.map]

theorem bubbleUp_ne_err (st : Settings) (sums : List (AKey × Dec)) :
    ∀ (fuel : Nat) (me : AKey × Dec),
      (∀ q : Path, q ≠ [] → q <+: me.1.2 → q ≠ me.1.2 → ∃ r, st.getTxnAccount q me.1.1 = .ok r) →
      bubbleUp st sums fuel me ≠ .err := by
  intro fuel
  induction fuel with
  | zero => intro me _; simp [bubbleUp]
  | succ fuel ih =>
    intro me hcl
    by_cases hroot : me.1.2.length ≤ 1
    · simp [bubbleUp_root hroot]
    · obtain ⟨g, hg, _, hstep | hstep | ⟨_, herr⟩⟩ := bubbleUp_step st sums fuel me hroot
      · rw [hstep]
        refine map_ne_err _ _ (ih g fun q hq hpre hne => ?_)
        have hg1 : g.1.1 = me.1.1 := by rw [hg]
        have hg2 : g.1.2 = parentPath me.1.2 := by rw [hg]
        rw [hg1]
        rw [hg2] at hpre hne
        refine hcl q hq (hpre.trans (List.dropLast_prefix _)) ?_
        intro e
        have h1 := hpre.length_le
        rw [e, length_parent] at h1
        omega
      · simp [hstep]
      · obtain ⟨r, hr⟩ := hcl (parentPath me.1.2) (parent_nonempty hroot) (List.dropLast_prefix _) (by
          intro e
          have := congrArg List.length e
          rw [length_parent] at this
          omega)
        rw [hr] at herr; cases herr

theorem bubbleAll_ne_err (st : Settings) (sums : List (AKey × Dec)) :
    ∀ (l : List (AKey × Dec)),
      (∀ s ∈ l, ∀ q : Path, q ≠ [] → q <+: s.1.2 → q ≠ s.1.2 → ∃ r, st.getTxnAccount q s.1.1 = .ok r) →
      bubbleAll st sums l ≠ .err := by
  intro l
  induction l with
  | nil => intro _; simp [bubbleAll]
  | cons s rest ih =>
    intro hcl
    simp only [bubbleAll]
    split
    · rename_i herr
      exact absurd herr (bubbleUp_ne_err st sums _ s (hcl s List.mem_cons_self))
    · simp
    · split
      · rename_i herr
        exact absurd herr (ih (fun s' hs' => hcl s' (List.mem_cons_of_mem _ hs')))
      · simp
      · simp

/-- **balance_ok_of_closed**: if the settings know every proper ancestor of every posted account in the
    posting's commodity (`get_txn_account` succeeds: the chart of accounts is ancestor-closed, which the
    load path establishes — lax mode creates the parents, strict mode the synthetic parents), the balance
    kernel does not fail. -/
theorem balance_ok_of_closed (st : Settings) (posts : List BPost) (hwf : PostsWF posts)
    (hclosed : ∀ p ∈ posts, ∀ q : Path, q ≠ [] → q <+: p.acct → q ≠ p.acct →
      ∃ r, st.getTxnAccount q p.comm = .ok r) :
    balance st posts ≠ .err := by
  unfold balance
  split
  · simp
  · rename_i sums hsums
    have hA := accountSums_spec posts hwf sums hsums
    have hne : completeTree st sums ≠ .err := by
      unfold completeTree
      apply map_ne_err
      apply bubbleAll_ne_err
      intro s hs q hq hpre hneq
      obtain ⟨p, hp, hpk⟩ := (hA.keys s.1).mp (List.mem_map.mpr ⟨s, hs, rfl⟩)
      have e1 : p.comm = s.1.1 := by rw [← hpk]; rfl
      have e2 : p.acct = s.1.2 := by rw [← hpk]; rfl
      rw [← e1]
      exact hclosed p hp q hq (by rw [e2]; exact hpre) (by rw [e2]; exact hneq)
    split
    · rename_i herr; exact absurd herr hne
    · simp
    · split <;> simp

/-! ### non-vacuity: a concrete journal with a gap and two commodities

```
2024-01-01                      2024-01-02
 a      2    EUR                 a:b:c   7 USD
 a:b:c  1.50 EUR                 a:bc   -7 USD
 e     -3.50 EUR
```
(`corpus/C02/example-gap-two-commodities.json` runs the same journal through the implementation.) -/

def dd (n : Int) (s : Nat) : Dec := ⟨decide (n < 0), n.natAbs, s⟩
def hdr0 : Header := ⟨⟨0, 0⟩, none, none, none, none, none, none⟩
def mkP (a : Path) (c : String) (v : Dec) : Posting := ⟨a, c, v, v, false, c, none⟩
def txns0 : List Txn := [
  ⟨hdr0, [mkP ["a"] "EUR" (dd 2 0), mkP ["a","b","c"] "EUR" (dd 150 2), mkP ["e"] "EUR" (dd (-350) 2)]⟩,
  ⟨hdr0, [mkP ["a","b","c"] "USD" (dd 7 0), mkP ["a","bc"] "USD" (dd (-7) 0)]⟩]
/-- the settings after loading that journal in lax mode without charts -/
def st0 : Settings := Settings.ofConfig false false true [["a","b","c"],["e"],["a","bc"]] ["EUR","USD"] []
def posts0 : List BPost := postsOf txns0
/-- own sum, tree sum: `a` 2 / 3.50 EUR, gap `a:b` 0 / 1.50 EUR, …, gap `a` 0 / 0 USD, gap `a:b` 0 / 7 USD -/
def rows0 : List BalRow := [
  ⟨["a"], "EUR", dd 2 0, dd 350 2⟩, ⟨["a","b"], "EUR", Dec.zero, dd 150 2⟩,
  ⟨["a","b","c"], "EUR", dd 150 2, dd 150 2⟩, ⟨["e"], "EUR", dd (-350) 2, dd (-350) 2⟩,
  ⟨["a"], "USD", Dec.zero, dd 0 0⟩, ⟨["a","b"], "USD", Dec.zero, dd 7 0⟩,
  ⟨["a","b","c"], "USD", dd 7 0, dd 7 0⟩, ⟨["a","bc"], "USD", dd (-7) 0, dd (-7) 0⟩]

/-- the kernel is inside the exact domain on this journal and yields the expected figures -/
theorem ex_balance : balance st0 posts0 = .ok rows0 :=
  balance_of_steps (by decide) rfl rfl rfl (by decide)

/-- both deltas are zero (`0.00 EUR`, `0 USD`) -/
theorem ex_fromIter : fromIter st0 (fun _ => true) posts0
    = .ok ⟨rows0, [("EUR", dd 0 2), ("USD", dd 0 0)]⟩ := by
  rw [fromIter_of_balance _ ex_balance]
  decide

/-- the hypotheses of the theorems hold for it -/
example : PostsWF posts0 := by
  refine ⟨by decide, by decide, namesInj_of_good posts0 ?_⟩
  intro x hx c hc
  have : ∀ x ∈ posts0, ∀ c ∈ x.acct, c ≠ "" ∧ ':' ∉ c.toList := by decide
  exact this x hx c hc
example : ∀ t ∈ txns0, C01.Balanced t := by
  intro t ht
  simp only [txns0, List.mem_cons, List.mem_nil_iff, or_false] at ht
  rcases ht with rfl | rfl
  · exact ⟨"EUR", by decide, by decide⟩
  · exact ⟨"USD", by decide, by decide⟩
example : ∀ t ∈ txns0, ∀ p ∈ t.posts, p.comm = p.txnComm := by decide
/-- the figures: gap `a:b` has own 0 and tree 1.50 EUR; `a` has tree 2 + 1.50 = 3.50 EUR -/
example : (rows0.map (fun r => (r.comm, acctName r.acct, r.own.units, r.tree.units))).take 2
    = [("EUR", "a", 2 * 10^28, 35 * 10^27), ("EUR", "a:b", 0, 15 * 10^27)] := by decide
/-- a selector listing only `a:b:c`: deltas are the listed own sums, 1.50 EUR and 7 USD -/
example : (fromIter st0 (fun r => acctName r.acct == "a:b:c") posts0).map (·.deltas)
    = .ok [("EUR", dd 150 2), ("USD", dd 7 0)] := by
  rw [fromIter_of_balance _ ex_balance]
  decide

/-- witness of F8 (the children are collected in an ordered set, not a hash set): the children of `a`
    are summed in key order, so the tree sum of `a` in ` a:x 1.00 / a:y -1.00 / a:z 5 / e -5` is the
    stored value `5` (`1.00 + -1.00 = 0.00`, then the zero short-cut `0.00 + 5 = 5`) on every run. -/
example : treeNodes [(("",["a"]), Dec.zero), (("",["a","x"]), dd 100 2), (("",["a","y"]), dd (-100) 2),
      (("",["a","z"]), dd 5 0), (("",["e"]), dd (-5) 0)] 3 (("",["a"]), Dec.zero)
    = some [⟨["a"], "", Dec.zero, dd 5 0⟩, ⟨["a","x"], "", dd 100 2, dd 100 2⟩,
            ⟨["a","y"], "", dd (-100) 2, dd (-100) 2⟩, ⟨["a","z"], "", dd 5 0, dd 5 0⟩] := by decide

end C02
end Tackler
