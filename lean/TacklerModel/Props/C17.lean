import TacklerModel.Model.Scale
import TacklerModel.Lemmas.Equity
import TacklerModel.Lemmas.Digits
/-!
# C17 — report figures round half-away-from-zero to the configured scale, display only

* `roundHalfAway k u` is the specification: the integer `u` (a figure in units of 10⁻²⁸) rounded to a multiple
  of `10^k`, nearest, ties away from zero – `sign u × ⌊|u| / 10^k + ½⌋ × 10^k` (`roundHalfAway_dvd`, `_error`,
  `_exact`, `_tie` characterise it, all from `roundCoeff_eq_iff`).
* `valueOfShown` / `decimalsOf` read a printed figure back (sign, digits, point) – the value the *text* denotes;
  `fmtFixedChars_shape`, `fmtFixedChars_value` (parsing-back lemmas): `{:.p$}` prints `-?d+(.d{p})?`, which denotes
  the decimal printed.
* `shown_value`: every printed figure denotes `roundHalfAway (28 - max)` of the exact figure, with `get_precision`
  decimals; `decimals_bounds`, `exact_if_fits`, `half_away`, `half_away_error`, `half_away_tie` are its readings,
  for every decimal (scale ≤ 28) and every scale `0 ≤ min ≤ max ≤ 28`.
* `display_only`: every figure of the balance report model is `shown sc` of the kernel's exact figure, the kernel
  (`fromIter`) has no scale argument; a printed delta is the rounded *exact* sum of the unrounded account sums.
-/
namespace Tackler
namespace C17
open Dec

/-! ### specification: half away from zero on integers -/

/-- `u` rounded to a multiple of `10^k`, nearest, ties away from zero -/
def roundHalfAway (k : Nat) (u : Int) : Int :=
  u.sign * (((2 * u.natAbs + 10 ^ k) / (2 * 10 ^ k) : Nat) : Int) * (10 : Int) ^ k

/-- round the magnitude `n` to a multiple of `10^k`, half goes up -/
def roundCoeff (n k : Nat) : Nat := (2 * n + 10 ^ k) / (2 * 10 ^ k)

theorem ten_pow_pos (k : Nat) : 0 < 10 ^ k := Nat.pow_pos (by decide)

/-- `q` is the rounded magnitude iff `q·10^k` lies within half a unit of `n`, the upper end excluded -/
theorem roundCoeff_eq_iff (n k q : Nat) :
    roundCoeff n k = q ↔ 2 * (q * 10 ^ k) ≤ 2 * n + 10 ^ k ∧ 2 * n < 2 * (q * 10 ^ k) + 10 ^ k := by
  have hp := ten_pow_pos k
  rw [roundCoeff, Nat.div_eq_iff (by omega), Nat.mul_left_comm q 2]
  omega

/-- error bound on the magnitude: 2·|q·10^k − n| ≤ 10^k -/
theorem round_bound (n k : Nat) :
    2 * (roundCoeff n k * 10 ^ k) ≤ 2 * n + 10 ^ k ∧ 2 * n < 2 * (roundCoeff n k * 10 ^ k) + 10 ^ k :=
  (roundCoeff_eq_iff n k _).mp rfl

theorem round_exact (m k : Nat) : roundCoeff (m * 10 ^ k) k = m := by
  have hp := ten_pow_pos k
  rw [roundCoeff_eq_iff]; omega

theorem round_tie (m k : Nat) (hk : 0 < k) : roundCoeff (m * 10 ^ k + 5 * 10 ^ (k - 1)) k = m + 1 := by
  obtain ⟨j, rfl⟩ : ∃ j, k = j + 1 := ⟨k - 1, by omega⟩
  have hp := ten_pow_pos j
  rw [roundCoeff_eq_iff, Nat.add_sub_cancel, Nat.add_mul, Nat.one_mul, Nat.pow_succ]; omega

theorem round_below_tie (m k r : Nat) (hr : 2 * r < 10 ^ k) : roundCoeff (m * 10 ^ k + r) k = m := by
  rw [roundCoeff_eq_iff]; omega

theorem roundCoeff_zero (k : Nat) : roundCoeff 0 k = 0 := by
  have hp := ten_pow_pos k
  rw [roundCoeff_eq_iff]; omega

theorem roundCoeff_mono (k : Nat) {n n' : Nat} (h : n ≤ n') : roundCoeff n k ≤ roundCoeff n' k :=
  Nat.div_le_div_right (by omega)

theorem roundHalfAway_natCast (k n : Nat) : roundHalfAway k (n : Int) = ((roundCoeff n k * 10 ^ k : Nat) : Int) := by
  cases n with
  | zero => simp [roundHalfAway, roundCoeff_zero]
  | succ n =>
    rw [roundHalfAway, Int.sign_natCast_of_ne_zero (Nat.succ_ne_zero n), Int.natAbs_natCast, Int.one_mul,
      Int.natCast_mul, Int.natCast_pow]
    rfl

theorem roundHalfAway_neg (k : Nat) (u : Int) : roundHalfAway k (-u) = - roundHalfAway k u := by
  unfold roundHalfAway
  rw [Int.sign_neg, Int.natAbs_neg]
  simp [Int.neg_mul]

theorem roundHalfAway_sgn (k : Nat) (b : Bool) (n : Nat) :
    roundHalfAway k (sgn b * (n : Int)) = sgn b * (roundCoeff n k : Int) * (10 : Int) ^ k := by
  cases b <;> simp [sgn, roundHalfAway_neg, roundHalfAway_natCast, Int.neg_mul]

theorem roundHalfAway_dvd (k : Nat) (u : Int) : ((10 : Int) ^ k) ∣ roundHalfAway k u := Int.dvd_mul_left _ _

theorem roundHalfAway_error (k : Nat) (u : Int) : 2 * (roundHalfAway k u - u).natAbs ≤ 10 ^ k := by
  have hb := round_bound u.natAbs k
  obtain ⟨n, rfl | rfl⟩ := Int.eq_nat_or_neg u
  · rw [roundHalfAway_natCast]; simp only [Int.natAbs_natCast] at hb; omega
  · rw [roundHalfAway_neg, roundHalfAway_natCast]; simp only [Int.natAbs_neg, Int.natAbs_natCast] at hb; omega

theorem roundHalfAway_exact (k : Nat) (m : Int) : roundHalfAway k (m * (10 : Int) ^ k) = m * (10 : Int) ^ k := by
  have e (n : Nat) : (n : Int) * (10 : Int) ^ k = ((n * 10 ^ k : Nat) : Int) := by simp
  obtain ⟨n, rfl | rfl⟩ := Int.eq_nat_or_neg m
  · rw [e, roundHalfAway_natCast, round_exact]
  · rw [Int.neg_mul, e, roundHalfAway_neg, roundHalfAway_natCast, round_exact]
theorem roundHalfAway_tie (k : Nat) (hk : 0 < k) (b : Bool) (m : Nat) :
    roundHalfAway k (sgn b * ((m * 10 ^ k + 5 * 10 ^ (k - 1) : Nat) : Int)) = sgn b * ((m + 1 : Nat) : Int) * (10 : Int) ^ k := by
  rw [roundHalfAway_sgn, round_tie m k hk]

theorem roundHalfAway_below_tie (k : Nat) (b : Bool) (m r : Nat) (hr : 2 * r < 10 ^ k) :
    roundHalfAway k (sgn b * ((m * 10 ^ k + r : Nat) : Int)) = sgn b * (m : Int) * (10 : Int) ^ k := by
  rw [roundHalfAway_sgn, round_below_tie m k r hr]

/-! ### reading a printed figure back -/

/-- the magnitude denoted by `d+(.d+)?`, in units of 10⁻²⁸ (digits read as `from_str_exact` reads them) -/
def magOf (cs : List Char) : Int :=
  (digitsVal (cs.takeWhile (· != '.') ++ (cs.dropWhile (· != '.')).drop 1) : Int)
    * (10 : Int) ^ (28 - ((cs.dropWhile (· != '.')).drop 1).length)

/-- the value a printed figure `-?d+(.d+)?` denotes, in units of 10⁻²⁸ -/
def valueOfShown (cs : List Char) : Int :=
  if cs.head? = some '-' then - magOf cs.tail else magOf cs

/-- the number of decimals of a printed figure: the characters after the point -/
def decimalsOf (cs : List Char) : Nat := ((cs.dropWhile (· != '.')).drop 1).length

theorem isDigit_ne_point (c : Char) (h : c.isDigit = true) : (c != '.') = true := by
  rw [bne_iff_ne]; intro e; subst e; exact absurd h (by decide)

theorem isDigit_ne_minus (c : Char) (h : c.isDigit = true) : c ≠ '-' := by
  intro e; subst e; exact absurd h (by decide)

/-- **Parsing-back lemma (shape of the text).**  `format!("{:.p$}")` of a decimal whose scale is at most `p`
    prints: `-` iff the sign flag is set, at least one integer digit, and – unless `p = 0` – a point followed by
    exactly `p` digits; the digits read as a number are the coefficient scaled to `p` decimals. -/
theorem fmtFixedChars_shape (x : Dec) (p : Nat) (hs : x.scale ≤ p) :
    ∃ ip fp, x.fmtFixedChars p = (if x.neg then ['-'] else []) ++ ip ++ (if p = 0 then [] else '.' :: fp)
      ∧ ip ≠ [] ∧ (∀ c ∈ ip, c.isDigit = true) ∧ (∀ c ∈ fp, c.isDigit = true) ∧ fp.length = p
      ∧ digitsVal (ip ++ fp) = x.coeff * 10 ^ (p - x.scale) := by
  have hlen := padLeft_length_ge (x.scale + 1) (Nat.toDigits 10 x.coeff)
  have hdig := padLeft_isDigit (x.scale + 1) x.coeff
  have hval := digitsVal_padLeft (x.scale + 1) x.coeff
  -- `ip`, `fp` are the model's own; `ds` the padded coefficient digits they are cut from
  refine ⟨_, _, rfl, ?_⟩
  generalize padLeft (x.scale + 1) (Nat.toDigits 10 x.coeff) = ds at *
  have hfp : (ds.drop (ds.length - x.scale)).length = x.scale := by rw [List.length_drop]; omega
  have htake : (ds.drop (ds.length - x.scale) ++ List.replicate (p - (ds.drop (ds.length - x.scale)).length) '0').take p
      = ds.drop (ds.length - x.scale) ++ List.replicate (p - x.scale) '0' := by
    rw [hfp]
    exact List.take_of_length_le (by rw [List.length_append, List.length_replicate, hfp]; omega)
  refine ⟨?_, ?_, ?_, ?_, ?_⟩
  · intro h
    have := congrArg List.length h
    rw [List.length_take] at this
    simp at this; omega
  · intro c hc; exact hdig c (List.mem_of_mem_take hc)
  · intro c hc
    rw [htake] at hc
    rcases List.mem_append.mp hc with h | h
    · exact hdig c (List.mem_of_mem_drop h)
    · rw [(List.mem_replicate.mp h).2]; decide
  · rw [htake, List.length_append, List.length_replicate, hfp]; omega
  · rw [htake, ← List.append_assoc, List.take_append_drop, digitsVal_append_zeros, hval]

/-- where the reader cuts a text `body(.fp)?` whose `body` has no point -/
theorem split_at_point (body fp : List Char) (p : Nat) (hb : ∀ c ∈ body, (c != '.') = true) (hfp : fp.length = p) :
    (body ++ (if p = 0 then [] else '.' :: fp)).takeWhile (· != '.') = body ∧
    ((body ++ (if p = 0 then [] else '.' :: fp)).dropWhile (· != '.')).drop 1 = fp := by
  rw [List.takeWhile_append_of_pos hb, List.dropWhile_append_of_pos hb]
  by_cases h0 : p = 0
  · have : fp = [] := List.eq_nil_of_length_eq_zero (by omega)
    simp [h0, this]
  · simp [h0]

theorem read_shape (neg : Bool) (ip fp : List Char) (p : Nat)
    (hip : ∀ c ∈ ip, c.isDigit = true) (hfp : fp.length = p) :
    valueOfShown ((if neg then ['-'] else []) ++ ip ++ (if p = 0 then [] else '.' :: fp))
        = sgn neg * ((digitsVal (ip ++ fp) : Int) * (10 : Int) ^ (28 - p))
      ∧ decimalsOf ((if neg then ['-'] else []) ++ ip ++ (if p = 0 then [] else '.' :: fp)) = p := by
  have hne : ∀ c ∈ ip, (c != '.') = true := fun c hc => isDigit_ne_point c (hip c hc)
  have hsign : ∀ c ∈ (if neg then ['-'] else []) ++ ip, (c != '.') = true := by
    cases neg <;> simpa using hne
  have hmag : magOf (ip ++ (if p = 0 then [] else '.' :: fp))
      = (digitsVal (ip ++ fp) : Int) * (10 : Int) ^ (28 - p) := by
    obtain ⟨e1, e2⟩ := split_at_point ip fp p hne hfp
    rw [magOf, e1, e2, hfp]
  have hhead : (ip ++ (if p = 0 then [] else '.' :: fp)).head? ≠ some '-' := by
    cases ip with
    | nil => by_cases h0 : p = 0 <;> simp [h0]
    | cons c t => simpa using isDigit_ne_minus c (hip c List.mem_cons_self)
  refine ⟨?_, by rw [decimalsOf, (split_at_point _ fp p hsign hfp).2, hfp]⟩
  cases neg with
  | false =>
    simp only [Bool.false_eq_true, if_false, List.nil_append, valueOfShown, if_neg hhead, hmag]
    simp [sgn]
  | true => simp [valueOfShown, hmag, sgn]

/-- **Parsing-back lemma (value).**  The text `{:.p$}` prints for a decimal with `scale ≤ p ≤ 28` denotes
    exactly that decimal's value and has exactly `p` decimals. -/
theorem fmtFixedChars_value (x : Dec) (p : Nat) (hs : x.scale ≤ p) (hp : p ≤ 28) :
    valueOfShown (x.fmtFixedChars p) = x.units ∧ decimalsOf (x.fmtFixedChars p) = p := by
  obtain ⟨ip, fp, heq, _, hip, _, hfp, hval⟩ := fmtFixedChars_shape x p hs
  have h := read_shape x.neg ip fp p hip hfp
  rw [heq]
  refine ⟨?_, h.2⟩
  rw [h.1, hval, Dec.units_at x p hs hp, Int.mul_assoc]

/-! ### one figure -/

theorem shown_toList (sc : Scale) (d : Dec) : (shown sc d).toList = shownChars sc d := by
  unfold shown shownChars fmtFixed; exact String.toList_ofList

theorem getPrecision_bounds (sc : Scale) (d : Dec) (hwf : sc.WF) :
    sc.min ≤ sc.getPrecision d ∧ sc.getPrecision d ≤ sc.max := by
  unfold Scale.getPrecision; unfold Scale.WF at hwf; omega

/-- the precision is the stored scale clamped into `[min, max]` -/
theorem getPrecision_cases (sc : Scale) (d : Dec) (hwf : sc.WF) :
    (d.scale ≤ sc.max ∧ d.scale ≤ sc.getPrecision d) ∨ (sc.max < d.scale ∧ sc.getPrecision d = sc.max) := by
  unfold Scale.getPrecision; unfold Scale.WF at hwf; omega

theorem roundHA_scale_le (d : Dec) (p : Nat) : (d.roundHA p).scale ≤ p := by
  unfold roundHA
  split
  · assumption
  · split <;> exact Nat.le_refl _

theorem units_eq (d : Dec) : d.units = sgn d.neg * ((d.coeff * 10 ^ (28 - d.scale) : Nat) : Int) := by
  unfold units; rw [Int.natCast_mul, Int.natCast_pow, Int.mul_assoc]; rfl

/-- value of `round_dp_with_strategy(p, MidpointAwayFromZero)` when digits are dropped -/
theorem roundHA_units (d : Dec) (p : Nat) (hp : p < d.scale) :
    (d.roundHA p).units = sgn d.neg * (roundCoeff d.coeff (d.scale - p) : Int) * (10 : Int) ^ (28 - p) := by
  unfold roundHA
  rw [if_neg (by omega)]
  split
  · rename_i h0
    rw [h0, roundCoeff_zero]; simp [units]
  · unfold units roundCoeff
    simp only
    generalize (2 * d.coeff + 10 ^ (d.scale - p)) / (2 * 10 ^ (d.scale - p)) = q
    cases q with
    | zero => simp
    | succ q => simp

/-- rounding the magnitude commutes with scaling both the magnitude and the unit -/
theorem roundCoeff_scale (c j w : Nat) : roundCoeff (c * 10 ^ w) (j + w) = roundCoeff c j := by
  unfold roundCoeff
  rw [Nat.pow_add, ← Nat.mul_assoc 2 c, ← Nat.mul_assoc 2 (10 ^ j), ← Nat.add_mul,
    Nat.mul_div_mul_right _ _ (ten_pow_pos w)]

theorem shownChars_read (sc : Scale) (d : Dec) (hwf : sc.WF) :
    valueOfShown (shownChars sc d) = (d.roundHA (sc.getPrecision d)).units
      ∧ decimalsOf (shownChars sc d) = sc.getPrecision d :=
  fmtFixedChars_value _ _ (roundHA_scale_le d _) (Nat.le_trans (getPrecision_bounds sc d hwf).2 hwf.2)

/-- the figure needs no more than `max` decimals -/
def Fits (sc : Scale) (d : Dec) : Prop := ∃ n : Int, d.units * (10 : Int) ^ sc.max = n * (10 : Int) ^ 28

theorem fits_iff_dvd (sc : Scale) (d : Dec) (hwf : sc.WF) :
    Fits sc d ↔ ∃ n : Int, d.units = n * (10 : Int) ^ (28 - sc.max) := by
  have hmax : sc.max ≤ 28 := hwf.2
  have hpow : (10 : Int) ^ 28 = (10 : Int) ^ (28 - sc.max) * (10 : Int) ^ sc.max := by
    rw [← Int.pow_add]; congr 1; omega
  have hne : ((10 : Int) ^ sc.max) ≠ 0 := Int.pow_ne_zero (by decide)
  constructor
  · rintro ⟨n, hn⟩
    refine ⟨n, ?_⟩
    rw [hpow, ← Int.mul_assoc] at hn
    exact Int.eq_of_mul_eq_mul_right hne hn
  · rintro ⟨n, hn⟩
    exact ⟨n, by rw [hn, hpow, Int.mul_assoc]⟩

theorem fits_of_scale_le (sc : Scale) (d : Dec) (hwf : sc.WF) (h : d.scale ≤ sc.max) : Fits sc d :=
  (fits_iff_dvd sc d hwf).mpr ⟨_, Dec.units_at d sc.max h hwf.2⟩

/-- **The value every printed figure denotes** (all decimals, all scales): the exact figure rounded half away
    from zero to `max` decimals; and it is printed with `get_precision` decimals. -/
theorem shown_value (sc : Scale) (d : Dec) (hd : d.scale ≤ 28) (hwf : sc.WF) :
    valueOfShown (shownChars sc d) = roundHalfAway (28 - sc.max) d.units
      ∧ decimalsOf (shownChars sc d) = sc.getPrecision d := by
  have hv := shownChars_read sc d hwf
  refine ⟨?_, hv.2⟩
  rw [hv.1]
  rcases getPrecision_cases sc d hwf with ⟨h1, h2⟩ | ⟨h1, h2⟩
  · -- nothing is dropped: the figure is a multiple of the unit of the last shown digit
    obtain ⟨n, hn⟩ := (fits_iff_dvd sc d hwf).mp (fits_of_scale_le sc d hwf h1)
    rw [roundHA, if_pos h2, hn, roundHalfAway_exact]
  · rw [h2, roundHA_units d sc.max h1, units_eq, roundHalfAway_sgn]
    have hk : 28 - sc.max = (d.scale - sc.max) + (28 - d.scale) := by omega
    rw [hk, roundCoeff_scale]

/-- the text: `-?d+`, and unless the precision is 0 a point and exactly `get_precision` digits -/
theorem shown_shape (sc : Scale) (d : Dec) :
    ∃ ip fp, shownChars sc d = (if (d.roundHA (sc.getPrecision d)).neg then ['-'] else []) ++ ip ++
        (if sc.getPrecision d = 0 then [] else '.' :: fp)
      ∧ ip ≠ [] ∧ (∀ c ∈ ip, c.isDigit = true) ∧ (∀ c ∈ fp, c.isDigit = true)
      ∧ fp.length = sc.getPrecision d := by
  obtain ⟨ip, fp, h1, h2, h3, h4, h5, _⟩ :=
    fmtFixedChars_shape (d.roundHA (sc.getPrecision d)) (sc.getPrecision d) (roundHA_scale_le d _)
  exact ⟨ip, fp, h1, h2, h3, h4, h5⟩

/-- a negative figure that rounds to zero is printed without a sign (`Decimal::from_parts`) -/
theorem shown_sign (sc : Scale) (d : Dec) (hd : d.coeff ≠ 0) :
    (d.roundHA (sc.getPrecision d)).neg = (d.neg && (d.roundHA (sc.getPrecision d)).coeff != 0) := by
  unfold roundHA
  split
  · cases d.neg <;> simp [hd]
  · rfl

/-- **C17 (1).** Every figure is shown with at least `min` and at most `max` decimals. -/
theorem decimals_bounds (sc : Scale) (d : Dec) (hwf : sc.WF) :
    sc.min ≤ decimalsOf (shownChars sc d) ∧ decimalsOf (shownChars sc d) ≤ sc.max := by
  rw [(shownChars_read sc d hwf).2]
  exact getPrecision_bounds sc d hwf

/-- **C17 (2).** A figure that needs no more than `max` decimals is shown exactly. -/
theorem exact_if_fits (sc : Scale) (d : Dec) (hd : d.scale ≤ 28) (hwf : sc.WF) (hf : Fits sc d) :
    valueOfShown (shownChars sc d) = d.units := by
  obtain ⟨n, hn⟩ := (fits_iff_dvd sc d hwf).mp hf
  rw [(shown_value sc d hd hwf).1, hn, roundHalfAway_exact]

/-- **C17 (3).** Any other figure is the exact figure rounded half away from zero to `max` decimals:
    `sign d × ⌊|d|·10^max + ½⌋ / 10^max`, printed with exactly `max` decimals. -/
theorem half_away (sc : Scale) (d : Dec) (hd : d.scale ≤ 28) (hwf : sc.WF) (hf : ¬ Fits sc d) :
    valueOfShown (shownChars sc d) = roundHalfAway (28 - sc.max) d.units
      ∧ decimalsOf (shownChars sc d) = sc.max := by
  have hv := shown_value sc d hd hwf
  refine ⟨hv.1, ?_⟩
  rw [hv.2]
  rcases getPrecision_cases sc d hwf with ⟨h1, _⟩ | ⟨_, h2⟩
  · exact absurd (fits_of_scale_le sc d hwf h1) hf
  · exact h2

theorem half_away_error (sc : Scale) (d : Dec) (hd : d.scale ≤ 28) (hwf : sc.WF) :
    2 * (valueOfShown (shownChars sc d) - d.units).natAbs ≤ 10 ^ (28 - sc.max) := by
  rw [(shown_value sc d hd hwf).1]; exact roundHalfAway_error _ _

/-- exact midpoints go away from zero, whatever the sign -/
theorem half_away_tie (sc : Scale) (d : Dec) (hd : d.scale ≤ 28) (hwf : sc.WF) (hk : sc.max < 28) (b : Bool) (m : Nat)
    (hu : d.units = sgn b * ((m * 10 ^ (28 - sc.max) + 5 * 10 ^ (28 - sc.max - 1) : Nat) : Int)) :
    valueOfShown (shownChars sc d) = sgn b * ((m + 1 : Nat) : Int) * (10 : Int) ^ (28 - sc.max) := by
  rw [(shown_value sc d hd hwf).1, hu, roundHalfAway_tie _ (by omega)]

/-- anything closer to zero than the midpoint goes towards zero -/
theorem half_away_below_tie (sc : Scale) (d : Dec) (hd : d.scale ≤ 28) (hwf : sc.WF) (b : Bool) (m r : Nat)
    (hr : 2 * r < 10 ^ (28 - sc.max))
    (hu : d.units = sgn b * ((m * 10 ^ (28 - sc.max) + r : Nat) : Int)) :
    valueOfShown (shownChars sc d) = sgn b * (m : Int) * (10 : Int) ^ (28 - sc.max) := by
  rw [(shown_value sc d hd hwf).1, hu, roundHalfAway_below_tie _ _ _ _ hr]

/-! ### the kernel keeps stored scales ≤ 28 (so every printed figure is covered by `shown_value`) -/

/-- both figures of a row have at most 28 stored decimals -/
def RowOk (r : BalRow) : Prop := r.own.scale ≤ 28 ∧ r.tree.scale ≤ 28

theorem balance_scale (st : Settings) (posts : List BPost) (bal : List BalRow)
    (hp : ∀ p ∈ posts, p.amount.scale ≤ 28) (h : balance st posts = .ok bal) : ∀ r ∈ bal, RowOk r := by
  refine EqL.balance_rows (fun s => s.2.scale ≤ 28) RowOk (fun _ => Nat.zero_le _) ?_ st posts bal
    (fun sums hsums => EqL.accountSums_scale posts sums hp hsums) h
  intro me sub cs t hme hsub hcs ht
  have hcs' : cs.scale ≤ 28 := by
    refine (Dec.sum_units _ cs ?_ hcs).2
    intro d hd
    obtain ⟨x, hx, rfl⟩ := List.mem_map.mp hd
    exact (hsub x (List.mem_filter.mp hx).1).2
  exact ⟨hme, (Dec.add_units cs me.2 t hcs' hme ht).2⟩

theorem deltaGroups_mem : ∀ (gs : List (String × List BalRow)) (ds : List (String × Dec)),
    deltaGroups gs = some ds → ∀ cd ∈ ds, ∃ g, (cd.1, g) ∈ gs ∧ Dec.sum (g.map (·.own)) = some cd.2 := by
  intro gs
  induction gs with
  | nil => intro ds h cd hcd; simp [deltaGroups] at h; subst h; cases hcd
  | cons cg rest ih =>
    intro ds h cd hcd
    obtain ⟨c, g⟩ := cg
    simp only [deltaGroups] at h
    split at h
    · cases h
    · rename_i s hs
      split at h
      · cases h
      · rename_i r' hr'
        cases h
        rcases List.mem_cons.mp hcd with h1 | h1
        · subst h1; exact ⟨g, List.mem_cons_self, hs⟩
        · obtain ⟨g', hg', hs'⟩ := ih r' hr' cd h1
          exact ⟨g', List.mem_cons_of_mem _ hg', hs'⟩

/-- what `fromIter` returns: rows with stored scales ≤ 28, and every delta is the exact sum of the unrounded
    account sums of its commodity chunk -/
theorem fromIter_figures (st : Settings) (sel : BalRow → Bool) (posts : List BPost) (b : Balance)
    (hp : ∀ p ∈ posts, p.amount.scale ≤ 28) (h : fromIter st sel posts = .ok b) :
    (∀ r ∈ b.rows, RowOk r) ∧
    (∀ cd ∈ b.deltas, ∃ g, (cd.1, g) ∈ chunkBy (·.comm) b.rows ∧ (∀ r ∈ g, r ∈ b.rows) ∧
        cd.2.units = (g.map (·.own.units)).sum ∧ cd.2.scale ≤ 28) := by
  unfold fromIter at h
  split at h
  · cases h
  · cases h
  · rename_i bal hbal
    have hb := balance_scale st posts bal hp hbal
    split at h
    · cases h
    · rename_i ds hds
      cases h
      have hrows : ∀ r ∈ bal.filter sel, RowOk r := fun r hr => hb r ((List.mem_filter.mp hr).1)
      refine ⟨hrows, ?_⟩
      intro cd hcd
      obtain ⟨g, hg, hs⟩ := deltaGroups_mem _ ds hds cd hcd
      have hgm := ChunkBy.chunk_subset (·.comm) (bal.filter sel) (cd.1, g) hg
      have hsum := Dec.sum_units (g.map (·.own)) cd.2 (by
        intro d hd
        obtain ⟨x, hx, rfl⟩ := List.mem_map.mp hd
        exact (hrows x (hgm x hx)).1) hs
      refine ⟨g, hg, hgm, ?_, hsum.2⟩
      rw [hsum.1, List.map_map]; rfl

/-! ### display only -/

theorem map_factors {α β σ} (x : Outcome α) (txt : σ → α → β) (sc : σ) (t : β) (h : x.map (txt sc) = .ok t) :
    ∃ a, x = .ok a ∧ t = txt sc a ∧ ∀ sc', x.map (txt sc') = .ok (txt sc' a) := by
  obtain ⟨a, ha, rfl⟩ := (Outcome.map_ok _ _ _).mp h
  exact ⟨a, ha, rfl, fun sc' => by rw [ha]; rfl⟩

/-- the scale enters after the kernel: `fromIter : Settings → (BalRow → Bool) → List BPost → Outcome Balance`
    has no scale argument, and the report at *any* scale is `balanceTxt` of the same kernel figures -/
theorem report_factors (st : Settings) (sel : BalRow → Bool) (posts : List BPost) (sc : Scale) (t : BalanceText)
    (h : balanceReport st sel sc posts = .ok t) :
    ∃ b, fromIter st sel posts = .ok b ∧ t = balanceTxt sc b ∧
      ∀ sc', balanceReport st sel sc' posts = .ok (balanceTxt sc' b) :=
  map_factors (fromIter st sel posts) balanceTxt sc t h

/-- **C17 (4) display only.**  Every figure the balance report prints is `shown sc` of the kernel's *exact*
    figure – rows in the kernel's order, `own`/`tree`/delta positions – where the kernel figures are computed
    without the scale (the same `b` serves every scale `sc'`).  Hence the value each printed figure denotes is the
    exact figure rounded half away from zero; in particular a printed delta (total) is the *rounded exact sum* of
    the unrounded account sums of its commodity – never the sum of the rounded parts. -/
theorem display_only (st : Settings) (sel : BalRow → Bool) (posts : List BPost) (sc : Scale) (t : BalanceText)
    (hwf : sc.WF) (hp : ∀ p ∈ posts, p.amount.scale ≤ 28)
    (h : balanceReport st sel sc posts = .ok t) :
    ∃ b, fromIter st sel posts = .ok b
      ∧ (∀ sc', balanceReport st sel sc' posts = .ok (balanceTxt sc' b))
      ∧ t.rows = b.rows.map (fun r => ⟨r.acct, r.comm, shown sc r.own, shown sc r.tree⟩)
      ∧ t.deltas = b.deltas.map (fun cd => (cd.1, shown sc cd.2))
      ∧ (∀ r ∈ b.rows,
          valueOfShown (shown sc r.own).toList = roundHalfAway (28 - sc.max) r.own.units ∧
          valueOfShown (shown sc r.tree).toList = roundHalfAway (28 - sc.max) r.tree.units)
      ∧ (∀ cd ∈ b.deltas, ∃ g, (cd.1, g) ∈ chunkBy (·.comm) b.rows ∧ (∀ r ∈ g, r ∈ b.rows) ∧
          valueOfShown (shown sc cd.2).toList = roundHalfAway (28 - sc.max) (g.map (·.own.units)).sum) := by
  obtain ⟨b, hb, rfl, hall⟩ := report_factors st sel posts sc t h
  have hf := fromIter_figures st sel posts b hp hb
  refine ⟨b, hb, hall, rfl, rfl, ?_, ?_⟩
  · intro r hr
    rw [shown_toList, shown_toList]
    exact ⟨(shown_value sc r.own (hf.1 r hr).1 hwf).1, (shown_value sc r.tree (hf.1 r hr).2 hwf).1⟩
  · intro cd hcd
    obtain ⟨g, hg, hgm, hu, hs⟩ := hf.2 cd hcd
    refine ⟨g, hg, hgm, ?_⟩
    rw [shown_toList, (shown_value sc cd.2 hs hwf).1, hu]

/-- the register's `amount_to_string` is the shown figure up to one leading blank -/
theorem amountToString_strip (sc : Scale) (d : Dec) (w : Nat) :
    (amountToString sc d w).dropWhile (· == ' ') = shownChars sc d := by
  have hne : ∀ c t, shownChars sc d = c :: t → (c == ' ') = false := by
    intro c t h
    obtain ⟨ip, fp, heq, hip, hdig, _, _⟩ := shown_shape sc d
    rw [heq] at h
    cases ip with
    | nil => exact absurd rfl hip
    | cons i it =>
      have hi := hdig i List.mem_cons_self
      by_cases hn : (d.roundHA (sc.getPrecision d)).neg
      · simp [hn] at h; rw [← h.1]; decide
      · simp [hn] at h; rw [← h.1]
        rw [beq_eq_false_iff_ne]; intro e; subst e; exact absurd hi (by decide)
  have hstrip : (shownChars sc d).dropWhile (· == ' ') = shownChars sc d := by
    cases hc : shownChars sc d with
    | nil => rfl
    | cons c t => simp [hne c t hc]
  unfold amountToString
  split
  · simp [hstrip]
  · exact hstrip

/-! ### non-vacuity and regression witnesses (concrete figures; `decide` evaluates the model) -/

def dec (neg : Bool) (coeff scale : Nat) : Dec := ⟨neg, coeff, scale⟩

-- exact midpoints go away from zero, both signs; one ulp below goes towards zero
example : shownChars ⟨2, 2⟩ (dec false 1005 3) = "1.01".toList := by decide
example : shownChars ⟨2, 2⟩ (dec true 1005 3) = "-1.01".toList := by decide
example : shownChars ⟨2, 2⟩ (dec false 100499 5) = "1.00".toList := by decide
example : shownChars ⟨0, 0⟩ (dec false 25 1) = "3".toList := by decide
example : shownChars ⟨0, 0⟩ (dec true 5 1) = "-1".toList := by decide
-- half-even or truncation would print 0.12 here
example : shownChars ⟨2, 2⟩ (dec false 125 3) = "0.13".toList := by decide
-- carry into a new integer digit
example : shownChars ⟨2, 2⟩ (dec false 9995 3) = "10.00".toList := by decide
-- fewer decimals than min: padded; between min and max: as stored; trailing zeros beyond max: dropped
example : shownChars ⟨2, 7⟩ (dec false 15 1) = "1.50".toList := by decide
example : shownChars ⟨2, 7⟩ (dec false 12345 4) = "1.2345".toList := by decide
example : shownChars ⟨2, 4⟩ (dec false 12300000 7) = "1.2300".toList := by decide
-- a negative figure that rounds to zero loses its sign (`Decimal::from_parts`); a stored `-0.000` keeps it
example : shownChars ⟨2, 2⟩ (dec true 4 3) = "0.00".toList := by decide
example : shownChars ⟨2, 2⟩ (dec true 0 3) = "-0.00".toList := by decide
-- F20 witness: 1000 at 28 decimals is 33 characters (the real formatter's 32-byte buffer overflowed)
example : (shownChars ⟨28, 28⟩ (dec false 1000 0)).length = 33 := by decide
-- `Scale::from`
example : Scale.ofRaw 3 2 = .err ∧ Scale.ofRaw 0 29 = .err ∧ Scale.ofRaw 28 28 = .ok ⟨28, 28⟩ := by decide
-- hypotheses of the theorems are satisfiable: a figure that does not fit, and one that does
example : ¬ Fits ⟨2, 2⟩ (dec false 1005 3) := by
  rw [fits_iff_dvd _ _ (by decide)]
  rintro ⟨n, hn⟩
  have : (dec false 1005 3).units = 1005 * 10 ^ 25 := by decide
  rw [this] at hn
  have h2 : (1005 : Int) * 10 ^ 25 = n * 10 ^ 26 := hn
  omega
example : Fits ⟨2, 4⟩ (dec false 12300000 7) := ⟨12300, by decide⟩
example : valueOfShown "-1.01".toList = -101 * 10 ^ 26 ∧ decimalsOf "-1.01".toList = 2 := by decide

/-- **Parts round up, the total rounds down.**  Account sums 0.006 and 0.006 of one commodity at scale 2..2:
    each is shown as 0.01, their delta 0.012 is shown as 0.01 – the rounded exact total, not the sum 0.02 of the
    shown parts. -/
def partsUp : Balance :=
  { rows := [⟨["p", "c1"], "", dec false 6 3, dec false 6 3⟩, ⟨["p", "c2"], "", dec false 6 3, dec false 6 3⟩],
    deltas := [("", dec false 12 3)] }

example : Dec.sum (partsUp.rows.map (·.own)) = some (dec false 12 3) := by decide
example : (partsUp.rows.map (fun r => shownChars ⟨2, 2⟩ r.own)) = ["0.01".toList, "0.01".toList] := by decide
example : (partsUp.deltas.map (fun cd => shownChars ⟨2, 2⟩ cd.2)) = ["0.01".toList] := by decide
example : valueOfShown "0.01".toList + valueOfShown "0.01".toList ≠ valueOfShown "0.01".toList := by decide
example : valueOfShown (shownChars ⟨2, 2⟩ (dec false 12 3)) = roundHalfAway 26 (6 * 10 ^ 25 + 6 * 10 ^ 25) := by decide

end C17
end Tackler
