import TacklerModel.Props.C03
/-!
# C03 (continued) — the register is stable under growth of the journal

"Exact running totals" has a history reading that the per-row theorems of `Props/C03.lean` do not spell out:
the rows printed for the first transactions of the canonical order depend on *those* transactions only.
Appending later transactions (a longer journal, a further batch) never changes an entry that was already
there, never drops one and never reorders them; and a failure (an inexact sum, `Outcome.undef`) in a prefix
is a failure of the whole.  A block-wise or cached register engine that restarted, reused or pre-added totals
across a block border would break one of these statements.

All statements are for every selector, every stream of converted items and every cutting point (namespace `C03`).
-/
namespace Tackler
namespace C03

/-- the engine on `a ++ b` succeeds only if it succeeds on `a`, and then its entries start with those of `a` -/
theorem registerLoop_append (sel : RegRow → Bool) :
    ∀ (a b : List (Txn × List RItem)) (m : RegMap) (es : List RegEntry),
      registerLoop sel m (a ++ b) = some es →
      ∃ ea eb, registerLoop sel m a = some ea ∧ es = ea ++ eb ∧ ea.length = a.length ∧ eb.length = b.length := by
  intro a
  induction a with
  | nil =>
    intro b m es h
    have hl := congrArg List.length (registerLoop_txns sel _ _ _ h)
    exact ⟨[], es, rfl, rfl, rfl, by simpa using hl⟩
  | cons x rest ih =>
    intro b m es h
    obtain ⟨t, items⟩ := x
    obtain ⟨m', rows, es', h1, h2, rfl⟩ := Reg.registerLoop_cons_some h
    obtain ⟨ea, eb, hea, rfl, hla, hlb⟩ := ih b m' es' h2
    refine ⟨⟨t, rows.filter sel⟩ :: ea, eb, ?_, rfl, by simp [hla], hlb⟩
    simp [registerLoop, Reg.registerTxn_eq, h1, hea]

/-- **Prefix stability (stream form).**  The register of a longer stream extends the register of every prefix:
    entries already printed are never changed, dropped or reordered by what follows. -/
theorem register_prefix_stream (sel : RegRow → Bool) (a b : List (Txn × List RItem)) (es : List RegEntry)
    (h : registerEngine sel (a ++ b) = .ok es) :
    ∃ ea eb, registerEngine sel a = .ok ea ∧ es = ea ++ eb ∧ ea.length = a.length ∧ eb.length = b.length := by
  simp only [registerEngine_ok_iff] at h ⊢
  exact registerLoop_append sel a b RegMap.empty es h

/-- **Prefix stability.**  The register of `a ++ b` begins with exactly the register of `a`, one entry per
    transaction. -/
theorem register_prefix (sel : RegRow → Bool) (a b : List Txn) (es : List RegEntry)
    (h : register sel (a ++ b) = .ok es) :
    ∃ ea eb, register sel a = .ok ea ∧ es = ea ++ eb ∧ ea.length = a.length ∧ eb.length = b.length := by
  unfold register plainStream at h ⊢
  rw [List.map_append] at h
  obtain ⟨ea, eb, hea, hes, hla, hlb⟩ := register_prefix_stream sel _ _ es h
  exact ⟨ea, eb, hea, hes, by simpa using hla, by simpa using hlb⟩

theorem register_entry_stable (sel : RegRow → Bool) (a b : List Txn) (es ea : List RegEntry) (i : Nat)
    (h : register sel (a ++ b) = .ok es) (ha : register sel a = .ok ea) (hi : i < a.length) :
    es[i]? = ea[i]? := by
  obtain ⟨ea', eb, hea, hes, hla, _⟩ := register_prefix sel a b es h
  rw [ha] at hea
  cases hea
  subst hes
  rw [List.getElem?_append_left (by omega)]

/-- a prefix outside the exact domain puts the whole register outside it: no success "past" a failed sum -/
theorem register_prefix_fails (sel : RegRow → Bool) (a b : List Txn)
    (h : ∀ ea, register sel a ≠ .ok ea) : ∀ es, register sel (a ++ b) ≠ .ok es := by
  intro es hes
  obtain ⟨ea, _, hea, _⟩ := register_prefix sel a b es hes
  exact h ea hea

/-- non-vacuity: the sample register of `Props/C03` extends the register of its first two transactions -/
example : ∃ ea eb, register selAll [tx1, tx2] = .ok ea ∧
    register selAll ([tx1, tx2] ++ [tx3]) = .ok (ea ++ eb) ∧ ea.length = 2 ∧ eb.length = 1 := by
  obtain ⟨es, hes⟩ : ∃ es, register selAll ([tx1, tx2] ++ [tx3]) = .ok es := ⟨_, example_register⟩
  obtain ⟨ea, eb, h1, h2, h3, h4⟩ := register_prefix selAll [tx1, tx2] [tx3] es hes
  exact ⟨ea, eb, h1, by rw [hes, h2], h3, h4⟩

end C03
end Tackler
