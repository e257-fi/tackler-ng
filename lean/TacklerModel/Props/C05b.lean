import TacklerModel.Props.C05
import TacklerModel.Props.C18
/-!
# C05 (continued, namespace `C05`) — "text filters match whole strings"; successive selections

`Props/C05.lean` takes the pattern matcher `m` as a parameter.  Here it is instantiated with the matcher the
code really uses, `new_full_haystack_regex(pattern).is_match(haystack)` (`C18.fullMatch`, the same function
as the driver's `Ops.regexMatch`), and connected to the *meaning* of the pattern (`Regex.FullMatch`, the
declarative semantics of Model/Regex) through `C18.stored_is_whole_match`: `fullMatch_whole`, `code_whole_string`,
`desc_whole_string`, `post_account_whole_string`, `post_amount_whole_string`, `literal_code_filter`, for every pattern
inside the modelled regex subset (`Regex.parse p = some r`).
The second part holds for every matcher: `filter_compose`, `filter_comm`, `filter_idem`, `filter_not_complement`,
`filter_or_mem`, `filter_perm`.
-/
namespace Tackler
namespace C05

open Regex in
/-- the filters' matcher is one whole-string match of the pattern the user wrote -/
theorem fullMatch_whole (p : String) (r : Regex) (hay : String) (hp : Regex.parse p = some r) :
    C18.fullMatch p hay = true ↔ Regex.FullMatch r hay.toList := by
  rw [← C18.storedMatch_wrap]
  exact C18.stored_is_whole_match p r hay hp

theorem code_whole_string (p : String) (r : Regex) (t : Txn) (hp : Regex.parse p = some r) :
    Filter.eval C18.fullMatch (.code p) t = true ↔ ∃ c, t.header.code = some c ∧ Regex.FullMatch r c.toList := by
  rw [eval_sat]
  simp only [Sat, fun hay => fullMatch_whole p r hay hp]

theorem desc_whole_string (p : String) (r : Regex) (t : Txn) (hp : Regex.parse p = some r) :
    Filter.eval C18.fullMatch (.desc p) t = true ↔ ∃ d, t.header.desc = some d ∧ Regex.FullMatch r d.toList := by
  rw [eval_sat]
  simp only [Sat, fun hay => fullMatch_whole p r hay hp]

theorem post_account_whole_string (p : String) (r : Regex) (t : Txn) (hp : Regex.parse p = some r) :
    Filter.eval C18.fullMatch (.postAccount p) t = true ↔
      ∃ q ∈ t.posts, Regex.FullMatch r (acctName q.acct).toList := by
  rw [eval_sat]
  simp only [Sat, fun hay => fullMatch_whole p r hay hp]

theorem post_amount_whole_string (p : String) (r : Regex) (x : Dec) (t : Txn) (hp : Regex.parse p = some r) :
    Filter.eval C18.fullMatch (.postAmountEq p x) t = true ↔
      ∃ q ∈ t.posts, q.amount.units = x.units ∧ Regex.FullMatch r (acctName q.acct).toList := by
  rw [eval_sat]
  simp only [Sat, fun hay => fullMatch_whole p r hay hp]

/-- a literal pattern (no metacharacters) selects by equality, never by a proper part -/
theorem literal_code_filter (cs : List Char) (t : Txn) (hp : Regex.parse (String.ofList cs) = some (Regex.lits cs)) :
    Filter.eval C18.fullMatch (.code (String.ofList cs)) t = true ↔ t.header.code = some (String.ofList cs) := by
  rw [code_whole_string _ _ t hp]
  constructor
  · rintro ⟨c, hc, hm⟩
    have : c.toList = cs := (Regex.lits_full cs c.toList).mp hm
    rw [hc, ← this]; simp
  · intro hc
    refine ⟨String.ofList cs, hc, ?_⟩
    have h := (Regex.lits_full cs cs).mpr rfl
    simpa [Regex.FullMatch] using h

/-! ## Successive selections

`TxnData::filter` evaluates one definition over the loaded transactions and hands back a `TxnSet` of references; a
user narrows a selection by wrapping definitions in `AND`.  The laws say that selecting from a selection (`filterTxns`
applied twice) is that narrowing.  For every matcher, every definition and every journal. -/

theorem filterTxns_filterTxns (m : String → String → Bool) (f g : Filter) (ts : List Txn) :
    filterTxns m g (filterTxns m f ts) = ts.filter fun t => Filter.eval m f t && Filter.eval m g t := by
  unfold filterTxns
  rw [List.filter_filter]
  simp only [Bool.and_comm]

/-- narrowing a selection by `g` after `f` is the single selection `AND [f, g]` -/
theorem filter_compose (m : String → String → Bool) (f g : Filter) (ts : List Txn) :
    filterTxns m g (filterTxns m f ts) = filterTxns m (.and [f, g]) ts := by
  rw [filterTxns_filterTxns]
  simp only [filterTxns, Filter.eval, Filter.evalAll, Bool.and_true]

theorem filter_comm (m : String → String → Bool) (f g : Filter) (ts : List Txn) :
    filterTxns m g (filterTxns m f ts) = filterTxns m f (filterTxns m g ts) := by
  rw [filterTxns_filterTxns, filterTxns_filterTxns]
  simp only [Bool.and_comm]

theorem filter_idem (m : String → String → Bool) (f : Filter) (ts : List Txn) :
    filterTxns m f (filterTxns m f ts) = filterTxns m f ts := by
  rw [filterTxns_filterTxns]
  simp only [Bool.and_self]
  rfl

theorem filter_not_complement (m : String → String → Bool) (f : Filter) (ts : List Txn) (t : Txn) (ht : t ∈ ts) :
    (t ∈ filterTxns m f ts ∧ t ∉ filterTxns m (.not f) ts) ∨ (t ∉ filterTxns m f ts ∧ t ∈ filterTxns m (.not f) ts) :=
  (partition m f ts).1 t ht

/-- `OR` selects exactly what either member selects -/
theorem filter_or_mem (m : String → String → Bool) (f g : Filter) (ts : List Txn) (t : Txn) :
    t ∈ filterTxns m (.or [f, g]) ts ↔ t ∈ filterTxns m f ts ∨ t ∈ filterTxns m g ts := by
  unfold filterTxns
  simp only [List.mem_filter, Filter.eval, Filter.evalAny, Bool.or_false, Bool.or_eq_true]
  constructor
  · rintro ⟨h, h1 | h2⟩
    · exact Or.inl ⟨h, h1⟩
    · exact Or.inr ⟨h, h2⟩
  · rintro (⟨h, h1⟩ | ⟨h, h2⟩)
    · exact ⟨h, Or.inl h1⟩
    · exact ⟨h, Or.inr h2⟩

theorem filter_perm (m : String → String → Bool) (f : Filter) (ts ts' : List Txn) (hp : ts.Perm ts') :
    (filterTxns m f ts).Perm (filterTxns m f ts') :=
  hp.filter _

/-- non-vacuity: on a two-transaction journal, narrowing by two half-open time bounds selects the one inside both -/
example : ∀ (m : String → String → Bool) (a b : Txn), a.header.ts.ns = 5 → b.header.ts.ns = 20 →
    filterTxns m (.tsEnd 10) (filterTxns m (.tsBegin 0) [a, b]) = [a] := by
  intro m a b ha hb
  simp [filterTxns, List.filter, Filter.eval, ha, hb]

end C05
end Tackler
