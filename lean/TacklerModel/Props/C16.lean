import TacklerModel.Model.Order
import TacklerModel.Lemmas.Time
/-!
# C16 — timestamps are instants; zone defaults as configured; report zone display-only

Property theorems over `Model/Time.lean` (the transliteration of `parser/parts/timestamp.rs`,
`Settings::get_offset_datetime` / `get_offset_date`, `tackler_api::txn_ts`) and `Model/Order.lean`
(`impl Ord for TxnHeader`).  Every statement quantifies over all tokens / instants / offsets / configurations;
none is bounded.  Fixed-offset journal zones are fully proved; for named zones the transition table is data
(`ZoneTable`), theorems about them are marked `_partial` and say what they leave to the tie.

`resolve_some` / `resolve_date` are the normal forms of `resolveTs` (the checks, then the instant), `instant_formula`
reads the instant off them.  The property theorems carry the property's name: `notation_equiv`, `fraction_scaling`,
`default_zone`, `default_time`, `order_by_instant`, `report_tz_display_only`, `roundtrip`.
-/
namespace Tackler
namespace C16
open Time

/-! ### what a token denotes -/

/-- UTC offset (seconds) a token is read with: its own zone if written, else the journal zone -/
def zoneOffset (cfg : TsCfg) : Option (Option (Bool × Nat × Nat)) → Int
  | none => cfg.offset
  | some none => 0
  | some (some (neg, hh, mm)) => (if neg then -1 else 1) * ((hh * 3600 + mm * 60 : Nat) : Int)

/-- nanoseconds denoted by the optional fraction digits -/
def subOf : Option (List Char) → Nat
  | some ds => fracNs ds
  | none => 0

/-- the written wall-clock fields (hour, minute, second, ns), the configured default time for a date-only token -/
def clockOf (cfg : TsCfg) (t : TsToken) : Nat × Nat × Nat × Nat :=
  match t.time with
  | none => cfg.defaultTime
  | some (h, mi, s, frac) => (h, mi, s, subOf frac)

/-- the written wall-clock time as nanoseconds (read as if UTC) -/
def localNs (cfg : TsCfg) (t : TsToken) : Int :=
  match clockOf cfg t with
  | (h, mi, s, sub) => civilNs t.year t.month t.day h mi s sub

/-- the offset check `p_offset` makes: only a written `±hh:mm` goes through `Offset::from_seconds` -/
def zoneChk (cfg : TsCfg) (z : Option (Option (Bool × Nat × Nat))) : Bool :=
  match z with
  | some (some _) => offsetOk (zoneOffset cfg z)
  | _ => true

/-- normal form of `resolveTs` on a token with a time: four checks, then the instant -/
theorem resolve_some (cfg : TsCfg) (y m d h mi s : Nat) (frac : Option (List Char))
    (z : Option (Option (Bool × Nat × Nat))) :
    resolveTs cfg ⟨y, m, d, some (h, mi, s, frac), z⟩ =
      if dateOk y m d && timeOk h mi s && zoneChk cfg z &&
          instantOk (civilNs y m d h mi s (subOf frac) - zoneOffset cfg z * 1000000000)
      then .ok ⟨civilNs y m d h mi s (subOf frac) - zoneOffset cfg z * 1000000000, zoneOffset cfg z⟩ else .err := by
  cases hd : dateOk y m d <;> cases ht : timeOk h mi s <;> cases frac <;> rcases z with _ | _ | ⟨neg, hh, mm⟩ <;>
    simp [resolveTs, subOf, zoneOffset, zoneChk, hd, ht] <;>
    (cases offsetOk ((if neg = true then -1 else 1) * ((hh : Int) * 3600 + (mm : Int) * 60)) <;> simp)

/-- normal form of `resolveTs` on a date-only token: the grammar has no `date zone` -/
theorem resolve_date (cfg : TsCfg) (y m d : Nat) (z : Option (Option (Bool × Nat × Nat))) :
    resolveTs cfg ⟨y, m, d, none, z⟩ =
      if dateOk y m d && z.isNone &&
          instantOk (localNs cfg ⟨y, m, d, none, none⟩ - cfg.offset * 1000000000)
      then .ok ⟨localNs cfg ⟨y, m, d, none, none⟩ - cfg.offset * 1000000000, cfg.offset⟩ else .err := by
  obtain ⟨coff, dh, dmi, ds, dns⟩ := cfg
  cases hd : dateOk y m d <;> cases z <;> simp [resolveTs, localNs, clockOf, hd]

/-- `instant (dt, off) = civilNs dt − off·10⁹`: whenever a token resolves, its instant is the written wall-clock time
    minus the offset it is read with, and that offset is recorded -/
theorem instant_formula (cfg : TsCfg) (t : TsToken) (ts : Ts) (h : resolveTs cfg t = .ok ts) :
    ts.ns = localNs cfg t - zoneOffset cfg t.zone * 1000000000 ∧ ts.offset = zoneOffset cfg t.zone ∧
    instantOk ts.ns = true ∧ dateOk t.year t.month t.day = true := by
  obtain ⟨y, m, d, time, zone⟩ := t
  rcases time with _ | ⟨hh, mi, s, frac⟩
  · rw [resolve_date] at h
    split at h
    · rename_i hc
      cases h
      simp only [Bool.and_eq_true, Option.isNone_iff_eq_none] at hc
      obtain ⟨⟨hd, rfl⟩, hi⟩ := hc
      exact ⟨rfl, rfl, hi, hd⟩
    · cases h
  · rw [resolve_some] at h
    split at h
    · rename_i hc
      cases h
      simp only [Bool.and_eq_true] at hc
      exact ⟨rfl, rfl, hc.2, hc.1.1.1⟩
    · cases h

/-! ### notation equivalence -/

theorem notation_equiv_formula (cfg : TsCfg) (t₁ t₂ : TsToken) (a b : Ts)
    (h₁ : resolveTs cfg t₁ = .ok a) (h₂ : resolveTs cfg t₂ = .ok b)
    (heq : localNs cfg t₁ - zoneOffset cfg t₁.zone * 1000000000 = localNs cfg t₂ - zoneOffset cfg t₂.zone * 1000000000) :
    a.ns = b.ns := by
  rw [(instant_formula cfg t₁ a h₁).1, (instant_formula cfg t₂ b h₂).1, heq]

/-- `Z`, `+00:00` and `-00:00` are the same notation -/
theorem zulu_equiv (cfg : TsCfg) (t : TsToken) (neg : Bool) :
    resolveTs cfg { t with zone := some (some (neg, 0, 0)) } = resolveTs cfg { t with zone := some none } := by
  unfold resolveTs
  cases neg <;> simp [offsetOk]

/-- a zone field that the grammar can carry and `Offset::from_seconds` accepts (any `±hh:mm` up to 25:59, `Z`, or none) -/
def ZoneOk (cfg : TsCfg) (z : Option (Option (Bool × Nat × Nat))) : Prop := offsetOk (zoneOffset cfg z) = true ∨ z = none

/-- the token that writes instant `ns` with zone field `z`: civil fields of `ns` at the offset of `z`, nine fraction
    digits (none for a whole second) -/
def tokenAt (cfg : TsCfg) (ns : Int) (z : Option (Option (Bool × Nat × Nat))) : TsToken :=
  match civilAt ns (zoneOffset cfg z) with
  | (y, m, d, h, mi, s, sub) => ⟨y.toNat, m, d, some (h, mi, s, if sub = 0 then none else some (digitsOf 9 sub)), z⟩

/-- **notation_equiv (constructive form).** Every instant in range, written in *any* zone notation (`Z`, any `±hh:mm`
    the code accepts — in particular all of −23:59…+23:59 —, or zone-less in the journal zone) in which its civil year
    is 0000…9999, resolves to exactly that instant and records the notation's offset. -/
theorem notation_resolves (cfg : TsCfg) (ns : Int) (z : Option (Option (Bool × Nat × Nat)))
    (hns : instantOk ns = true) (hz : ZoneOk cfg z)
    (hy : 0 ≤ (civilAt ns (zoneOffset cfg z)).1 ∧ (civilAt ns (zoneOffset cfg z)).1 ≤ 9999) :
    resolveTs cfg (tokenAt cfg ns z) = .ok ⟨ns, zoneOffset cfg z⟩ := by
  unfold tokenAt
  generalize hc : civilAt ns (zoneOffset cfg z) = c at hy
  obtain ⟨y, m, d, h, mi, s, sub⟩ := c
  obtain ⟨hm1, hm2, hd1, hd2, hh, hmi, hs, hsub, hrec⟩ := civilNs_civilAt ns _ y m d h mi s sub hc
  simp only at hy
  have hyn : ((y.toNat : Nat) : Int) = y := by omega
  have hdate : dateOk y.toNat m d = true := by
    simp only [dateOk, hyn]
    simp
    omega
  have htime : timeOk h mi s = true := by simp [timeOk]; omega
  have hfr : subOf (if sub = 0 then none else some (digitsOf 9 sub)) = sub := by
    by_cases h0 : sub = 0
    · simp [h0, subOf]
    · simp [h0, subOf, fracNs_digitsOf sub hsub]
  have hinst : civilNs y.toNat m d h mi s sub = ns + zoneOffset cfg z * 1000000000 := by
    unfold civilNs
    rw [hyn]
    exact hrec
  have hchk : zoneChk cfg z = true := by
    rcases z with _ | _ | ⟨neg, hh', mm'⟩
    · rfl
    · rfl
    · rcases hz with hz | hz
      · simpa [zoneChk] using hz
      · cases hz
  have hback : ns + zoneOffset cfg z * 1000000000 - zoneOffset cfg z * 1000000000 = ns := by omega
  rw [resolve_some]
  simp [hdate, htime, hfr, hinst, hchk, hback, hns]

/-- **notation_equiv.** Two notations of one instant — any two zone fields, any offsets the code accepts — parse to
    equal instants (each keeps its own offset, which ordering ignores: `order_by_instant`). -/
theorem notation_equiv (cfg : TsCfg) (ns : Int) (z₁ z₂ : Option (Option (Bool × Nat × Nat)))
    (hns : instantOk ns = true) (hz₁ : ZoneOk cfg z₁) (hz₂ : ZoneOk cfg z₂)
    (hy₁ : 0 ≤ (civilAt ns (zoneOffset cfg z₁)).1 ∧ (civilAt ns (zoneOffset cfg z₁)).1 ≤ 9999)
    (hy₂ : 0 ≤ (civilAt ns (zoneOffset cfg z₂)).1 ∧ (civilAt ns (zoneOffset cfg z₂)).1 ≤ 9999) :
    ∃ a b, resolveTs cfg (tokenAt cfg ns z₁) = .ok a ∧ resolveTs cfg (tokenAt cfg ns z₂) = .ok b ∧
      a.ns = b.ns ∧ a.ns = ns ∧ a.offset = zoneOffset cfg z₁ ∧ b.offset = zoneOffset cfg z₂ :=
  ⟨_, _, notation_resolves cfg ns z₁ hns hz₁ hy₁, notation_resolves cfg ns z₂ hns hz₂ hy₂, rfl, rfl, rfl, rfl⟩

theorem offsets_within_day_ok (cfg : TsCfg) (neg : Bool) (hh mm : Nat) (hh23 : hh ≤ 23) (hm59 : mm ≤ 59) :
    ZoneOk cfg (some (some (neg, hh, mm))) := by
  left
  cases neg <;> simp [zoneOffset, offsetOk] <;> omega

/-! ### fraction scaling -/

theorem fracNs_lt (ds : List Char) (hds : ∀ c ∈ ds, isDig c = true) (hk : ds.length ≤ 9) : fracNs ds < 1000000000 := by
  unfold fracNs
  have h1 := Dec.digitsVal_lt ds hds
  have h2 : Dec.digitsVal ds * 10 ^ (9 - ds.length) < 10 ^ ds.length * 10 ^ (9 - ds.length) :=
    Nat.mul_lt_mul_of_pos_right h1 (Nat.pow_pos (by omega))
  rw [← Nat.pow_add] at h2
  have : ds.length + (9 - ds.length) = 9 := by omega
  rw [this] at h2
  omega

/-- **fraction_scaling.** `k` fraction digits (1 ≤ k ≤ 9) denote `value · 10^(9−k)` nanoseconds, which is below one
    second; that is the sub-second part of the resolved instant's wall-clock time. -/
theorem fraction_scaling (cfg : TsCfg) (t : TsToken) (ts : Ts) (h mi s : Nat) (ds : List Char)
    (ht : t.time = some (h, mi, s, some ds)) (hds : ∀ c ∈ ds, isDig c = true) (hk : ds.length ≤ 9)
    (hr : resolveTs cfg t = .ok ts) :
    fracNs ds = Dec.digitsVal ds * 10 ^ (9 - ds.length) ∧ fracNs ds < 1000000000 ∧
    ts.ns = civilNs t.year t.month t.day h mi s (Dec.digitsVal ds * 10 ^ (9 - ds.length))
              - zoneOffset cfg t.zone * 1000000000 := by
  refine ⟨rfl, fracNs_lt ds hds hk, ?_⟩
  · rw [(instant_formula cfg t ts hr).1]
    simp [localNs, clockOf, ht, subOf, fracNs]

/-- `.5` and `.500000000`: trailing zeros (up to nine digits in all) do not change the value -/
theorem fraction_trailing_zeros (ds : List Char) (j : Nat) (h : ds.length + j ≤ 9) :
    fracNs (ds ++ List.replicate j '0') = fracNs ds := by
  unfold fracNs
  rw [Dec.digitsVal_append_zeros, List.length_append, List.length_replicate, Nat.mul_assoc, ← Nat.pow_add]
  congr 2
  omega

theorem lexFrac_long (ds rest : List Char) (hds : ∀ c ∈ ds, isDig c = true) (hlen : 10 ≤ ds.length) :
    ∃ c r, lexFrac ('.' :: (ds ++ rest)) = some (some (ds.take 9), c :: r) ∧ isDig c = true := by
  have htw : ∀ (l : List Char), (∀ c ∈ l, isDig c = true) → (l ++ rest).takeWhile isDig = l ++ rest.takeWhile isDig := by
    intro l hl
    induction l with
    | nil => simp
    | cons a t ih =>
      simp [hl a List.mem_cons_self, ih (fun c hc => hl c (List.mem_cons_of_mem _ hc))]
  have ht9 : ((ds ++ rest).takeWhile isDig).take 9 = ds.take 9 := by
    rw [htw ds hds, List.take_append_of_le_length (by omega)]
  have hl9 : (ds.take 9).length = 9 := by simp; omega
  have hdrop : (ds ++ rest).drop 9 = ds.drop 9 ++ rest := by
    rw [List.drop_append_of_le_length (by omega)]
  obtain ⟨c, r, hcr⟩ : ∃ c r, ds.drop 9 = c :: r := by
    cases hd : ds.drop 9 with
    | nil => have := congrArg List.length hd; simp at this; omega
    | cons c r => exact ⟨c, r, rfl⟩
  have hc : isDig c = true := hds c (List.mem_of_mem_drop (by rw [hcr]; exact List.mem_cons_self))
  refine ⟨c, r ++ rest, ?_, hc⟩
  simp only [lexFrac]
  simp only [beq_self_eq_true, if_true, ht9, hl9, hdrop, hcr]
  have hne : (List.take 9 ds).isEmpty = false := by
    cases hx : List.take 9 ds with
    | nil => rw [hx] at hl9; simp at hl9
    | cons _ _ => rfl
  simp [hne]

theorem lexZone_digit (c : Char) (r : List Char) (hc : isDig c = true) : lexZone (c :: r) = none := by
  have hne : ∀ x : Char, isDig x = false → (c == x) = false := by
    intro x hx
    cases hcx : c == x with
    | false => rfl
    | true => rw [beq_iff_eq.mp hcx, hx] at hc; cases hc
  have hZ := hne 'Z' (by decide)
  have hp := hne '+' (by decide)
  have hm := hne '-' (by decide)
  clear hne
  unfold lexZone
  split <;> simp_all

/-- **fraction: 10+ digits are rejected by the grammar.** -/
theorem fraction_ten_digits_rejected (cs rest1 ds rest : List Char) (y m d h mi s : Nat)
    (hdate : lexDate cs = some (y, m, d, 'T' :: rest1))
    (hclock : lexClock rest1 = some (h, mi, s, '.' :: (ds ++ rest)))
    (hds : ∀ c ∈ ds, isDig c = true) (hlen : 10 ≤ ds.length) :
    lexTs cs = none := by
  obtain ⟨c, r, hf, hc⟩ := lexFrac_long ds rest hds hlen
  unfold lexTs
  simp [hdate, hclock, hf, lexZone_digit c r hc]

/-! ### defaults from the configuration -/

/-- **default_zone.** A timestamp without zone takes the configured journal zone: its instant is the written
    wall-clock time minus the configured offset, and it records that offset. -/
theorem default_zone (cfg : TsCfg) (t : TsToken) (ts : Ts) (hz : t.zone = none) (h : resolveTs cfg t = .ok ts) :
    ts.ns = localNs cfg t - cfg.offset * 1000000000 ∧ ts.offset = cfg.offset := by
  have := instant_formula cfg t ts h
  rw [hz] at this
  exact ⟨this.1, this.2.1⟩

/-- … which is the same as writing the configured offset out (for a whole-minute configured offset) -/
theorem default_zone_explicit (cfg : TsCfg) (t : TsToken) (neg : Bool) (hh mm : Nat) (tm : Nat × Nat × Nat × Option (List Char))
    (htime : t.time = some tm)
    (hcfg : cfg.offset = (if neg then -1 else 1) * ((hh * 3600 + mm * 60 : Nat) : Int)) (hok : offsetOk cfg.offset = true) :
    resolveTs cfg { t with zone := none } = resolveTs cfg { t with zone := some (some (neg, hh, mm)) } := by
  obtain ⟨h, mi, s, frac⟩ := tm
  unfold resolveTs
  simp only [htime]
  rw [← hcfg]
  simp [hok]

/-- **default_time.** A date-only timestamp takes the configured default time (and the configured zone). -/
theorem default_time (cfg : TsCfg) (t : TsToken) (ts : Ts) (ht : t.time = none) (h : resolveTs cfg t = .ok ts) :
    t.zone = none ∧
    ts.ns = civilNs t.year t.month t.day cfg.defaultTime.1 cfg.defaultTime.2.1 cfg.defaultTime.2.2.1 cfg.defaultTime.2.2.2
              - cfg.offset * 1000000000 ∧ ts.offset = cfg.offset := by
  have hzn : t.zone = none := by
    obtain ⟨y, m, d, time, zone⟩ := t
    subst ht
    rw [resolve_date] at h
    split at h
    · rename_i hc
      simp only [Bool.and_eq_true, Option.isNone_iff_eq_none] at hc
      exact hc.1.2
    · cases h
  have := instant_formula cfg t ts h
  rw [hzn] at this
  refine ⟨hzn, ?_, this.2.1⟩
  rw [this.1]
  simp [localNs, clockOf, ht, zoneOffset]

/-- … which is the same as writing the default time out -/
theorem default_time_explicit (cfg : TsCfg) (y m d : Nat) (h mi s sub : Nat) (hcfg : cfg.defaultTime = (h, mi, s, sub))
    (htime : timeOk h mi s = true) (hsub : sub < 1000000000) :
    resolveTs cfg ⟨y, m, d, none, none⟩ = resolveTs cfg ⟨y, m, d, some (h, mi, s, some (digitsOf 9 sub)), none⟩ := by
  unfold resolveTs
  simp [hcfg, htime, fracNs_digitsOf sub hsub]

/-! ### named journal zones: the table is data -/

theorem resolveTsZ_fixed (off : Int) (dt : Nat × Nat × Nat × Nat) (t : TsToken) :
    resolveTsZ ⟨.fixed off, dt⟩ t = resolveTs ⟨off, dt⟩ t := rfl

/-- a written zone overrides the journal zone: the table is not consulted -/
theorem table_not_consulted (z : ZoneTable) (cfg : TsCfg) (t : TsToken) (hz : t.zone ≠ none) :
    resolveTsZ ⟨.table z, cfg.defaultTime⟩ t = resolveTs cfg t := by
  obtain ⟨y, m, d, time, zone⟩ := t
  cases zone with
  | none => exact absurd rfl hz
  | some zz =>
    cases time with
    | none => simp [resolveTsZ, resolveTs]
    | some tm =>
      obtain ⟨h, mi, s, frac⟩ := tm
      rcases zz with _ | ⟨neg, hh, mm⟩ <;>
        cases hd : dateOk y m d <;> cases ht : timeOk h mi s <;> simp [resolveTsZ, resolveTs, hd, ht]

theorem resolveLocalFrom_mem (z : ZoneTable) (trans : List (Int × Int)) (prev loc : Int) :
    ∃ p, p ∈ prev :: trans.map Prod.snd ∧ (resolveLocalFrom z prev trans loc).1 = loc - p * 1000000000 := by
  induction trans generalizing prev with
  | nil => exact ⟨prev, by simp, rfl⟩
  | cons hd tl ih =>
    obtain ⟨t, o⟩ := hd
    simp only [resolveLocalFrom]
    split
    · exact ⟨prev, by simp, rfl⟩
    · split
      · exact ⟨prev, by simp, rfl⟩
      · obtain ⟨p, hp, he⟩ := ih o
        refine ⟨p, ?_, he⟩
        simp only [List.map_cons, List.mem_cons] at hp ⊢
        rcases hp with hp | hp
        · right; left; exact hp
        · right; right; exact hp

/-- **default_zone for a table zone (partial).** Full statement: the instant `u` is the one whose wall-clock reading
    in the zone is the written time (the earlier one in a fold; the written time moved forward by the gap's length in a
    gap), i.e. jiff's "compatible" rule on the real tz database.  Proved here for every table: the instant is the
    written wall-clock time minus *one of the zone's own offsets* (the initial one or one listed in the table).  Which
    one is decided by the table's content — data exported from jiff — and is validated on every run by the tie
    (op `ts`, wall-clock times around every kind of transition) and by the python `zoneinfo` oracle. -/
theorem default_zone_table_partial (z : ZoneTable) (dt : Nat × Nat × Nat × Nat) (t : TsToken) (ts : Ts)
    (hz : t.zone = none) (h : resolveTsZ ⟨.table z, dt⟩ t = .ok ts) :
    ∃ p, p ∈ z.init :: z.trans.map Prod.snd ∧ ts.ns = localNs ⟨0, dt⟩ t - p * 1000000000 := by
  obtain ⟨y, m, d, time, zone⟩ := t
  simp only at hz
  subst hz
  have key : ∀ loc, zonedInstant z loc = .ok ts →
      ∃ p, p ∈ z.init :: z.trans.map Prod.snd ∧ ts.ns = loc - p * 1000000000 := by
    intro loc hl
    unfold zonedInstant at hl
    split at hl
    · simp only at hl
      split at hl
      · cases hl
        exact resolveLocalFrom_mem z z.trans z.init loc
      · cases hl
    · cases hl
  unfold resolveTsZ at h
  simp only at h
  split at h
  · cases h
  · cases time with
    | none =>
      simp only at h
      obtain ⟨dh, dmi, ds, dns⟩ := dt
      simpa [localNs, clockOf] using key _ h
    | some tm =>
      obtain ⟨hh, mi, s, frac⟩ := tm
      simp only at h
      split at h
      · cases h
      · cases frac <;> simpa [localNs, clockOf, subOf] using key _ h

theorem table_without_transitions (lo hi init : Int) (loc : Int)
    (hw : lo + windowMargin ≤ loc ∧ loc ≤ hi - windowMargin) :
    zonedInstant ⟨lo, hi, init, []⟩ loc =
      if instantOk (loc - init * 1000000000) then .ok ⟨loc - init * 1000000000, init⟩ else .err := by
  by_cases hi : instantOk (loc - init * 1000000000) = true <;>
    simp [zonedInstant, hw, resolveLocal, resolveLocalFrom, hi]

/-! ### ordering is by instant -/

/-- the ordering of headers is a function of `hdrKey`, in which the written offset does not occur -/
theorem hdrLe_key (a a' b b' : Header) (ha : hdrKey a = hdrKey a') (hb : hdrKey b = hdrKey b') :
    hdrLe a b = hdrLe a' b' := by
  unfold hdrLe
  rw [ha, hb]

/-- re-notating a header: another offset for the same instant -/
def renotate (o : Int) (h : Header) : Header := { h with ts := ⟨h.ts.ns, o⟩ }

theorem hdrKey_renotate (o : Int) (h : Header) : hdrKey (renotate o h) = hdrKey h := rfl

/-- **order_by_instant.** `impl Ord for TxnHeader` depends on the instant (`ts.ns`), never on the offset notation:
    two headers with the same instant (and the same code, description, uuid) order identically against any third
    header, on either side. -/
theorem order_by_instant (a a' b : Header) (hns : a'.ts.ns = a.ts.ns) (hc : a'.code = a.code)
    (hd : a'.desc = a.desc) (hu : a'.uuid = a.uuid) :
    hdrLe a' b = hdrLe a b ∧ hdrLe b a' = hdrLe b a := by
  have hk : hdrKey a' = hdrKey a := by simp [hdrKey, hns, hc, hd, hu]
  exact ⟨hdrLe_key a' a b b hk rfl, hdrLe_key b b a' a rfl hk⟩

/-- re-notating every transaction (each with its own new offset) commutes with the load-time sort: the order of a
    journal does not depend on how its timestamps' offsets were written -/
theorem sort_ignores_notation (g : Txn → Int) (txns : List Txn) :
    sortTxns (txns.map (fun t => { t with header := renotate (g t) t.header })) =
      (sortTxns txns).map (fun t => { t with header := renotate (g t) t.header }) := by
  unfold sortTxns
  rw [List.map_mergeSort]
  intro a _ b _
  simp only [txnLe]
  exact hdrLe_key _ _ _ _ (hdrKey_renotate _ _).symm (hdrKey_renotate _ _).symm

/-! ### the report zone is display-only -/

/-- everything a run is configured with, as far as this property goes -/
structure RunCfg where
  settings : Settings
  ts : TsCfg
  /-- offset of the report zone (at the instant shown) -/
  reportOff : Int
  style : TsStyle

/-- timestamp tokens → instants, in the journal zone -/
def resolveAll (cfg : TsCfg) : List (TsToken × RawTxn) → Outcome (List RawTxn)
  | [] => .ok []
  | (tok, r) :: rest =>
    match resolveTs cfg tok with
    | .ok ts =>
      (match resolveAll cfg rest with
       | .ok rs => .ok ({ r with header := { r.header with ts := ts } } :: rs)
       | .err => .err
       | .undef => .undef)
    | .err => .err
    | .undef => .undef

/-- loading under a full run configuration: resolve the timestamps, accept, sort -/
def loadRun (c : RunCfg) (xs : List (TsToken × RawTxn)) : Outcome (List Txn × Settings) :=
  (resolveAll c.ts xs).bind (loadJournal c.settings)

/-- the timestamp column of the register report: the only consumer of the report zone -/
def registerStamps (c : RunCfg) (txns : List Txn) : List String :=
  txns.map (fun t => fmtStyle c.style t.header.ts.ns c.reportOff)

/-- **report_tz_display_only.** Loading — timestamp resolution, acceptance (every posting amount), the sort order —
    takes the whole run configuration and yet is invariant under any change of the report zone and timestamp style:
    the loaded, ordered transactions with all their amounts are literally the same value.  (The register kernel,
    `Model/Register.lean`, takes no report zone either: its rows are postings and running totals, the timestamp
    text of an entry is `registerStamps`.  That the real register differs only in that text is checked on the
    implementation by the `report-tz` oracle of gen/c16.py.) -/
theorem report_tz_display_only (c : RunCfg) (z : Int) (st : TsStyle) (xs : List (TsToken × RawTxn)) :
    loadRun { c with reportOff := z, style := st } xs = loadRun c xs := rfl

/-- what *is* displayed depends on the instant and the report zone only — not on the offset the timestamp was
    written with -/
theorem display_ignores_notation (c : RunCfg) (g : Txn → Int) (txns : List Txn) :
    registerStamps c (txns.map (fun t => { t with header := renotate (g t) t.header })) = registerStamps c txns := by
  simp [registerStamps, renotate, List.map_map, Function.comp_def]

/-! ### round trip -/

/-- what the lexer guarantees about fraction digits -/
def FracOk (t : TsToken) : Prop :=
  ∀ h mi s ds, t.time = some (h, mi, s, some ds) → (∀ c ∈ ds, isDig c = true) ∧ ds.length ≤ 9

/-- `Timestamp::from` of the configuration: the default time is a valid `civil::Time` -/
def CfgOk (cfg : TsCfg) : Prop :=
  timeOk cfg.defaultTime.1 cfg.defaultTime.2.1 cfg.defaultTime.2.2.1 = true ∧ cfg.defaultTime.2.2.2 < 1000000000

/-- **round trip.** Showing a resolved timestamp at the offset it recorded gives back the written civil fields (for a
    date-only timestamp: the date and the configured default time). -/
theorem roundtrip (cfg : TsCfg) (t : TsToken) (ts : Ts) (hcfg : CfgOk cfg) (hf : FracOk t)
    (h : resolveTs cfg t = .ok ts) :
    civilAt ts.ns ts.offset =
      ((t.year : Int), t.month, t.day, (clockOf cfg t).1, (clockOf cfg t).2.1, (clockOf cfg t).2.2.1, (clockOf cfg t).2.2.2) := by
  obtain ⟨hns, hoff, _, hdate⟩ := instant_formula cfg t ts h
  rw [hns, hoff]
  have hd : (1 ≤ t.month ∧ t.month ≤ 12) ∧ (1 ≤ t.day ∧ t.day ≤ daysInMonth t.year t.month) := by
    simp [dateOk] at hdate
    omega
  have hclock : timeOk (clockOf cfg t).1 (clockOf cfg t).2.1 (clockOf cfg t).2.2.1 = true ∧
      (clockOf cfg t).2.2.2 < 1000000000 := by
    obtain ⟨y, m, d, time, zone⟩ := t
    cases time with
    | none => unfold CfgOk at hcfg; simpa [clockOf] using hcfg
    | some tm =>
      obtain ⟨hh, mi, s, frac⟩ := tm
      have hto : timeOk hh mi s = true := by
        rw [resolve_some] at h
        split at h
        · rename_i hc
          simp only [Bool.and_eq_true] at hc
          exact hc.1.1.2
        · cases h
      refine ⟨by simpa [clockOf] using hto, ?_⟩
      cases frac with
      | none => simp [clockOf, subOf]
      | some ds =>
        obtain ⟨h1, h2⟩ := hf hh mi s ds rfl
        simpa [clockOf, subOf] using fracNs_lt ds h1 h2
  unfold localNs
  generalize clockOf cfg t = ck at hclock
  obtain ⟨ch, cmi, cs, csub⟩ := ck
  simp only [timeOk, decide_eq_true_eq] at hclock
  exact civilAt_civilNs t.year t.month t.day ch cmi cs csub _ hd.1 hd.2 hclock.1.1 hclock.1.2.1 hclock.1.2.2 hclock.2

theorem lexFrac_ok (cs : List Char) (ds rest : List Char) (h : lexFrac cs = some (some ds, rest)) :
    (∀ c ∈ ds, isDig c = true) ∧ ds.length ≤ 9 := by
  unfold lexFrac at h
  split at h
  · rename_i c r
    split at h
    · simp only at h
      split at h
      · cases h
      · cases h
        refine ⟨fun c hc => ?_, by simp; omega⟩
        exact List.all_eq_true.mp List.all_takeWhile c (List.mem_of_mem_take hc)
    · cases h
  · cases h

theorem lexTs_fracOk (cs : List Char) (t : TsToken) (h : lexTs cs = some t) : FracOk t := by
  intro hh mi s ds ht
  unfold lexTs at h
  split at h
  · cases h
  · split at h
    · cases h; simp at ht
    · split at h
      · cases h
      · split at h
        · cases h
        · split at h
          · cases h
          · rename_i hfr
            split at h
            · cases h
            · cases h
              simp only [Option.some.injEq, Prod.mk.injEq] at ht
              obtain ⟨_, _, _, rfl⟩ := ht
              exact lexFrac_ok _ _ _ hfr

/-- **round trip from text.** A timestamp text that parses shows, at its recorded offset, the civil fields its
    lexical token carries. -/
theorem parse_roundtrip (cfg : TsCfg) (text : String) (ts : Ts) (hcfg : CfgOk cfg) (h : parseTs cfg text = .ok ts) :
    ∃ t, lexTs text.toList = some t ∧
      civilAt ts.ns ts.offset =
        ((t.year : Int), t.month, t.day, (clockOf cfg t).1, (clockOf cfg t).2.1, (clockOf cfg t).2.2.1, (clockOf cfg t).2.2.2) := by
  unfold parseTs at h
  split at h
  · cases h
  · rename_i t ht
    exact ⟨t, ht, roundtrip cfg t ts hcfg (lexTs_fracOk _ t ht) h⟩

/-! ### non-vacuity examples and regression witnesses -/

-- the three notations, `.5` ≡ `.500000000`, `Z` ≡ `+00:00` ≡ `-00:00`
example : parseTs utcCfg "2024-01-01T10:00:00.5" = .ok ⟨1704103200500000000, 0⟩ := by decide
example : parseTs utcCfg "2024-01-01T10:00:00.500000000" = parseTs utcCfg "2024-01-01T10:00:00.5" := by decide +kernel
example : parseTs utcCfg "2024-01-01T12:00:00+02:00" = .ok ⟨1704103200000000000, 7200⟩ := by decide
example : parseTs utcCfg "2024-01-01T10:00:00-00:00" = parseTs utcCfg "2024-01-01T10:00:00Z" := by decide
-- ten fraction digits, hour 24, Feb 30, offset 26:00 are rejected; offset 25:59 and minutes 99 are accepted (as the code does)
example : parseTs utcCfg "2024-01-01T10:00:00.5000000000" = .err := by decide
example : parseTs utcCfg "2024-01-01T24:00:00" = .err := by decide
example : parseTs utcCfg "2024-02-30" = .err := by decide
example : parseTs utcCfg "2024-01-01T10:00:00+26:00" = .err := by decide
example : parseTs utcCfg "2024-01-01T10:00:00+25:59" = .ok ⟨1704009660000000000, 93540⟩ := by decide
example : parseTs utcCfg "2024-01-01T10:00:00+00:99" = .ok ⟨1704097260000000000, 5940⟩ := by decide
-- date-only, default time 22:30:15, journal zone −05:00: the instant is on the next UTC day
example : parseTs ⟨-18000, (22, 30, 15, 0)⟩ "2024-01-01" = .ok ⟨1704166215000000000, -18000⟩ := by decide
example : fmtDate 1704166215000000000 0 = "2024-01-02" := by decide
-- the ends of the range: year 0000 and 9999-12-30T22:00:00.999999999Z
example : parseTs utcCfg "0000-01-01" = .ok ⟨-62167219200000000000, 0⟩ := by decide
example : parseTs utcCfg "9999-12-30T22:00:00.999999999Z" = .ok ⟨253402207200999999999, 0⟩ := by decide
example : parseTs utcCfg "9999-12-30T22:00:01Z" = .err := by decide
-- the report zone does change the display (so `report_tz_display_only` is not vacuous) …
example : fmtDate 1704150000500000000 0 ≠ fmtDate 1704150000500000000 32400 := by decide
-- … and the display texts are those of txn_ts.rs's unit tests
example : rfc3339 1293210123700000000 (-57600) = "2010-12-24T01:02:03.7-16:00" := by decide
example : fmtIsoWeekDate 1262476800000000000 0 = "2009-W53-7" := by decide
example : fmtIsoWeekDate 1609459200000000000 0 = "2020-W53-5" := by decide
example : fmtIsoWeek 1483228800000000000 0 = "2016-W52" := by decide
-- hypotheses of `notation_resolves` are satisfiable, with a negative offset crossing midnight
example : resolveTs utcCfg (tokenAt utcCfg 1704103200500000000 (some (some (true, 23, 59)))) =
    .ok ⟨1704103200500000000, -86340⟩ := by decide

/-- regression witness of finding F22 (jiff 0.2.5, upstream): half a second before New York's 1967-04-30 transition
    the modelled lookup (`Timestamp::as_second()` truncates toward zero) already yields the offset after it, whereas
    the plain table lookup yields the offset before it.  The witness goes with `lookupNs`; the tie compares the
    modelled lookup with the implementation. -/
theorem witness_F22 :
    offsetAt ⟨-100000000000000000, 0, -18000, [(-84387600000000000, -14400)]⟩ (-84387600500000000) = -14400 ∧
    offsetAtFrom (-18000) [(-84387600000000000, -14400)] (-84387600500000000) = -18000 := by decide

end C16
end Tackler
