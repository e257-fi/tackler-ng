import TacklerModel.Model.Config
/-!
# C19 — command-line options override the configuration file key by key

All statements are about `Config.effective env file cli`, the transliteration of the configuration
path of the `tackler` binary (see the table in `Model/Config.lean`), for **all** file values, option
sets and environments.  The model is the tree with the fixes F15, F23, F24, F25 applied; the behaviour of
the pinned tree at those points is kept below as `*_pinned` definitions with witnesses.

`namesSimple file cli` is the domain in which identifier validity (library code) is known; outside it
`effective` answers `undef` and nothing is claimed.

Main theorems: `key_by_key` (with its readings `cli_wins`, `file_applies`), `selectors`, `input_choice` (over
`clap_shapes`), `no_undef`, `accepted_consistent`, `contradictions`, `override_equiv`.
-/
namespace Tackler
namespace C19
open Config

/-! ### inversion lemmas: what an accepted run went through -/

theorem mapParse_ok_iff {α} (p : String → Option α) (l : List String) (r : List α) :
    mapParse p l = .ok r ↔ l.map p = r.map some := by
  induction l generalizing r with
  | nil => cases r <;> simp [mapParse]
  | cons s t ih =>
    cases r with
    | nil => cases hp : p s <;> cases ht : mapParse p t <;> simp [mapParse, hp, ht]
    | cons b r' =>
      simp only [mapParse, List.map_cons, List.cons.injEq, ← ih r']
      cases p s <;> cases mapParse p t <;> simp

theorem mapParse_ne_undef {α} (p : String → Option α) (l : List String) : mapParse p l ≠ .undef := by
  induction l with
  | nil => simp [mapParse]
  | cons s t ih =>
    simp only [mapParse]
    cases p s with
    | none => simp
    | some a =>
      cases ht : mapParse p t with
      | ok l' => simp
      | err => simp
      | undef => exact absurd ht ih

theorem configFrom_ok {env : Env} {f : FileCfg} {cfg : Cfg} (h : configFrom env f = .ok cfg) :
    ∃ st g db lt rts gb ets,
      Storage.parse f.storage = some st ∧ gitOptFrom f.git = .ok g ∧ priceFrom env f.price = .ok (db, lt) ∧
      toReportTargets f.targets = .ok rts ∧ GroupBy.parse f.groupBy = some gb ∧
      toExportTargets f.exportTargets = .ok ets ∧
      cfg = { strict := f.strict, audit := f.audit, storage := st, fs := f.fs.map fsFrom, git := g,
              dbPath := db, lookup := lt, accounts := f.accounts, commodities := f.commodities,
              permitEmpty := f.permitEmpty, targets := rts, commodity := f.commodity,
              selBalance := selFrom f.selBalance f.selGlobal, selBalGrp := selFrom f.selBalGrp f.selGlobal,
              selRegister := selFrom f.selRegister f.selGlobal, groupBy := gb, exportTargets := ets,
              equityAccount := f.equityAccount, selEquity := selFrom f.selEquity f.selGlobal } := by
  unfold configFrom at h
  split at h
  · rename_i st g db lt rts gb ets h1 h2 h3 h4 h5 h6
    cases h
    exact ⟨st, g, db, lt, rts, gb, ets, h1, h2, h3, h4, h5, h6, rfl⟩
  · cases h

theorem configFrom_ne_undef (env : Env) (f : FileCfg) : configFrom env f ≠ .undef := by
  unfold configFrom
  split <;> simp

/-! ### the overlay of each key: the option's value if there is one, else the file's -/

theorem reportsOf_ok_iff {cfg : Cfg} {file : List String} (hf : toReportTargets file = .ok cfg.targets)
    (ov : Option (List String)) (r : List ReportT) :
    reportsOf cfg ov = .ok r ↔ toReportTargets (ov.getD file) = .ok r := by
  cases ov with
  | some l => exact Iff.rfl
  | none => simp only [reportsOf, Option.getD_none, hf]

theorem exportsOf_ok_iff {cfg : Cfg} {file : List String} (hf : toExportTargets file = .ok cfg.exportTargets)
    (ov : Option (List String)) (r : List ExportT) :
    exportsOf cfg ov = .ok r ↔ toExportTargets (ov.getD file) = .ok r := by
  cases ov with
  | some l => exact Iff.rfl
  | none => simp only [exportsOf, Option.getD_none, hf]

theorem groupByOf_ok_iff {cfg : Cfg} {file : String} (hf : GroupBy.parse file = some cfg.groupBy)
    (ov : Option String) (g : GroupBy) :
    groupByOf cfg ov = .ok g ↔ GroupBy.parse (ov.getD file) = some g := by
  cases ov with
  | some s => simp only [groupByOf, Option.getD_some]; cases GroupBy.parse s <;> simp
  | none => simp only [groupByOf, Option.getD_none, hf, Outcome.ok.injEq, Option.some.injEq]

theorem dbPathOf_eq (env : Env) (cfg : Cfg) (ov : Option String) :
    dbPathOf env cfg ov = (ov.map (atCwd env)).getD cfg.dbPath := by
  cases ov <;> rfl

theorem lookupOf_ok_iff (cfg : Cfg) (ov : Option String) (lt : Lookup) :
    lookupOf cfg ov = .ok lt ↔ (match ov with | some s => Lookup.parse s | none => some cfg.lookup) = some lt := by
  cases ov with
  | some s => simp only [lookupOf]; cases Lookup.parse s <;> simp
  | none => simp only [lookupOf, Outcome.ok.injEq, Option.some.injEq]

theorem innerGetOrCreateCommodity_ok {comms : List String} {pe strict : Bool} {x m : String} {l : List String}
    (h : innerGetOrCreateCommodity comms pe strict x = .ok (m, l)) :
    m = x ∧ (strict = true → x ≠ "" → x ∈ comms) := by
  unfold innerGetOrCreateCommodity at h
  by_cases hx : x = ""
  · rw [if_pos hx] at h
    refine ⟨?_, fun _ hne => absurd hx hne⟩
    split at h
    · split at h <;> cases h <;> rfl
    · cases h
  · rw [if_neg hx] at h
    cases hm : comms.contains x with
    | true => rw [hm] at h; cases h; exact ⟨rfl, fun _ _ => List.contains_iff_mem.mp hm⟩
    | false => cases strict <;> rw [hm] at h <;> cases h <;> exact ⟨rfl, nofun⟩

theorem reportCommodityOf_ok {cfg : Cfg} {strict : Bool} {ov rc : Option String}
    (h : reportCommodityOf cfg strict ov = .ok rc) :
    rc = (match (generalizing := false) ov with | some n => some n | none => cfg.commodity) ∧
    (strict = true → ∀ n, rc = some n → n ≠ "" → n ∈ cfg.commodities) := by
  have inner : ∀ {x : String}, (match innerGetOrCreateCommodity cfg.commodities cfg.permitEmpty strict x with
        | .ok (n, _) => Outcome.ok (some n) | .err => .err | .undef => .undef) = .ok rc →
      rc = some x ∧ (strict = true → ∀ n, rc = some n → n ≠ "" → n ∈ cfg.commodities) := by
    intro x hx
    split at hx
    · rename_i n l hn
      obtain ⟨rfl, hin⟩ := innerGetOrCreateCommodity_ok hn
      cases hx
      exact ⟨rfl, fun hs m hm hne => by cases hm; exact hin hs hne⟩
    · cases hx
    · cases hx
  unfold reportCommodityOf at h
  cases ov with
  | some x => exact inner h
  | none =>
    cases hc : cfg.commodity with
    | none => rw [hc] at h; cases h; exact ⟨rfl, nofun⟩
    | some x => rw [hc] at h; exact inner h

theorem priceLookupFrom_ok {env : Env} {lt : Lookup} {given : Option String} {pl : PriceLookup}
    (h : priceLookupFrom env lt given = .ok pl) :
    (given.isSome = true ↔ lt = .givenTime) ∧
    (∀ ts, given = some ts → env.tsOk ts = true ∧ pl = .givenTime ts) := by
  cases lt <;> cases given <;> simp [priceLookupFrom] at h ⊢
  split at h
  · rename_i hts; cases h; exact ⟨hts, rfl⟩
  · cases h

theorem priceLookupFrom_ne_undef (env : Env) (lt : Lookup) (given : Option String) :
    priceLookupFrom env lt given ≠ .undef := by
  cases lt <;> cases given <;> simp only [priceLookupFrom] <;> (try split) <;> nofun

/-! ### `Settings::try_from` -/

/-- the consistency checks of `Settings::try_from` on the overlaid values; they yield the price lookup and the
    price file that is loaded -/
def settingsCheck (env : Env) (strict : Bool) (exports : List ExportT) (accounts : List String)
    (equityAccount : String) (rc : Option String) (lt : Lookup) (before : Option String) (db : String) :
    Outcome (PriceLookup × Option String) :=
  if strict && exports.contains .equity && !accounts.contains equityAccount then .err
  else if rc.isNone && lt != .none then .err
  else
    match priceLookupFrom env lt before with
    | .ok pl => if lt = .none then .ok (pl, none) else if env.dbOk db strict then .ok (pl, some db) else .err
    | .err => .err
    | .undef => .undef

theorem settingsFrom_eq (env : Env) (cfg : Cfg) (ov : Overlaps) :
    settingsFrom env cfg ov =
      match reportsOf cfg ov.reports, exportsOf cfg ov.exports, lookupOf cfg ov.lookupType,
          reportCommodityOf cfg (ov.strictMode.getD cfg.strict) ov.commodity, groupByOf cfg ov.groupBy with
      | .ok reports, .ok exports, .ok lt, .ok rc, .ok gb =>
        (settingsCheck env (ov.strictMode.getD cfg.strict) exports cfg.accounts cfg.equityAccount rc lt
          ov.beforeTime (dbPathOf env cfg ov.dbPath)).map fun p =>
          { strict := ov.strictMode.getD cfg.strict, audit := ov.auditMode.getD cfg.audit, reports := reports,
            exports := exports, commodity := rc, lookup := lt, priceLookup := p.1, priceDb := p.2, groupBy := gb,
            globalAccSel := ov.accountOverlap }
      | _, _, _, _, _ => .err := by
  unfold settingsFrom settingsCheck
  congr 1
  funext reports exports lt rc gb
  cases priceLookupFrom env lt ov.beforeTime <;> simp only [apply_ite (Outcome.map _)] <;> rfl

theorem settingsCheck_ok {env : Env} {strict : Bool} {exports : List ExportT} {accounts : List String}
    {equityAccount : String} {rc : Option String} {lt : Lookup} {before : Option String} {db : String}
    {pl : PriceLookup} {pdb : Option String}
    (h : settingsCheck env strict exports accounts equityAccount rc lt before db = .ok (pl, pdb)) :
    ¬ (strict = true ∧ ExportT.equity ∈ exports ∧ equityAccount ∉ accounts) ∧ (rc = none → lt = .none) ∧
    priceLookupFrom env lt before = .ok pl ∧ (lt = .none → pdb = none) ∧
    (lt ≠ .none → pdb = some db ∧ env.dbOk db strict = true) := by
  unfold settingsCheck at h
  by_cases hg1 : (strict && exports.contains .equity && !accounts.contains equityAccount) = true
  · rw [if_pos hg1] at h; cases h
  by_cases hg2 : (rc.isNone && lt != .none) = true
  · rw [if_neg hg1, if_pos hg2] at h; cases h
  rw [if_neg hg1, if_neg hg2] at h
  refine ⟨by simpa using hg1, by simpa using hg2, ?_⟩
  cases hpl : priceLookupFrom env lt before with
  | err => rw [hpl] at h; cases h
  | undef => rw [hpl] at h; cases h
  | ok pl' =>
    rw [hpl] at h
    dsimp only at h
    by_cases hlt : lt = .none
    · rw [if_pos hlt] at h
      cases h
      exact ⟨rfl, fun _ => rfl, fun hne => absurd hlt hne⟩
    · by_cases hdb : env.dbOk db strict = true
      · rw [if_neg hlt, if_pos hdb] at h
        cases h
        exact ⟨rfl, fun h0 => absurd h0 hlt, fun _ => ⟨rfl, hdb⟩⟩
      · rw [if_neg hlt, if_neg hdb] at h; cases h

theorem ite_ne {α} {c : Prop} [Decidable c] {a b x : α} (ha : a ≠ x) (hb : b ≠ x) : (if c then a else b) ≠ x := by
  split <;> assumption

theorem settingsCheck_ne_undef (env : Env) (strict : Bool) (exports : List ExportT) (accounts : List String)
    (equityAccount : String) (rc : Option String) (lt : Lookup) (before : Option String) (db : String) :
    settingsCheck env strict exports accounts equityAccount rc lt before db ≠ .undef := by
  unfold settingsCheck
  refine ite_ne nofun (ite_ne nofun ?_)
  cases hpl : priceLookupFrom env lt before with
  | undef => exact absurd hpl (priceLookupFrom_ne_undef _ _ _)
  | err => nofun
  | ok pl => exact ite_ne nofun (ite_ne nofun nofun)

theorem settingsFrom_ok {env : Env} {cfg : Cfg} {ov : Overlaps} {s : Sett} (h : settingsFrom env cfg ov = .ok s) :
    ∃ pl, reportsOf cfg ov.reports = .ok s.reports ∧ exportsOf cfg ov.exports = .ok s.exports ∧
      lookupOf cfg ov.lookupType = .ok s.lookup ∧
      reportCommodityOf cfg (ov.strictMode.getD cfg.strict) ov.commodity = .ok s.commodity ∧
      groupByOf cfg ov.groupBy = .ok s.groupBy ∧
      priceLookupFrom env s.lookup ov.beforeTime = .ok pl ∧ s.priceLookup = pl ∧
      s.strict = ov.strictMode.getD cfg.strict ∧ s.audit = ov.auditMode.getD cfg.audit ∧
      s.globalAccSel = ov.accountOverlap ∧
      ¬ (s.strict = true ∧ ExportT.equity ∈ s.exports ∧ cfg.equityAccount ∉ cfg.accounts) ∧
      (s.commodity = none → s.lookup = .none) ∧
      (s.lookup = .none → s.priceDb = none) ∧
      (s.lookup ≠ .none → s.priceDb = some (dbPathOf env cfg ov.dbPath) ∧
          env.dbOk (dbPathOf env cfg ov.dbPath) s.strict = true) := by
  rw [settingsFrom_eq] at h
  split at h
  · rename_i reports exports lt rc gb h1 h2 h3 h4 h5
    obtain ⟨⟨pl, pdb⟩, hc, rfl⟩ := (Outcome.map_ok _ _ _).mp h
    obtain ⟨g1, g2, hpl, d1, d2⟩ := settingsCheck_ok hc
    exact ⟨pl, h1, h2, h3, h4, h5, hpl, rfl, rfl, rfl, rfl, g1, g2, d1, d2⟩
  · cases h

theorem settingsFrom_ne_undef (env : Env) (cfg : Cfg) (ov : Overlaps) : settingsFrom env cfg ov ≠ .undef := by
  rw [settingsFrom_eq]
  split
  · intro hu
    cases hc : settingsCheck env (ov.strictMode.getD cfg.strict) _ cfg.accounts cfg.equityAccount _ _ ov.beforeTime
        (dbPathOf env cfg ov.dbPath) with
    | undef => exact settingsCheck_ne_undef _ _ _ _ _ _ _ _ _ hc
    | ok p => rw [hc] at hu; cases hu
    | err => rw [hc] at hu; cases hu
  · nofun

theorem effective_ok {env : Env} {f : FileCfg} {c : CliOpts} {e : Effective} (h : effective env f c = .ok e) :
    namesSimple f c = true ∧ clapAccepts c = true ∧
    ∃ cfg s i, configFrom env f = .ok cfg ∧ settingsFrom env cfg (getOverlaps c) = .ok s ∧
      getInputType env cfg c = .ok i ∧ e = mkEffective cfg s i := by
  unfold effective at h
  split at h
  · cases h
  · rename_i hn
    split at h
    · cases h
    · rename_i hc
      split at h
      · cases h
      · cases h
      · rename_i cfg hcfg
        split at h
        · cases h
        · cases h
        · rename_i s hs
          split at h
          · cases h
          · cases h
          · rename_i i hi
            cases h
            exact ⟨by simpa using hn, by simpa using hc, cfg, s, i, hcfg, hs, hi, rfl⟩

/-! ### key by key -/

/-- the overlaid value of each key, as the documentation describes it -/
def strictSpec (f : FileCfg) (c : CliOpts) : Bool := c.strict.getD f.strict
def commoditySpec (f : FileCfg) (c : CliOpts) : Option String :=
  match c.reportCommodity with
  | some n => some n
  | none => f.commodity
def lookupSpec (env : Env) (f : FileCfg) (c : CliOpts) : Option Lookup :=
  match c.lookupType with
  | some s => Lookup.parse s
  | none =>
    match priceFrom env f.price with
    | .ok (_, lt) => some lt
    | _ => none
def exportsSpec (f : FileCfg) (c : CliOpts) : Outcome (List ExportT) :=
  toExportTargets (c.exports.getD f.exportTargets)

/-- every overridable key of an accepted run: the option's value, else the file's, read the way that key is read -/
theorem key_by_key {env : Env} {f : FileCfg} {c : CliOpts} {e : Effective} (h : effective env f c = .ok e) :
    e.strict = strictSpec f c ∧
    e.audit = c.audit.getD f.audit ∧
    toReportTargets (c.reports.getD f.targets) = .ok e.reports ∧
    exportsSpec f c = .ok e.exports ∧
    e.commodity = commoditySpec f c ∧
    GroupBy.parse (c.groupBy.getD f.groupBy) = some e.groupBy ∧
    ∃ db lt, priceFrom env f.price = .ok (db, lt) ∧
      (match c.lookupType with | some s => Lookup.parse s | none => some lt) = some e.lookup ∧
      (e.lookup ≠ .none → e.priceDb = some ((c.pricedb.map (atCwd env)).getD db)) := by
  obtain ⟨_, _, cfg, s, i, hcfg, hs, hi, rfl⟩ := effective_ok h
  obtain ⟨pl, h1, h2, h3, h4, h5, _, _, h8, h9, _, _, _, _, h14⟩ := settingsFrom_ok hs
  obtain ⟨st, g, db, lt, rts, gb, ets, c1, c2, c3, c4, c5, c6, rfl⟩ := configFrom_ok hcfg
  exact ⟨h8, h9, (reportsOf_ok_iff c4 _ _).mp h1, (exportsOf_ok_iff c6 _ _).mp h2, (reportCommodityOf_ok h4).1,
    (groupByOf_ok_iff c5 _ _).mp h5, db, lt, c3, (lookupOf_ok_iff _ _ _).mp h3, fun hne => (h14 hne).1.trans (congrArg some (dbPathOf_eq env _ _))⟩

theorem cli_wins {env : Env} {f : FileCfg} {c : CliOpts} {e : Effective} (h : effective env f c = .ok e) :
    (∀ v, c.strict = some v → e.strict = v) ∧
    (∀ v, c.audit = some v → e.audit = v) ∧
    (∀ v, c.reports = some v → toReportTargets v = .ok e.reports) ∧
    (∀ v, c.exports = some v → toExportTargets v = .ok e.exports) ∧
    (∀ v, c.reportCommodity = some v → e.commodity = some v) ∧
    (∀ v, c.lookupType = some v → Lookup.parse v = some e.lookup) ∧
    (∀ v, c.pricedb = some v → e.lookup ≠ .none → e.priceDb = some (atCwd env v)) ∧
    (∀ v, c.groupBy = some v → GroupBy.parse v = some e.groupBy) := by
  obtain ⟨k1, k2, k3, k4, k5, k6, db, lt, -, k7, k8⟩ := key_by_key h
  refine ⟨?_, ?_, ?_, ?_, ?_, ?_, ?_, ?_⟩
  · intro v hv; rw [k1, strictSpec, hv]; rfl
  · intro v hv; rw [k2, hv]; rfl
  · intro v hv; rw [hv] at k3; exact k3
  · intro v hv; rw [exportsSpec, hv] at k4; exact k4
  · intro v hv; rw [k5, commoditySpec, hv]
  · intro v hv; rw [hv] at k7; exact k7
  · intro v hv hne; rw [k8 hne, hv]; rfl
  · intro v hv; rw [hv] at k6; exact k6

theorem file_applies {env : Env} {f : FileCfg} {c : CliOpts} {e : Effective} (h : effective env f c = .ok e) :
    (c.strict = none → e.strict = f.strict) ∧
    (c.audit = none → e.audit = f.audit) ∧
    (c.reports = none → toReportTargets f.targets = .ok e.reports) ∧
    (c.exports = none → toExportTargets f.exportTargets = .ok e.exports) ∧
    (c.reportCommodity = none → e.commodity = f.commodity) ∧
    (c.lookupType = none → ∃ db, priceFrom env f.price = .ok (db, e.lookup)) ∧
    (c.pricedb = none → e.lookup ≠ .none → ∃ lt, priceFrom env f.price = .ok (e.priceDb.getD "", lt) ∧ e.priceDb.isSome) ∧
    (c.groupBy = none → GroupBy.parse f.groupBy = some e.groupBy) := by
  obtain ⟨k1, k2, k3, k4, k5, k6, db, lt, hp, k7, k8⟩ := key_by_key h
  refine ⟨?_, ?_, ?_, ?_, ?_, ?_, ?_, ?_⟩
  · intro hv; rw [k1, strictSpec, hv]; rfl
  · intro hv; rw [k2, hv]; rfl
  · intro hv; rw [hv] at k3; exact k3
  · intro hv; rw [exportsSpec, hv] at k4; exact k4
  · intro hv; rw [k5, commoditySpec, hv]
  · intro hv; rw [hv] at k7; cases k7; exact ⟨db, hp⟩
  · intro hv hne; rw [k8 hne, hv]; exact ⟨lt, hp, rfl⟩
  · intro hv; rw [hv] at k6; exact k6

theorem spec_of_ok {env : Env} {f : FileCfg} {c : CliOpts} {e : Effective} (h : effective env f c = .ok e) :
    strictSpec f c = e.strict ∧ commoditySpec f c = e.commodity ∧ lookupSpec env f c = some e.lookup ∧
    exportsSpec f c = .ok e.exports := by
  obtain ⟨k1, _, _, k4, k5, _, db, lt, hp, k7, _⟩ := key_by_key h
  refine ⟨k1.symm, k5.symm, ?_, k4⟩
  unfold lookupSpec
  rw [hp]
  exact k7

/-! ### `selectors` -/

/-- the documented rule: the command-line list (its empty patterns dropped: `--accounts ""` is the empty
    list) replaces everything; otherwise the per-report list; otherwise `report.accounts`; otherwise empty -/
def selSpec (cli : Option (List String)) (own global : Option (List String)) : List String :=
  match cli with
  | some l => l.filter (fun s => s ≠ "")
  | none => own.getD (global.getD [])

theorem selectors {env : Env} {f : FileCfg} {c : CliOpts} {e : Effective} (h : effective env f c = .ok e) :
    e.selBalance = selSpec c.accounts f.selBalance f.selGlobal ∧
    e.selBalGrp = selSpec c.accounts f.selBalGrp f.selGlobal ∧
    e.selRegister = selSpec c.accounts f.selRegister f.selGlobal ∧
    e.selEquity = selSpec c.accounts f.selEquity f.selGlobal := by
  obtain ⟨_, _, cfg, s, i, hcfg, hs, hi, rfl⟩ := effective_ok h
  obtain ⟨pl, h1, h2, h3, h4, h5, h6, h7, h8, h9, h10, _⟩ := settingsFrom_ok hs
  obtain ⟨st, g, db, lt, rts, gb, ets, c1, c2, c3, c4, c5, c6, rfl⟩ := configFrom_ok hcfg
  simp only [getOverlaps, accountOverlapOf] at h10
  have key : ∀ own : Option (List String),
      getAccountSelector s (selFrom own f.selGlobal) = selSpec c.accounts own f.selGlobal := by
    intro own
    unfold getAccountSelector selSpec selFrom
    rw [h10]
    cases c.accounts <;> cases own <;> cases f.selGlobal <;> rfl
  exact ⟨key _, key _, key _, key _⟩

theorem selectors_cli_replaces_all {env : Env} {f : FileCfg} {c : CliOpts} {e : Effective} {l : List String}
    (h : effective env f c = .ok e) (hc : c.accounts = some l) :
    e.selBalance = l.filter (fun s => s ≠ "") ∧ e.selBalGrp = l.filter (fun s => s ≠ "") ∧
    e.selRegister = l.filter (fun s => s ≠ "") ∧ e.selEquity = l.filter (fun s => s ≠ "") := by
  obtain ⟨h1, h2, h3, h4⟩ := selectors h
  simp only [selSpec, hc] at h1 h2 h3 h4
  exact ⟨h1, h2, h3, h4⟩

/-- the documented empty selector: `--accounts ""` selects all accounts in every report and in the equity export -/
theorem selectors_empty_means_all {env : Env} {f : FileCfg} {c : CliOpts} {e : Effective}
    (h : effective env f c = .ok e) (hc : c.accounts = some [""]) :
    selectsAll e.selBalance = true ∧ selectsAll e.selBalGrp = true ∧
    selectsAll e.selRegister = true ∧ selectsAll e.selEquity = true := by
  obtain ⟨h1, h2, h3, h4⟩ := selectors_cli_replaces_all h hc
  rw [h1, h2, h3, h4]; decide

theorem selectors_per_report_over_global {env : Env} {f : FileCfg} {c : CliOpts} {e : Effective}
    (h : effective env f c = .ok e) (hc : c.accounts = none) :
    (∀ l, f.selBalance = some l → e.selBalance = l) ∧ (f.selBalance = none → e.selBalance = f.selGlobal.getD []) ∧
    (∀ l, f.selBalGrp = some l → e.selBalGrp = l) ∧ (f.selBalGrp = none → e.selBalGrp = f.selGlobal.getD []) ∧
    (∀ l, f.selRegister = some l → e.selRegister = l) ∧ (f.selRegister = none → e.selRegister = f.selGlobal.getD []) ∧
    (∀ l, f.selEquity = some l → e.selEquity = l) ∧ (f.selEquity = none → e.selEquity = f.selGlobal.getD []) := by
  obtain ⟨h1, h2, h3, h4⟩ := selectors h
  simp only [selSpec, hc] at h1 h2 h3 h4
  refine ⟨?_, ?_, ?_, ?_, ?_, ?_, ?_, ?_⟩ <;> intros <;> simp_all

/-! ### the option sets about the input -/

/-- the option sets about the input that clap lets through, as the values of `--input.file`, `--input.storage`,
    `--input.fs.dir`, `--input.fs.ext`, `--input.git.repository`, `--input.git.ref`, `--input.git.commit` and
    `--input.git.dir` -/
inductive Shape : (file storage fsDir fsExt repo ref commit dir : Option String) → Prop where
  | nothing : Shape none none none none none none none none
  | file (p : String) : Shape (some p) none none none none none none none
  | storage (s : String) : Shape none (some s) none none none none none none
  | fs (d x : String) : Shape none none (some d) (some x) none none none none
  | gitRef (r x d : String) : Shape none none none none (some r) (some x) none (some d)
  | gitCommit (r k d : String) : Shape none none none none (some r) none (some k) (some d)
  | refOnly (x : String) : Shape none none none none none (some x) none none
  | commitOnly (k : String) : Shape none none none none none none (some k) none

theorem clap_shapes {c : CliOpts} (h : clapAccepts c = true) :
    Shape c.inputFile c.inputStorage c.inputFsDir c.inputFsExt c.inputGitRepo c.inputGitRef c.inputGitCommit
      c.inputGitDir := by
  simp only [clapAccepts, clapConflicts, clapRequires, fsAny, gitAny, Bool.and_eq_true, Bool.not_eq_true',
    Bool.or_eq_false_iff] at h
  obtain ⟨⟨-, ⟨⟨⟨cFile, cStorage⟩, cDir⟩, -⟩, cSel⟩, ⟨⟨rDir, rExt⟩, rRepo⟩, rGitDir⟩ := h
  generalize c.inputFile = file, c.inputStorage = storage, c.inputFsDir = fsDir, c.inputFsExt = fsExt,
    c.inputGitRepo = repo, c.inputGitRef = ref, c.inputGitCommit = commit, c.inputGitDir = dir at *
  rcases file with _ | p
  · rcases storage with _ | s
    · rcases fsDir with _ | d
      · rcases fsExt with _ | x
        · rcases repo with _ | r
          · rcases dir with _ | d
            · rcases ref with _ | x <;> rcases commit with _ | k
              · exact .nothing
              · exact .commitOnly k
              · exact .refOnly x
              · simp at cSel
            · simp at rGitDir
          · rcases dir with _ | d
            · simp at rRepo
            · rcases ref with _ | x <;> rcases commit with _ | k
              · simp at rRepo
              · exact .gitCommit r k d
              · exact .gitRef r x d
              · simp at cSel
        · simp at rExt
      · rcases fsExt with _ | x
        · simp at rDir
        · simp at cDir
          obtain ⟨⟨⟨rfl, rfl⟩, rfl⟩, rfl⟩ := cDir
          exact .fs d x
    · simp at cStorage
      obtain ⟨⟨rfl, rfl⟩, ⟨⟨rfl, rfl⟩, rfl⟩, rfl⟩ := cStorage
      exact .storage s
  · simp at cFile
    obtain ⟨⟨rfl, rfl, rfl⟩, ⟨⟨rfl, rfl⟩, rfl⟩, rfl⟩ := cFile
    exact .file p
/-! ### `input_choice`: which input wins -/

/-- the selector given on the command line (`--input.git.commit` | `--input.git.ref`) -/
def gitSelSpec (c : CliOpts) : Option GitSel :=
  match c.inputGitCommit, c.inputGitRef with
  | some k, _ => some (.commitId k)
  | none, some r => some (.reference r)
  | none, none => none

/-- the file's storage of the named type: `fs` = `[path/]dir` + suffix, `git` = `repo` (else the old key
    `repository`) + dir + `ref` (or the given selector) + suffix; paths relative to the configuration file,
    one leading `.` of the suffix dropped -/
def fileInputSpec (env : Env) (f : FileCfg) (storage : String) (sel : Option GitSel) : Option Input :=
  match Storage.parse storage with
  | some .fs => f.fs.map fun r => .fs (getAbsPath env (fsFrom r).1) (stripDot r.suffix)
  | some .git =>
    match f.git with
    | none => none
    | some g =>
      match g.repo, g.repository with
      | some repo, _ => some (.git (getAbsPath env repo) g.dir (sel.getD (.reference g.ref)) (stripDot g.suffix))
      | none, some repo => some (.git (getAbsPath env repo) g.dir (sel.getD (.reference g.ref)) (stripDot g.suffix))
      | none, none => none
  | none => none

/-- the table: `--input.file` | `--input.fs.dir`+`ext` | `--input.git.repository`+`dir`+`ref|commit` |
    `ref|commit` alone (the file's git storage at that revision) | `--input.storage` | nothing (the file's storage) -/
def inputSpec (env : Env) (f : FileCfg) (c : CliOpts) : Option Input :=
  match c.inputFile with
  | some p => some (.file (atCwd env p))
  | none =>
    match c.inputFsDir, c.inputFsExt with
    | some d, some x => some (.fs (atCwd env d) (stripDot x))
    | some _, none => none
    | none, _ =>
      match c.inputGitRepo, c.inputGitDir with
      | some r, some d => (gitSelSpec c).map fun sel => .git (atCwd env r) d sel "txn"
      | some _, none => none
      | none, _ =>
        match gitSelSpec c with
        | some sel => fileInputSpec env f "git" (some sel)
        | none => fileInputSpec env f (c.inputStorage.getD f.storage) none

theorem fileInputSpec_git {env : Env} {f : FileCfg} {name : String} {g : Option GitC}
    (hst : Storage.parse name = some .git) (hg : gitOptFrom f.git = .ok g) (sel : Option GitSel) :
    fileInputSpec env f name sel =
      g.map fun g => .git (getAbsPath env g.repo) g.dir (sel.getD (.reference g.ref)) (stripDot g.suffix) := by
  unfold fileInputSpec
  rw [hst]
  unfold gitOptFrom at hg
  cases hf : f.git with
  | none => rw [hf] at hg; cases hg; rfl
  | some r =>
    simp only [hf, gitFrom] at hg ⊢
    cases hr : r.repo <;> cases hr2 : r.repository <;> simp only [hr, hr2] at hg ⊢ <;> cases hg <;> rfl

theorem inputOfStorage_spec {env : Env} {f : FileCfg} {cfg : Cfg} {i : Input}
    (hcfg : configFrom env f = .ok cfg) (name : String) (st : Storage) (hst : Storage.parse name = some st)
    (h : inputOfStorage env cfg st = .ok i) :
    fileInputSpec env f name none = some i := by
  obtain ⟨st0, g, db, lt, rts, gb, ets, c1, c2, c3, c4, c5, c6, rfl⟩ := configFrom_ok hcfg
  unfold inputOfStorage at h
  cases st with
  | fs =>
    unfold fileInputSpec
    rw [hst]
    simp only at h ⊢
    cases hfs : f.fs with
    | none => simp [hfs] at h
    | some r =>
      simp only [hfs, Option.map_some] at h ⊢
      cases h
      simp [fsFrom]
      cases r.path <;> rfl
  | git =>
    rw [fileInputSpec_git hst c2]
    simp only at h
    cases g with
    | none => cases h
    | some g => cases h; rfl

theorem getInputSettings_spec {env : Env} {f : FileCfg} {cfg : Cfg} {i : Input}
    (hcfg : configFrom env f = .ok cfg) (storage : Option String)
    (h : getInputSettings env cfg storage = .ok i) :
    fileInputSpec env f (storage.getD f.storage) none = some i := by
  have hcfg' := hcfg
  obtain ⟨st0, g, db, lt, rts, gb, ets, c1, c2, c3, c4, c5, c6, hc⟩ := configFrom_ok hcfg
  unfold getInputSettings storageTypeOf at h
  cases storage with
  | none =>
    simp only [Option.getD_none] at h ⊢
    have hs : cfg.storage = st0 := by rw [hc]
    rw [hs] at h
    exact inputOfStorage_spec hcfg' f.storage st0 c1 h
  | some s =>
    simp only [Option.getD_some] at h ⊢
    cases hp : Storage.parse s with
    | none => simp [hp] at h
    | some st =>
      rw [hp] at h
      exact inputOfStorage_spec hcfg' s st hp h

theorem getInputType_spec {env : Env} {f : FileCfg} {c : CliOpts} {cfg : Cfg} {i : Input}
    (hclap : clapAccepts c = true) (hcfg : configFrom env f = .ok cfg) (hi : getInputType env cfg c = .ok i) :
    inputSpec env f c = some i := by
  -- a lone revision: the file's git storage at that revision
  have lone : ∀ sel, (match getInputSettings env cfg (some "git") with
        | .ok (.git repo dir _ ext) => Outcome.ok (Input.git repo dir sel ext)
        | .ok _ => .err | .err => .err | .undef => .undef) = .ok i →
      fileInputSpec env f "git" (some sel) = some i := by
    intro sel h
    have hgit : Storage.parse "git" = some .git := by decide
    obtain ⟨_, g, _, _, _, _, _, -, c2, -, -, -, -, hc⟩ := configFrom_ok hcfg
    rw [fileInputSpec_git hgit c2]
    simp only [getInputSettings, storageTypeOf, hgit, inputOfStorage, hc] at h
    cases g with
    | none => cases h
    | some g => cases h; rfl
  have shape := clap_shapes hclap
  unfold getInputType getGitSelector at hi
  unfold inputSpec gitSelSpec
  generalize c.inputFile = file, c.inputStorage = storage, c.inputFsDir = fsDir, c.inputFsExt = fsExt,
    c.inputGitRepo = repo, c.inputGitRef = ref, c.inputGitCommit = commit, c.inputGitDir = dir at shape hi ⊢
  cases shape
  case nothing => exact getInputSettings_spec hcfg none hi
  case storage s => exact getInputSettings_spec hcfg (some s) hi
  case refOnly x => exact lone _ hi
  case commitOnly k => exact lone _ hi
  all_goals (cases hi; rfl)

theorem input_choice {env : Env} {f : FileCfg} {c : CliOpts} {e : Effective} (h : effective env f c = .ok e) :
    inputSpec env f c = some e.input := by
  obtain ⟨_, hclap, cfg, s, i, hcfg, hs, hi, rfl⟩ := effective_ok h
  exact getInputType_spec hclap hcfg hi

/-! ### `contradictions`: what is rejected -/

/-- option sets excluded by the declared clap attributes (exit status 2) -/
inductive Rejected (c : CliOpts) : Prop where
  | file_with_storage : c.inputFile.isSome = true → c.inputStorage.isSome = true → Rejected c
  | file_with_fs : c.inputFile.isSome = true → fsAny c = true → Rejected c
  | file_with_git : c.inputFile.isSome = true → gitAny c = true → Rejected c
  | storage_with_fs : c.inputStorage.isSome = true → fsAny c = true → Rejected c
  | storage_with_git : c.inputStorage.isSome = true → gitAny c = true → Rejected c
  | fs_with_git : fsAny c = true → gitAny c = true → Rejected c
  | fs_dir_without_ext : c.inputFsDir.isSome = true → c.inputFsExt = none → Rejected c
  | fs_ext_without_dir : c.inputFsExt.isSome = true → c.inputFsDir = none → Rejected c
  | git_repo_without_dir : c.inputGitRepo.isSome = true → c.inputGitDir = none → Rejected c
  | git_repo_without_revision : c.inputGitRepo.isSome = true → c.inputGitRef = none → c.inputGitCommit = none → Rejected c
  | git_dir_without_repo : c.inputGitDir.isSome = true → c.inputGitRepo = none → Rejected c
  | git_ref_and_commit : c.inputGitRef.isSome = true → c.inputGitCommit.isSome = true → Rejected c
  | bad_storage (s : String) : c.inputStorage = some s → Storage.parse s = none → Rejected c
  | bad_report (l : List String) (s : String) : c.reports = some l → s ∈ l → ReportT.parse s = none → Rejected c
  | bad_export (l : List String) (s : String) : c.exports = some l → s ∈ l → ExportT.parse s = none → Rejected c
  | bad_group_by (s : String) : c.groupBy = some s → GroupBy.parse s = none → Rejected c
  | bad_lookup (s : String) : c.lookupType = some s → Lookup.parse s = none → Rejected c
  | no_reports : c.reports = some [] → Rejected c
  | no_exports : c.exports = some [] → Rejected c
  | no_accounts : c.accounts = some [] → Rejected c

/-! the values clap lets through are values the parsers know -/

theorem Storage.parse_known : ∀ s ∈ ["fs", "git"], (Storage.parse s).isSome = true := by decide

theorem ReportT.parse_known : ∀ s ∈ ["register", "balance", "balance-group"], (ReportT.parse s).isSome = true := by
  decide

theorem ExportT.parse_known : ∀ s ∈ ["identity", "equity"], (ExportT.parse s).isSome = true := by decide

theorem GroupBy.parse_known :
    ∀ s ∈ ["year", "month", "date", "iso-week", "iso-week-date"], (GroupBy.parse s).isSome = true := by decide

theorem contains_eq_false_of_parse_none {α} {p : String → Option α} {vals : List String}
    (hv : ∀ s ∈ vals, (p s).isSome = true) {s : String} (h : p s = none) : vals.contains s = false := by
  cases hc : vals.contains s with
  | false => rfl
  | true =>
    have := hv s (List.contains_iff_mem.mp hc)
    rw [h] at this
    cases this

theorem rejected_clap {c : CliOpts} (h : Rejected c) : clapAccepts c = false := by
  unfold clapAccepts
  cases h with
  | file_with_storage h1 h2 => simp [clapConflicts, h1, h2]
  | file_with_fs h1 h2 => simp [clapConflicts, h1, h2]
  | file_with_git h1 h2 => simp [clapConflicts, h1, h2]
  | storage_with_fs h1 h2 => simp [clapConflicts, h1, h2]
  | storage_with_git h1 h2 => simp [clapConflicts, h1, h2]
  | fs_with_git h1 h2 =>
    unfold fsAny at h1
    cases hd : c.inputFsDir with
    | some d => simp [clapConflicts, hd, h2]
    | none =>
      simp only [hd, Option.isSome_none, Bool.false_or] at h1
      simp [clapRequires, hd, h1]
  | fs_dir_without_ext h1 h2 => simp [clapRequires, h1, h2]
  | fs_ext_without_dir h1 h2 => simp [clapRequires, h1, h2]
  | git_repo_without_dir h1 h2 => simp [clapRequires, h1, h2]
  | git_repo_without_revision h1 h2 h3 => simp [clapRequires, h1, h2, h3]
  | git_dir_without_repo h1 h2 => simp [clapRequires, h1, h2]
  | git_ref_and_commit h1 h2 => simp [clapConflicts, h1, h2]
  | bad_storage s h1 h2 =>
    simp only [clapValues, inSet, h1, contains_eq_false_of_parse_none Storage.parse_known h2, Bool.false_and]
  | bad_report l s h1 h2 h3 =>
    have hall : l.all (["register", "balance", "balance-group"].contains) = false := by
      rw [List.all_eq_false]
      exact ⟨s, h2, by rw [contains_eq_false_of_parse_none ReportT.parse_known h3]; nofun⟩
    simp [clapValues, listIn, h1, hall]
  | bad_export l s h1 h2 h3 =>
    have hall : l.all (["identity", "equity"].contains) = false := by
      rw [List.all_eq_false]
      exact ⟨s, h2, by rw [contains_eq_false_of_parse_none ExportT.parse_known h3]; nofun⟩
    simp [clapValues, listIn, h1, hall]
  | bad_group_by s h1 h2 =>
    simp only [clapValues, inSet, h1, contains_eq_false_of_parse_none GroupBy.parse_known h2, Bool.and_false,
      Bool.false_and]
  | bad_lookup s h1 h2 => simp [clapValues, h1, h2]
  | no_reports h1 => simp [clapValues, listIn, h1]
  | no_exports h1 => simp [clapValues, listIn, h1]
  | no_accounts h1 => simp [clapValues, h1]

theorem getInputSettings_ne_undef (env : Env) (cfg : Cfg) (st : Option String) :
    getInputSettings env cfg st ≠ .undef := by
  unfold getInputSettings inputOfStorage
  (repeat' split) <;> simp

/-- the `expect`s / `panic!` of `get_input_type` are excluded by the clap attributes -/
theorem getInputType_ne_undef {env : Env} {cfg : Cfg} {c : CliOpts} (hclap : clapAccepts c = true) :
    getInputType env cfg c ≠ .undef := by
  have shape := clap_shapes hclap
  unfold getInputType getGitSelector
  generalize c.inputFile = file, c.inputStorage = storage, c.inputFsDir = fsDir, c.inputFsExt = fsExt,
    c.inputGitRepo = repo, c.inputGitRef = ref, c.inputGitCommit = commit, c.inputGitDir = dir at shape ⊢
  cases shape
  case nothing | storage => exact getInputSettings_ne_undef _ _ _
  case refOnly | commitOnly =>
    dsimp only
    cases hg : getInputSettings env cfg (some "git") with
    | undef => exact absurd hg (getInputSettings_ne_undef _ _ _)
    | err => nofun
    | ok i => cases i <;> nofun
  all_goals nofun

theorem no_undef {env : Env} {f : FileCfg} {c : CliOpts} (hdom : namesSimple f c = true) :
    effective env f c ≠ .undef := by
  intro h
  unfold effective at h
  simp only [hdom, Bool.not_true, Bool.false_eq_true, ↓reduceIte] at h
  split at h
  · cases h
  · rename_i hclap
    split at h
    · cases h
    · rename_i hu; exact configFrom_ne_undef _ _ hu
    · rename_i cfg hcfg
      split at h
      · cases h
      · rename_i hu; exact settingsFrom_ne_undef _ _ _ hu
      · split at h
        · cases h
        · rename_i hu; exact getInputType_ne_undef (by simpa using hclap) hu
        · cases h

theorem accepted_consistent {env : Env} {f : FileCfg} {c : CliOpts} {e : Effective} (h : effective env f c = .ok e) :
    (c.priceBefore.isSome = true ↔ e.lookup = .givenTime) ∧
    (∀ ts, c.priceBefore = some ts → env.tsOk ts = true ∧ e.priceLookup = .givenTime ts) ∧
    (e.lookup ≠ .none → e.commodity.isSome = true ∧ ∃ p, e.priceDb = some p ∧ env.dbOk p e.strict = true) ∧
    (e.strict = true → ExportT.equity ∈ e.exports → f.equityAccount ∈ f.accounts) ∧
    (e.strict = true → ∀ n, e.commodity = some n → n ∈ f.commodities) := by
  obtain ⟨hsimple, _, cfg, s, i, hcfg, hs, hi, rfl⟩ := effective_ok h
  obtain ⟨pl, h1, h2, h3, h4, h5, h6, h7, h8, h9, h10, h11, h12, h13, h14⟩ := settingsFrom_ok hs
  obtain ⟨st, g, db, lt, rts, gb, ets, c1, c2, c3, c4, c5, c6, rfl⟩ := configFrom_ok hcfg
  simp only [getOverlaps] at h4 h6 h8
  simp only [mkEffective]
  refine ⟨(priceLookupFrom_ok h6).1, ?_, ?_, ?_, ?_⟩
  · intro ts hts
    obtain ⟨a, b⟩ := (priceLookupFrom_ok h6).2 ts hts
    exact ⟨a, h7.trans b⟩
  · intro hne
    refine ⟨?_, _, (h14 hne).1, (h14 hne).2⟩
    cases hc : s.commodity with
    | none => exact absurd (h12 hc) hne
    | some _ => rfl
  · intro hst heq
    by_cases hm : f.equityAccount ∈ f.accounts
    · exact hm
    · exact absurd ⟨hst, heq, hm⟩ h11
  · intro hst n hn
    rw [h8] at hst
    rw [hst] at h4
    obtain ⟨hsrc, hchart⟩ := reportCommodityOf_ok h4
    -- the name is the option's or the file's, and both are in the domain of the model
    have hsim : isSimpleId n = true := by
      unfold namesSimple at hsimple
      simp only [Bool.and_eq_true] at hsimple
      rw [hn] at hsrc
      cases hc : c.reportCommodity with
      | some v => simp only [hc] at hsrc hsimple; cases hsrc; exact hsimple.2
      | none => simp only [hc] at hsrc; rw [← hsrc] at hsimple; exact hsimple.1.2
    have hne : n ≠ "" := by
      intro h0; subst h0; simp [isSimpleId] at hsim
    exact hchart rfl n hn hne

/-! ### `contradictions`, in the "rejected ⇒ `.err`" form -/

/-- every rejected combination is an error (inside the domain of the model): option sets the clap
    attributes exclude; a file `Config::from` rejects, whatever the options; `--price.before` without
    `given-time` and `given-time` without `--price.before`; an unparsable `--price.before`; price
    conversion without a report commodity; strict mode with an undeclared equity account or report commodity;
    an unreadable price file -/
theorem contradictions {env : Env} {f : FileCfg} {c : CliOpts} (hdom : namesSimple f c = true) :
    (Rejected c → effective env f c = .err) ∧
    (configFrom env f = .err → effective env f c = .err) ∧
    (c.priceBefore.isSome = true → lookupSpec env f c ≠ some .givenTime → effective env f c = .err) ∧
    (c.priceBefore = none → lookupSpec env f c = some .givenTime → effective env f c = .err) ∧
    (∀ ts, c.priceBefore = some ts → env.tsOk ts = false → effective env f c = .err) ∧
    (commoditySpec f c = none → lookupSpec env f c ≠ some .none → effective env f c = .err) ∧
    (strictSpec f c = true → (∃ l, exportsSpec f c = .ok l ∧ ExportT.equity ∈ l) → f.equityAccount ∉ f.accounts →
        effective env f c = .err) ∧
    (strictSpec f c = true → (∃ n, commoditySpec f c = some n ∧ n ∉ f.commodities) → effective env f c = .err) := by
  cases he : effective env f c with
  | err => refine ⟨?_, ?_, ?_, ?_, ?_, ?_, ?_, ?_⟩ <;> intros <;> rfl
  | undef => exact absurd he (no_undef hdom)
  | ok e =>
    -- an accepted run meets none of the eight premises
    obtain ⟨_, hclap, cfg, _, _, hcfg, _⟩ := effective_ok he
    obtain ⟨s1, s2, s3, s4⟩ := spec_of_ok he
    obtain ⟨a1, a2, a3, a4, a5⟩ := accepted_consistent he
    refine ⟨?_, ?_, ?_, ?_, ?_, ?_, ?_, ?_⟩
    · intro hr
      rw [rejected_clap hr] at hclap; cases hclap
    · intro hc
      rw [hc] at hcfg; cases hcfg
    · intro hb hl
      rw [s3, a1.mp hb] at hl; exact (hl rfl).elim
    · intro hb hl
      rw [s3] at hl
      have := a1.mpr (Option.some.inj hl)
      rw [hb] at this; cases this
    · intro ts hb hts
      have := (a2 ts hb).1
      rw [hts] at this; cases this
    · intro hcm hl
      rw [s3] at hl
      have := (a3 fun h0 => hl (by rw [h0])).1
      rw [← s2, hcm] at this; cases this
    · intro hst ⟨l, hl, hmem⟩ hacc
      rw [s4] at hl; cases hl
      exact (hacc (a4 (s1 ▸ hst) hmem)).elim
    · intro hst ⟨n, hn, hnot⟩
      exact (hnot (a5 (s1 ▸ hst) n (s2 ▸ hn))).elim

/-! ### `override_equiv`: running with an option = running with its value written into the file -/

theorem isAbs_atCwd {env : Env} (hcwd : isAbs env.cwd = true) (p : String) : isAbs (atCwd env p) = true := by
  unfold atCwd
  split
  · assumption
  · unfold isAbs joinPath at *
    cases hd : env.cwd.toList with
    | nil => simp [hd] at hcwd
    | cons x t => simpa [hd] using hcwd

theorem getAbsPath_atCwd {env : Env} (hcwd : isAbs env.cwd = true) (p : String) :
    getAbsPath env (atCwd env p) = atCwd env p := by
  unfold getAbsPath
  rw [isAbs_atCwd hcwd p]; rfl

theorem atCwd_ne_none {env : Env} (hcwd : isAbs env.cwd = true) (p : String) : atCwd env p ≠ "none" := by
  intro h
  have := isAbs_atCwd hcwd p
  rw [h] at this
  revert this; decide

theorem residual_namesSimple {env : Env} {f : FileCfg} {c : CliOpts} (h : namesSimple f c = true) :
    namesSimple (f.withCli env c) c.residual = true := by
  unfold namesSimple at h ⊢
  simp only [Bool.and_eq_true] at h ⊢
  obtain ⟨⟨⟨h1, h2⟩, h3⟩, h4⟩ := h
  refine ⟨⟨⟨h1, h2⟩, ?_⟩, rfl⟩
  simp only [FileCfg.withCli]
  cases hc : c.reportCommodity with
  | none => simpa using h3
  | some n => rw [hc] at h4; simpa using h4

theorem residual_clapAccepts {c : CliOpts} (h : clapAccepts c = true) : clapAccepts c.residual = true := by
  unfold clapAccepts at h ⊢
  simp only [Bool.and_eq_true, Bool.not_eq_true'] at h ⊢
  obtain ⟨⟨_, hconf⟩, _⟩ := h
  refine ⟨⟨by simp [clapValues, CliOpts.residual, inSet, listIn], ?_⟩, by simp [clapRequires, CliOpts.residual]⟩
  unfold clapConflicts at hconf ⊢
  simp only [CliOpts.residual, fsAny, gitAny, Option.isSome_none, Bool.false_or, Bool.or_false, Bool.false_and]
  cases hf : c.inputFile with
  | none => simp
  | some p =>
    cases hk : c.inputGitCommit with
    | none => simp
    | some k => simp [hf, hk, gitAny] at hconf

/-- what the value parsers of clap have checked, option by option -/
structure ClapValues (c : CliOpts) : Prop where
  storage : ∀ s, c.inputStorage = some s → ["fs", "git"].contains s = true
  reports : ∀ l, c.reports = some l → l.all ["register", "balance", "balance-group"].contains = true
  exports : ∀ l, c.exports = some l → l.all ["identity", "equity"].contains = true
  groupBy : ∀ s, c.groupBy = some s → ["year", "month", "date", "iso-week", "iso-week-date"].contains s = true
  lookup : ∀ s, c.lookupType = some s → (Lookup.parse s).isSome = true

theorem clapValues_fields {c : CliOpts} (h : clapAccepts c = true) : ClapValues c := by
  simp only [clapAccepts, clapValues, Bool.and_eq_true] at h
  obtain ⟨⟨⟨⟨⟨⟨⟨h1, h2⟩, h3⟩, h4⟩, h5⟩, -⟩, -⟩, -⟩ := h
  refine ⟨fun s hs => ?_, fun l hl => ?_, fun l hl => ?_, fun s hs => ?_, fun s hs => ?_⟩
  · rw [hs] at h1; exact h1
  · rw [hl] at h2; simp only [listIn, Bool.and_eq_true] at h2; exact h2.2
  · rw [hl] at h3; simp only [listIn, Bool.and_eq_true] at h3; exact h3.2
  · rw [hs] at h4; exact h4
  · rw [hs] at h5; exact h5

/-- a list of known values parses: `to_report_targets` cannot fail on what clap has checked -/
theorem mapParse_of_all {α} {p : String → Option α} {vals : List String} (hv : ∀ s ∈ vals, (p s).isSome = true)
    (l : List String) (h : l.all vals.contains = true) : ∃ r, mapParse p l = .ok r := by
  induction l with
  | nil => exact ⟨[], rfl⟩
  | cons s t ih =>
    simp only [List.all_cons, Bool.and_eq_true] at h
    obtain ⟨r, hr⟩ := ih h.2
    obtain ⟨a, hp⟩ := Option.isSome_iff_exists.mp (hv s (List.contains_iff_mem.mp h.1))
    exact ⟨a :: r, by simp only [mapParse, hp, hr]⟩

/-- clap has checked the option's value and `Config::from` the file's: the overlaid value parses -/
theorem mapParse_overlaid {α} {p : String → Option α} {vals : List String} (hv : ∀ s ∈ vals, (p s).isSome = true)
    {ov : Option (List String)} (hov : ∀ l, ov = some l → l.all vals.contains = true) {file : List String}
    {r0 : List α} (hfile : mapParse p file = .ok r0) : ∃ r, mapParse p (ov.getD file) = .ok r := by
  cases ov with
  | none => exact ⟨r0, hfile⟩
  | some l => exact mapParse_of_all hv l (hov l rfl)

theorem parse_overlaid {α} {p : String → Option α} {vals : List String} (hv : ∀ s ∈ vals, (p s).isSome = true)
    {ov : Option String} (hov : ∀ s, ov = some s → vals.contains s = true) {file : String} {a0 : α}
    (hfile : p file = some a0) : ∃ a, p (ov.getD file) = some a := by
  cases ov with
  | none => exact ⟨a0, hfile⟩
  | some s => exact Option.isSome_iff_exists.mp (hv s (List.contains_iff_mem.mp (hov s rfl)))

theorem priceFrom_some_ok {env : Env} {r : PriceCfg} {d : String} {l : Lookup} :
    priceFrom env (some r) = .ok (d, l) ↔
      Lookup.parse r.lookupType = some l ∧
      if r.dbPath = "none" then l = .none ∧ d = "" else d = getAbsPath env r.dbPath := by
  simp only [priceFrom]
  cases Lookup.parse r.lookupType with
  | none => simp
  | some l0 =>
    by_cases hn : r.dbPath = "none" <;> by_cases h0 : l0 = .none <;> simp [hn, h0] <;> grind

/-- the overlaid lookup type / price file, and what `Price::try_from` makes of the written `[price]` section:
    the same pair, or an error exactly where the run with the options fails to read the price file `""` -/
theorem price_with {env : Env} {f : FileCfg} {c : CliOpts} {db : String} {lt : Lookup}
    (hcwd : isAbs env.cwd = true) (hclap : ClapValues c) (hp : priceFrom env f.price = .ok (db, lt)) :
    ∃ ltE, (match c.lookupType with | some s => Lookup.parse s | none => some lt) = some ltE ∧
      (priceFrom env (priceWith env f.price c.pricedb c.lookupType) =
          .ok (((c.pricedb.map (atCwd env)).getD db), ltE) ∨
       (priceFrom env (priceWith env f.price c.pricedb c.lookupType) = .err ∧ ltE ≠ .none ∧
          ((c.pricedb.map (atCwd env)).getD db) = "")) := by
  -- an absent section is read as `none` / `none`
  have hnn : priceFrom env none = priceFrom env (some ⟨"none", "none"⟩) := by
    simp only [priceFrom]; rfl
  generalize hP : f.price.getD ⟨"none", "none"⟩ = P
  have hp' : priceFrom env (some P) = .ok (db, lt) := by
    rw [← hp, ← hP]; cases f.price <;> first | rfl | exact hnn.symm
  have hw : priceFrom env (priceWith env f.price c.pricedb c.lookupType) =
      priceFrom env (some ⟨(c.pricedb.map (atCwd env)).getD P.dbPath, c.lookupType.getD P.lookupType⟩) := by
    rw [← hP]; cases f.price <;> cases c.pricedb <;> cases c.lookupType <;> first | rfl | exact hnn
  obtain ⟨hl0, hd0⟩ := priceFrom_some_ok.mp hp'
  obtain ⟨ltE, hltE, hL⟩ : ∃ ltE, (match c.lookupType with | some s => Lookup.parse s | none => some lt) = some ltE ∧
      Lookup.parse (c.lookupType.getD P.lookupType) = some ltE := by
    cases hlt : c.lookupType with
    | none => exact ⟨lt, rfl, hl0⟩
    | some sl => obtain ⟨l, hl⟩ := Option.isSome_iff_exists.mp (hclap.lookup sl hlt); exact ⟨l, hl, hl⟩
  refine ⟨ltE, hltE, ?_⟩
  rw [hw]
  cases hdb : c.pricedb with
  | some p =>
    exact .inl (priceFrom_some_ok.mpr ⟨hL, by simp [atCwd_ne_none hcwd, getAbsPath_atCwd hcwd]⟩)
  | none =>
    by_cases hn : P.dbPath = "none"
    · rw [if_pos hn] at hd0
      by_cases h0 : ltE = .none
      · exact .inl (priceFrom_some_ok.mpr ⟨hL, by simp [hn, h0, hd0.2]⟩)
      · exact .inr ⟨by simp [priceFrom, hL, hn, h0], h0, hd0.2⟩
    · rw [if_neg hn] at hd0
      exact .inl (priceFrom_some_ok.mpr ⟨hL, by simp [hn, hd0]⟩)

theorem storageWith_parse {f : FileCfg} {c : CliOpts} {st : Storage} (hcv : ClapValues c)
    (c1 : Storage.parse f.storage = some st) : ∃ st', Storage.parse (storageWith f c) = some st' := by
  unfold storageWith
  cases hs : c.inputStorage with
  | some s => exact parse_overlaid Storage.parse_known (ov := some s) (fun _ h => Option.some.inj h ▸ hcv.storage s hs) c1
  | none =>
    simp only
    split
    · exact ⟨.fs, by decide⟩
    · split
      · exact ⟨.git, by decide⟩
      · exact ⟨st, c1⟩

theorem gitWith_no_repo (env : Env) (g : Option GitCfg) {c : CliOpts}
    (h : c.inputGitRepo = none ∨ c.inputGitDir = none) :
    gitWith env g c = match c.inputGitRef with
      | some x => g.map fun r => { r with ref := x }
      | none => g := by
  unfold gitWith
  rcases h with h | h
  · rw [h]; cases c.inputGitRef <;> cases g <;> rfl
  · rw [h]; cases c.inputGitRepo <;> cases c.inputGitRef <;> cases g <;> rfl

theorem gitOptFrom_ref (g : Option GitCfg) (x : String) :
    gitOptFrom (g.map fun r => { r with ref := x }) = (gitOptFrom g).map (Option.map fun r => { r with ref := x }) := by
  cases g with
  | none => rfl
  | some r => simp only [Option.map_some, gitOptFrom, gitFrom]; cases r.repo <;> cases r.repository <;> rfl

theorem gitWith_ok {env : Env} {f : FileCfg} {c : CliOpts} {g : Option GitC} (c2 : gitOptFrom f.git = .ok g) :
    ∃ g', gitOptFrom (gitWith env f.git c) = .ok g' := by
  have lone : c.inputGitRepo = none ∨ c.inputGitDir = none → ∃ g', gitOptFrom (gitWith env f.git c) = .ok g' := by
    intro h
    rw [gitWith_no_repo _ _ h]
    cases c.inputGitRef with
    | none => exact ⟨g, c2⟩
    | some x => exact ⟨_, by simp only [gitOptFrom_ref, c2, Outcome.map]; rfl⟩
  cases hr : c.inputGitRepo with
  | none => exact lone (.inl hr)
  | some repo =>
    cases hd : c.inputGitDir with
    | none => exact lone (.inr hd)
    | some dir => exact ⟨_, by simp only [gitWith, hr, hd, gitOptFrom, gitFrom]; rfl⟩

theorem stripDot_txn : stripDot "txn" = "txn" := by decide

theorem input_equiv {env : Env} {f : FileCfg} {c : CliOpts} {cfg cfg' : Cfg}
    (hcwd : isAbs env.cwd = true) (hclap : clapAccepts c = true)
    (hcfg : configFrom env f = .ok cfg) (hcfg' : configFrom env (f.withCli env c) = .ok cfg') :
    getInputType env cfg' c.residual = getInputType env cfg c := by
  obtain ⟨st, g, db, lt, rts, gb, ets, c1, c2, c3, c4, c5, c6, rfl⟩ := configFrom_ok hcfg
  obtain ⟨st', g', db', lt', rts', gb', ets', d1, d2, d3, d4, d5, d6, rfl⟩ := configFrom_ok hcfg'
  have hgit : Storage.parse "git" = some .git := by decide
  have hfs : Storage.parse "fs" = some .fs := by decide
  have shape := clap_shapes hclap
  simp only [FileCfg.withCli] at d1 d2
  simp only [getInputType, getGitSelector, getInputSettings, storageTypeOf, inputOfStorage, CliOpts.residual,
    FileCfg.withCli, fsWith]
  generalize hf : c.inputFile = file, hs : c.inputStorage = storage, hd : c.inputFsDir = fsDir,
    hx : c.inputFsExt = fsExt, hr : c.inputGitRepo = repo, hg : c.inputGitRef = ref, hk : c.inputGitCommit = commit,
    hdir : c.inputGitDir = dir at shape ⊢
  cases shape
  case file => rfl
  case nothing =>
    simp only [storageWith, hs, hd, hr, hg, hk, Option.isSome_none, Bool.false_eq_true, ↓reduceIte, Bool.or_self] at d1
    rw [c1] at d1; cases d1
    simp only [gitWith_no_repo _ _ (.inl hr), hg, c2, Outcome.ok.injEq] at d2
    subst d2
    rfl
  case storage s =>
    simp only [storageWith, hs] at d1
    simp only [gitWith_no_repo _ _ (.inl hr), hg, c2, Outcome.ok.injEq] at d2
    subst d2
    simp only [d1]
  case fs d x =>
    simp only [storageWith, hs, hd, Option.isSome_some, ↓reduceIte, hfs, Option.some.injEq] at d1
    subst d1
    simp only [Option.map_some, fsFrom, getAbsPath_atCwd hcwd]
  case gitRef r x d =>
    simp only [storageWith, hs, hd, hr, Option.isSome_some, Option.isSome_none, Bool.false_eq_true, ↓reduceIte,
      Bool.true_or, hgit, Option.some.injEq] at d1
    subst d1
    simp only [gitWith, hr, hdir, hg, gitOptFrom, gitFrom, Option.getD_some, Outcome.ok.injEq] at d2
    subst d2
    simp only [getAbsPath_atCwd hcwd, stripDot_txn]
  case gitCommit r k d =>
    simp only [storageWith, hs, hd, hr, Option.isSome_some, Option.isSome_none, Bool.false_eq_true, ↓reduceIte,
      Bool.true_or, hgit, Option.some.injEq] at d1
    subst d1
    simp only [gitWith, hr, hdir, hg, gitOptFrom, gitFrom, Outcome.ok.injEq] at d2
    subst d2
    simp only [hgit, getAbsPath_atCwd hcwd, stripDot_txn]
  case refOnly x =>
    simp only [storageWith, hs, hd, hr, hg, Option.isSome_some, Option.isSome_none, Bool.false_eq_true, ↓reduceIte,
      Bool.true_or, Bool.or_true, hgit, Option.some.injEq] at d1
    subst d1
    simp only [gitWith_no_repo _ _ (.inl hr), hg, gitOptFrom_ref, c2, Outcome.map, Outcome.ok.injEq] at d2
    subst d2
    simp only [hgit]
    cases g <;> rfl
  case commitOnly k =>
    simp only [gitWith_no_repo _ _ (.inl hr), hg, c2, Outcome.ok.injEq] at d2
    subst d2
    simp only [hgit]

/-- **override_equiv.**  For an option set clap accepts and a file `Config::from` accepts, running with the
    options equals running with every option's value written into its configuration key (and only the
    options that have no key – `--input.file`, `--input.git.commit`, `--price.before` – left on the command
    line).  `hcwd`/`hdb` are facts about the environment: the working directory is an absolute path, and
    reading the price file `""` fails.  (For a file that `Config::from` rejects see `contradictions`: it is
    rejected whatever the options; for a rejected option set there is no run to compare.) -/
theorem override_equiv {env : Env} {f : FileCfg} {c : CliOpts}
    (hcwd : isAbs env.cwd = true) (hdb : ∀ s, env.dbOk "" s = false)
    (hdom : namesSimple f c = true) (hclap : clapAccepts c = true)
    (hload : ∃ cfg, configFrom env f = .ok cfg) :
    effective env f c = effective env (f.withCli env c) c.residual := by
  obtain ⟨cfg, hcfg⟩ := hload
  have hcv := clapValues_fields hclap
  obtain ⟨st, g, db, lt, rts, gb, ets, c1, c2, c3, c4, c5, c6, hcfgeq⟩ := configFrom_ok hcfg
  obtain ⟨ltE, hltE, hprice⟩ := price_with hcwd hcv c3
  obtain ⟨st', hst'⟩ := storageWith_parse hcv c1
  obtain ⟨g', hg'⟩ := gitWith_ok (env := env) (c := c) c2
  obtain ⟨rts', hrts'⟩ : ∃ r, toReportTargets (c.reports.getD f.targets) = .ok r :=
    mapParse_overlaid ReportT.parse_known hcv.reports c4
  obtain ⟨ets', hets'⟩ : ∃ r, toExportTargets (c.exports.getD f.exportTargets) = .ok r :=
    mapParse_overlaid ExportT.parse_known hcv.exports c6
  obtain ⟨gb', hgb'⟩ := parse_overlaid GroupBy.parse_known hcv.groupBy c5
  -- the overlaid values, as the run with the options computes them
  have hR : reportsOf cfg c.reports = .ok rts' := (reportsOf_ok_iff (hcfgeq ▸ c4) _ _).mpr hrts'
  have hX : exportsOf cfg c.exports = .ok ets' := (exportsOf_ok_iff (hcfgeq ▸ c6) _ _).mpr hets'
  have hG : groupByOf cfg c.groupBy = .ok gb' := (groupByOf_ok_iff (hcfgeq ▸ c5) _ _).mpr hgb'
  have hL : lookupOf cfg c.lookupType = .ok ltE := (lookupOf_ok_iff _ _ _).mpr (hcfgeq ▸ hltE)
  have hD : dbPathOf env cfg c.pricedb = (c.pricedb.map (atCwd env)).getD db := by rw [dbPathOf_eq, hcfgeq]
  unfold effective
  rw [residual_namesSimple hdom, residual_clapAccepts hclap, hdom, hclap, hcfg]
  simp only [Bool.not_true, Bool.false_eq_true, ↓reduceIte]
  rcases hprice with hpok | ⟨hperr, hne, hdbE⟩
  · -- the written file loads
    obtain ⟨cfg', hcfg'⟩ : ∃ cfg', configFrom env (f.withCli env c) = .ok cfg' := by
      simp only [configFrom, FileCfg.withCli, hst', hg', hpok, hrts', hgb', hets']
      exact ⟨_, rfl⟩
    have hin := input_equiv hcwd hclap hcfg hcfg'
    obtain ⟨st2, g2, db2, lt2, rts2, gb2, ets2, d1, d2, d3, d4, d5, d6, hcfg'eq⟩ := configFrom_ok hcfg'
    simp only [FileCfg.withCli] at d3 d4 d5 d6 hcfg'eq
    rw [hpok] at d3; cases d3
    rw [hrts'] at d4; cases d4
    rw [hgb'] at d5; cases d5
    rw [hets'] at d6; cases d6
    -- both runs check the same overlaid values
    have hC : reportCommodityOf cfg' (c.strict.getD cfg.strict) none =
        reportCommodityOf cfg (c.strict.getD cfg.strict) c.reportCommodity := by
      rw [hcfg'eq, hcfgeq]
      unfold reportCommodityOf
      cases c.reportCommodity <;> rfl
    rw [hcfg']
    simp only []
    rw [settingsFrom_eq, settingsFrom_eq, hin]
    have hS : cfg'.strict = c.strict.getD cfg.strict := by rw [hcfg'eq, hcfgeq]
    simp only [getOverlaps]
    rw [hR, hX, hL, hG, hD]
    simp only [CliOpts.residual, Option.getD_none, reportsOf, exportsOf, lookupOf, groupByOf, dbPathOf]
    rw [hS, hC, hcfg'eq, hcfgeq]
    cases reportCommodityOf _ (c.strict.getD f.strict) c.reportCommodity with
    | err => rfl
    | undef => rfl
    | ok rc =>
      dsimp only
      cases settingsCheck env (c.strict.getD f.strict) ets' f.accounts f.equityAccount rc ltE c.priceBefore _ with
      | err => rfl
      | undef => rfl
      | ok p =>
        dsimp only [Outcome.map]
        cases getInputType env _ c with
        | err => rfl
        | undef => rfl
        | ok i =>
          -- the selector list of the options is the global list of the written file, which has no per-report lists
          unfold mkEffective getAccountSelector
          cases c.accounts <;> rfl
  · -- the written `[price]` section is rejected: the run with the options cannot read the price file `""`
    have hcfg' : configFrom env (f.withCli env c) = .err := by
      simp only [configFrom, FileCfg.withCli, hst', hg', hperr, hrts', hgb', hets']
    rw [hcfg']
    cases hS : settingsFrom env cfg (getOverlaps c) with
    | err => rfl
    | undef => exact absurd hS (settingsFrom_ne_undef _ _ _)
    | ok s =>
      obtain ⟨_, _, _, h3, _, _, _, _, h8, _, _, _, _, _, h14⟩ := settingsFrom_ok hS
      rw [show (getOverlaps c).lookupType = c.lookupType from rfl, hL] at h3
      cases h3
      have := (h14 hne).2
      rw [show (getOverlaps c).dbPath = c.pricedb from rfl, hD, hdbE, hdb] at this
      cases this

/-! ### non-vacuity: concrete runs, and the pinned tree at the four repaired points -/

def envX : Env :=
  { cwd := "/w/cwd", cfgDir := "/w/conf", tsOk := fun s => s == "2024-01-20",
    dbOk := fun p _ => p == "/w/conf/p.db" || p == "/w/cwd/q.db" }

def fileX : FileCfg :=
  { strict := false, audit := false, storage := "fs",
    fs := some ⟨none, "txns", ".txn"⟩,
    git := some ⟨some "repo.git", none, "main", "txns", "txn"⟩,
    price := some ⟨"p.db", "none"⟩,
    accounts := ["a:cash", "e:food"], commodities := ["EUR", "USD"], permitEmpty := false,
    targets := ["balance", "register"], selGlobal := some ["a:.*"], commodity := none,
    selBalance := some ["e:.*"], selBalGrp := none, selRegister := none,
    groupBy := "month", exportTargets := [], equityAccount := "Equity:Balance", selEquity := none }

/-- no options: every key comes from the file (per-report selector over the global one, `.txn` ↦ `txn`,
    paths relative to the configuration file) -/
example : effective envX fileX {} = .ok
    { strict := false, audit := false, reports := [.balance, .register], exports := [],
      selBalance := ["e:.*"], selBalGrp := ["a:.*"], selRegister := ["a:.*"], selEquity := ["a:.*"],
      commodity := none, lookup := .none, priceLookup := .none, priceDb := none, groupBy := .month,
      input := .fs "/w/conf/txns" "txn" } := by decide

def cliX : CliOpts :=
  { strict := some true, audit := some true, reports := some ["balance-group"], exports := some ["identity"],
    accounts := some ["x", ""], reportCommodity := some "EUR", pricedb := some "q.db",
    lookupType := some "given-time", priceBefore := some "2024-01-20", groupBy := some "iso-week",
    inputGitRef := some "side" }

example : effective envX fileX cliX = .ok
    { strict := true, audit := true, reports := [.balanceGroup], exports := [.identity],
      selBalance := ["x"], selBalGrp := ["x"], selRegister := ["x"], selEquity := ["x"],
      commodity := some "EUR", lookup := .givenTime, priceLookup := .givenTime "2024-01-20",
      priceDb := some "/w/cwd/q.db", groupBy := .isoWeek,
      input := .git "/w/conf/repo.git" "txns" (.reference "side") "txn" } := by decide +kernel

/-- the hypotheses of `override_equiv` are satisfiable, and both sides are an accepted run -/
example : isAbs envX.cwd = true ∧ (∀ s, envX.dbOk "" s = false) ∧ namesSimple fileX cliX = true ∧
    clapAccepts cliX = true ∧ (∃ cfg, configFrom envX fileX = .ok cfg) ∧
    (effective envX (fileX.withCli envX cliX) cliX.residual).isOk = true := by
  refine ⟨by decide, by intro s; cases s <;> decide, by decide, by decide, ⟨_, rfl⟩, by decide⟩

example : effective envX fileX { inputFile := some "j.txn", inputStorage := some "git" } = .err := by decide
example : effective envX fileX { inputFsDir := some "d" } = .err := by decide
example : effective envX fileX { inputGitRepo := some "r", inputGitDir := some "d" } = .err := by decide
example : effective envX fileX { inputGitRef := some "a", inputGitCommit := some "b" } = .err := by decide
example : effective envX fileX { priceBefore := some "2024-01-20" } = .err := by decide
example : effective envX fileX { lookupType := some "given-time", reportCommodity := some "EUR" } = .err := by decide
example : effective envX fileX { lookupType := some "last-price" } = .err := by decide
example : effective envX fileX { strict := some true, reportCommodity := some "SEK" } = .err := by decide
example : effective envX fileX { strict := some true, exports := some ["equity"] } = .err := by decide
example : Rejected { inputFile := some "j.txn", inputStorage := some "git" } := .file_with_storage rfl rfl

example : (effective envX fileX { inputFile := some "j.txn" }).map (·.input) = .ok (.file "/w/cwd/j.txn") := by decide
example : (effective envX fileX { inputFsDir := some "/d", inputFsExt := some ".jrnl" }).map (·.input) =
    .ok (.fs "/d" "jrnl") := by decide
example : (effective envX fileX { inputStorage := some "git" }).map (·.input) =
    .ok (.git "/w/conf/repo.git" "txns" (.reference "main") "txn") := by decide
example : (effective envX fileX { inputGitCommit := some "abc123" }).map (·.input) =
    .ok (.git "/w/conf/repo.git" "txns" (.commitId "abc123") "txn") := by decide
example : (effective envX fileX { inputGitRepo := some "r.git", inputGitDir := some "d", inputGitRef := some "m" }).map
    (·.input) = .ok (.git "/w/cwd/r.git" "d" (.reference "m") "txn") := by decide

/-! #### the pinned tree (before the proposed fixes) at the four repaired points -/

/-- F15, pinned `get_overlaps`: `account_overlap: self.accounts.clone()` -/
def accountOverlapOf_pinned (a : Option (List String)) : Option (List String) := a

/-- F15 witness: on the pinned tree `--accounts ""` is the selector list `[""]`, which is *not* the select-all
    selector (it becomes the pattern `^(?:)$` that matches no account name) – against the documentation -/
theorem F15_witness_pinned : selectsAll ((accountOverlapOf_pinned (some [""])).getD []) = false := by decide
theorem F15_fixed : selectsAll ((accountOverlapOf (some [""])).getD []) = true := by decide

/-- F23, pinned `try_from`: `cfg_rpt_commodity` is computed (and `?`-propagated) before the overlap is looked at -/
def reportCommodityOf_pinned (cfg : Cfg) (strict : Bool) (ov : Option String) : Outcome (Option String) :=
  match (match cfg.commodity with
         | none => Outcome.ok none
         | some c => (innerGetOrCreateCommodity cfg.commodities cfg.permitEmpty strict c).map (fun (r : String × List String) => some r.1)) with
  | .err => .err
  | .undef => .undef
  | .ok fileRc =>
    match ov with
    | some c => (innerGetOrCreateCommodity cfg.commodities cfg.permitEmpty strict c).map (fun (r : String × List String) => some r.1)
    | none => .ok fileRc

def cfgSEK : Cfg :=
  { strict := false, audit := false, storage := .fs, fs := none, git := none, dbPath := "", lookup := .none,
    accounts := [], commodities := ["EUR"], permitEmpty := false, targets := [], commodity := some "SEK",
    selBalance := [], selBalGrp := [], selRegister := [], groupBy := .month, exportTargets := [],
    equityAccount := "Equity", selEquity := [] }

/-- F23 witness: file `commodity = "SEK"` (undeclared), options `--strict.mode true --report.commodity EUR`:
    the pinned tree fails on the shadowed file value; with the value written into the file it succeeds -/
theorem F23_witness_pinned :
    reportCommodityOf_pinned cfgSEK true (some "EUR") = .err ∧
    reportCommodityOf_pinned { cfgSEK with commodity := some "EUR" } true none = .ok (some "EUR") := by decide
theorem F23_fixed : reportCommodityOf cfgSEK true (some "EUR") = .ok (some "EUR") := by decide

/-- F24, pinned `get_input_type`: `suffix: self.input_fs_ext.clone()` as given -/
def fsInput_pinned (env : Env) (dir ext : String) : Input := .fs (atCwd env dir) ext

/-- F24 witness: `--input.fs.ext .txn` keeps the dot (and then matches no file: `Path::extension` never has
    one), while `suffix = ".txn"` in the file means `txn` -/
theorem F24_witness_pinned :
    fsInput_pinned envX "/d" ".txn" = .fs "/d" ".txn" ∧
    inputOfStorage envX { cfgSEK with fs := some ("/d", ".txn") } .fs = .ok (.fs "/d" "txn") := by decide
theorem F24_fixed :
    getInputType envX cfgSEK { inputFsDir := some "/d", inputFsExt := some ".txn" } = .ok (.fs "/d" "txn") := by decide

/-- F25, pinned clap attributes: `--input.fs.ext` has no conflicts of its own, and "`ext` requires `dir`" is
    waived when the missing `dir` conflicts with a present option (`Validator::is_missing_required_ok`) -/
def clapAccepts_pinned (c : CliOpts) : Bool :=
  clapValues c &&
  !((c.inputFile.isSome && (c.inputStorage.isSome || fsAny c || gitAny c)) ||
    (c.inputStorage.isSome && (fsAny c || gitAny c)) ||
    (c.inputFsDir.isSome && gitAny c) ||
    (c.inputGitRef.isSome && c.inputGitCommit.isSome)) &&
  ((!c.inputFsDir.isSome || c.inputFsExt.isSome) &&
   (!c.inputFsExt.isSome || c.inputFsDir.isSome || c.inputFile.isSome || c.inputStorage.isSome || gitAny c) &&
   (!c.inputGitRepo.isSome || (c.inputGitDir.isSome && (c.inputGitRef.isSome || c.inputGitCommit.isSome))) &&
   (!c.inputGitDir.isSome || c.inputGitRepo.isSome))

/-- F25 witness: the pinned tree accepts `--input.fs.ext jrnl --input.git.ref side` and then ignores the
    extension (the input is the file's git storage with its own suffix); the repaired attributes reject it -/
theorem F25_witness_pinned :
    clapAccepts_pinned { inputFsExt := some "jrnl", inputGitRef := some "side" } = true ∧
    (configFrom envX fileX).bind (fun cfg => getInputType envX cfg { inputFsExt := some "jrnl", inputGitRef := some "side" }) =
      .ok (.git "/w/conf/repo.git" "txns" (.reference "side") "txn") ∧
    clapAccepts { inputFsExt := some "jrnl", inputGitRef := some "side" } = false := by decide

end C19
end Tackler
