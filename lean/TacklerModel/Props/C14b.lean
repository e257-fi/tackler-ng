import TacklerModel.Model.SubCmd
import TacklerModel.Props.C14
/-!
# C14b — the file-writing sub-commands never overwrite, and write only their own files

`tackler init` and `tackler new <name>` write a configuration and three journal files with `fs::write`, which would
truncate an existing file.  What protects existing files is the pair of `fs::exists` guards at the top of
`commands::init::exec` (and the one of `commands::new::exec`).  The theorems say that this is enough – for every
tree, every setup name and every text:

* `init_refuses_existing` / `new_refuses_existing`: a present `conf`, `txns` (or `<name>`) ends the command with an error
  and the tree is *identical* afterwards;
* `init_success_iff` / `new_success_iff`: otherwise it succeeds;
* `init_touches_only` / `new_touches_only`: whatever happens, a path outside the command's own list
  (`initPaths`: the two directories and the seven files) holds what it held before;
* `init_never_overwrites` / `new_never_overwrites`: in a well-formed tree (a present path has a present parent
  directory) every file that existed before the command exists unchanged after it;
* `init_complete`: on success each of the seven files holds exactly its text.

The declarations continue the namespace `Tackler.C14` of `Props/C14.lean`; the last section is an instance of its
`success_complete`.
-/
namespace Tackler
namespace C14
open Output

/-- a present `dir/f` has a present `dir` (what a real file system guarantees) -/
def TreeWF (t : Tree) : Prop := ∀ d f : Path, t.present (pjoin d f) = true → t.present d = true

theorem pjoin_inj (d a b : Path) (h : pjoin d a = pjoin d b) : a = b := by
  unfold pjoin at h
  have h1 := congrArg String.toList h
  simp only [String.toList_append] at h1
  exact String.toList_inj.mp (List.append_cancel_left h1)

/-! ### `writeFiles` -/

theorem writeFiles_other (dir : Path) : ∀ (fs : List (String × Bytes)) (t : Tree) (p : Path),
    (∀ f ∈ fs, p ≠ pjoin dir f.1) → (writeFiles t dir fs).node p = t.node p := by
  intro fs
  induction fs with
  | nil => intro t p _; rfl
  | cons f rest ih =>
    intro t p h
    unfold writeFiles
    rw [ih _ p (fun g hg => h g (List.mem_cons_of_mem _ hg))]
    have : p ≠ pjoin dir f.1 := h f List.mem_cons_self
    simp [Tree.write, this]

theorem writeFiles_mem (dir : Path) : ∀ (fs : List (String × Bytes)) (t : Tree),
    (fs.map (·.1)).Nodup → ∀ f ∈ fs, (writeFiles t dir fs).node (pjoin dir f.1) = some (.file f.2) := by
  intro fs
  induction fs with
  | nil => intro t _ f hf; cases hf
  | cons g rest ih =>
    intro t hnd f hf
    simp only [List.map_cons, List.nodup_cons] at hnd
    unfold writeFiles
    rcases List.mem_cons.mp hf with rfl | hr
    · rw [writeFiles_other dir rest _ (pjoin dir f.1)]
      · simp [Tree.write]
      · intro h hh heq
        exact hnd.1 (List.mem_map.mpr ⟨h, hh, (pjoin_inj dir _ _ heq).symm⟩)
    · exact ih _ hnd.2 f hr

/-! ### `init` -/

/-- **init_refuses_existing**: with `conf` or `txns` present the command fails and the tree is the same value -/
theorem init_refuses_existing (tx : InitTexts) (name : Path) (t : Tree)
    (h : t.present (pjoin name "conf") = true ∨ t.present (pjoin name "txns") = true) :
    initExec tx name t = (false, t) := by
  unfold initExec
  rcases h with h | h
  · simp [h]
  · by_cases hc : t.present (pjoin name "conf") = true
    · simp [hc]
    · simp [hc, h]

theorem init_success_iff (tx : InitTexts) (name : Path) (t : Tree) :
    (initExec tx name t).1 = true ↔
      t.present (pjoin name "conf") = false ∧ t.present (pjoin name "txns") = false := by
  unfold initExec
  by_cases hc : t.present (pjoin name "conf") = true
  · simp [hc]
  · by_cases ht : t.present (pjoin name "txns") = true
    · simp [hc, ht]
    · simp [hc, ht]

/-- **init_touches_only**: a path outside the command's own list is left as it was – on success and on failure -/
theorem init_touches_only (tx : InitTexts) (name : Path) (t : Tree) (p : Path) (hp : p ∉ initPaths tx name) :
    (initExec tx name t).2.node p = t.node p := by
  unfold initExec
  split
  · rfl
  · split
    · rfl
    · simp only [initPaths, List.mem_append, List.mem_cons, List.mem_map, List.not_mem_nil, or_false, not_or,
        not_exists, not_and] at hp
      obtain ⟨⟨⟨h1, h2⟩, h3⟩, h4⟩ := hp
      rw [writeFiles_other _ _ _ p (fun f hf heq => h4 f hf heq.symm),
        writeFiles_other _ _ _ p (fun f hf heq => h3 f hf heq.symm)]
      simp [Tree.mkdir, h1, h2]

/-- **init_never_overwrites**: every path present before the command holds the same node after it (in particular
    every existing file keeps its bytes), whatever the outcome -/
theorem init_never_overwrites (tx : InitTexts) (name : Path) (t : Tree) (hwf : TreeWF t)
    (p : Path) (n : Node) (hp : t.node p = some n) :
    (initExec tx name t).2.node p = some n := by
  by_cases hs : (initExec tx name t).1 = true
  · obtain ⟨hc, ht⟩ := (init_success_iff tx name t).mp hs
    have hpres : t.present p = true := by simp [Tree.present, hp]
    rw [init_touches_only tx name t p, hp]
    intro hmem
    simp only [initPaths, List.mem_append, List.mem_cons, List.mem_map, List.not_mem_nil, or_false] at hmem
    rcases hmem with ((rfl | rfl) | ⟨f, _, rfl⟩) | ⟨f, _, rfl⟩
    · rw [hc] at hpres; cases hpres
    · rw [ht] at hpres; cases hpres
    · have := hwf _ _ hpres; rw [hc] at this; cases this
    · have := hwf _ _ hpres; rw [ht] at this; cases this
  · have h : t.present (pjoin name "conf") = true ∨ t.present (pjoin name "txns") = true := by
      have := mt (init_success_iff tx name t).mpr hs
      cases hc : t.present (pjoin name "conf") with
      | true => exact .inl rfl
      | false => exact .inr (by simpa [hc] using this)
    rw [init_refuses_existing tx name t h]
    exact hp

theorem confFiles_nodup (tx : InitTexts) : ((confFiles tx).map (·.1)).Nodup := by
  simp [confFiles]

theorem txnsFiles_nodup (tx : InitTexts) (name : Path) : ((txnsFiles tx name).map (·.1)).Nodup := by
  simp [txnsFiles]

theorem conf_ne_txns (name : Path) (a b : String) : pjoin (pjoin name "conf") a ≠ pjoin (pjoin name "txns") b := by
  intro h
  unfold pjoin at h
  have h1 := congrArg String.toList h
  simp only [String.toList_append, List.append_assoc] at h1
  have h2 := List.append_cancel_left h1
  simp at h2

/-- **init_complete**: on success each of the seven files holds exactly its text -/
theorem init_complete (tx : InitTexts) (name : Path) (t : Tree) (hs : (initExec tx name t).1 = true) :
    (∀ f ∈ confFiles tx, (initExec tx name t).2.node (pjoin (pjoin name "conf") f.1) = some (.file f.2)) ∧
    (∀ f ∈ txnsFiles tx name, (initExec tx name t).2.node (pjoin (pjoin name "txns") f.1) = some (.file f.2)) := by
  obtain ⟨hc, ht⟩ := (init_success_iff tx name t).mp hs
  unfold initExec
  simp only [hc, ht, Bool.false_eq_true, if_false]
  refine ⟨?_, ?_⟩
  · intro f hf
    rw [writeFiles_other _ _ _ _ (fun g hg => conf_ne_txns name f.1 g.1)]
    exact writeFiles_mem _ _ _ (confFiles_nodup tx) f hf
  · intro f hf
    exact writeFiles_mem _ _ _ (txnsFiles_nodup tx name) f hf

/-! ### `new` -/

/-- **new_refuses_existing**: a present `<name>` (file or directory) fails the command, tree unchanged -/
theorem new_refuses_existing (tx : InitTexts) (name : Path) (t : Tree) (h : t.present name = true) :
    newExec tx name t = (false, t) := by
  unfold newExec; simp [h]

/-- **new_touches_only**: a path other than `<name>` and the init list is left as it was -/
theorem new_touches_only (tx : InitTexts) (name : Path) (t : Tree) (p : Path)
    (hn : p ≠ name) (hp : p ∉ initPaths tx name) :
    (newExec tx name t).2.node p = t.node p := by
  unfold newExec
  split
  · rfl
  · rw [init_touches_only tx name _ p hp]
    simp [Tree.mkdir, hn]

/-- **new_never_overwrites**: every path present before `new` holds the same node after it -/
theorem new_never_overwrites (tx : InitTexts) (name : Path) (t : Tree) (hwf : TreeWF t)
    (p : Path) (n : Node) (hp : t.node p = some n) :
    (newExec tx name t).2.node p = some n := by
  unfold newExec
  by_cases h : t.present name = true
  · simp [h, hp]
  · simp only [h, Bool.false_eq_true, if_false]
    have hpres : t.present p = true := by simp [Tree.present, hp]
    have hne : p ≠ name := by
      intro e; rw [e] at hpres; exact h hpres
    have hnot : p ∉ initPaths tx name := by
      intro hmem
      simp only [initPaths, List.mem_append, List.mem_cons, List.mem_map, List.not_mem_nil, or_false] at hmem
      rcases hmem with ((rfl | rfl) | ⟨f, _, rfl⟩) | ⟨f, _, rfl⟩
      · exact h (hwf _ _ hpres)
      · exact h (hwf _ _ hpres)
      · exact h (hwf _ _ (hwf _ _ hpres))
      · exact h (hwf _ _ (hwf _ _ hpres))
    rw [init_touches_only tx name _ p hnot]
    simp [Tree.mkdir, hne, hp]

/-- **new_success_iff**: `new` succeeds exactly when `<name>` is absent – in a well-formed tree nothing below an
    absent `<name>` can be in the way -/
theorem new_success_iff (tx : InitTexts) (name : Path) (t : Tree) (hwf : TreeWF t) :
    (newExec tx name t).1 = true ↔ t.present name = false := by
  unfold newExec
  by_cases h : t.present name = true
  · simp [h]
  · simp only [h, Bool.false_eq_true, if_false]
    rw [init_success_iff]
    have hc : t.present (pjoin name "conf") = false := by
      cases hh : t.present (pjoin name "conf") with
      | false => rfl
      | true => exact absurd (hwf _ _ hh) h
    have ht : t.present (pjoin name "txns") = false := by
      cases hh : t.present (pjoin name "txns") with
      | false => rfl
      | true => exact absurd (hwf _ _ hh) h
    have hne1 : pjoin name "conf" ≠ name := by
      intro e; unfold pjoin at e
      have h1 := congrArg String.toList e
      simp only [String.toList_append, List.append_assoc] at h1
      have h2 := List.append_right_eq_self.mp h1
      simp at h2
    have hne2 : pjoin name "txns" ≠ name := by
      intro e; unfold pjoin at e
      have h1 := congrArg String.toList e
      simp only [String.toList_append, List.append_assoc] at h1
      have h2 := List.append_right_eq_self.mp h1
      simp at h2
    simp [Tree.present, Tree.mkdir, hne1, hne2] at hc ht h ⊢
    exact ⟨hc, ht⟩

/-! ### non-vacuity -/

def txs : InitTexts := ⟨[1], [2], [3], [4], [5], [6], fun _ => [7]⟩
def emptyTree : Tree := ⟨fun p => if p = "." then some .dir else none⟩
def mineTree : Tree := ⟨fun p => if p = "." ∨ p = "./txns" then some .dir else if p = "./txns/journal.txn" then some (.file [9, 9]) else none⟩

example : (initExec txs "." emptyTree).1 = true := by decide
example : (initExec txs "." emptyTree).2.node "./txns/welcome.txn" = some (.file [7]) := by decide
example : (initExec txs "." emptyTree).2.node "./conf/tackler.toml" = some (.file [1]) := by decide
/-- what `init_refuses_existing` excludes is the seeded change C14-6 (the guard on `txns` dropped) -/
example : initExec txs "." mineTree = (false, mineTree) := init_refuses_existing txs "." mineTree (Or.inr (by decide))
example : (initExec txs "." mineTree).2.node "./txns/journal.txn" = some (.file [9, 9]) := by
  rw [init_refuses_existing txs "." mineTree (Or.inr (by decide))]; decide
example : (newExec txs "books" emptyTree).1 = true := by decide
example : (newExec txs "books" emptyTree).2.node "books/conf/tags.toml" = some (.file [4]) := by decide

/-! ### a destination with zero bytes of content (seeded change C14-7: the file created lazily on the first write)

`success_complete` quantifies over every cutting of the content into write calls – the empty one included: an export
that writes nothing still has its (empty) file at the announced path. -/

def emptyExport : Plan := ⟨[], [⟨"out/equity.txn", [], true, true⟩]⟩

example : (run 8192 emptyExport emptyFS (fun _ => none)).exit = 0 := by decide
example : (run 8192 emptyExport emptyFS (fun _ => none)).fs.file "out/equity.txn" = some [] := by decide
example : (run 8192 emptyExport emptyFS (fun _ => none)).announced = ["out/equity.txn"] := by decide
example : (run 8192 emptyExport emptyFS (fun _ => none)).fs.file "out/equity.txn"
    = some (Dest.content ⟨"out/equity.txn", [], true, true⟩) :=
  ((success_complete 8192 emptyExport emptyFS (fun _ => none) (by decide)).1 ⟨"out/equity.txn", [], true, true⟩ (by decide)).1

end C14
end Tackler
