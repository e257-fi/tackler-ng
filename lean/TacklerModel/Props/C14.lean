import TacklerModel.Model.Output
import TacklerModel.Lemmas.Output
/-!
# C14 — outputs are complete or the run fails; existing files are never overwritten

Property theorems over the output protocol of `Model/Output.lean` (`create_output_file`, the 8 KiB `BufWriter`,
`write_txt_reports`, `write_exports`, `run`/`main`), with the checked flush of `fixes/F4-flush.diff`.
All statements hold for every buffer capacity, every way the content is cut into write calls, every per-destination
fault offset (including faults that reach the file only at the final flush), every initial file system and every
plan (also plans naming the same path twice) — by induction, without bounds.

The kernel half is an interface, not a model (see the header of `Model/Output.lean`): a file accepts bytes up to
its limit and then fails, `create_new` fails on an existing path.  That interface is the trusted base of this
property; it is exercised on the real binary by the tie (`gen/c14.py`, `RLIMIT_FSIZE` sweep).

Partial: "journal files, the Git repository and the configuration are only read" needs the loading phase, which is
not modelled; `inputs_only_read_partial` states it with the loader as a parameter that leaves the file system alone
(the tie checks exactly that hypothesis with before/after snapshots on the real binary).

`dest_spec` is the key: one destination, whatever the chunking and the capacity, leaves exactly the first `limit`
bytes of its content and reports success iff everything fitted.  The variant without the checked flush
(`flushChecked = false`) does not satisfy this: `F4_witness`.  Over it, by induction on the plan: `success_complete`, `success_iff`,
`announced_complete`, `fail_stop`, `failure_anatomy`, `existing_preserved`, `existing_untouched`,
`existing_before_after`, `nothing_else`, `chunking_irrelevant`.
-/
namespace Tackler
namespace C14
open Output

/-! ### one destination: closed form -/

/-- what one destination does, without buffers and chunks -/
def destSpec (fs : FS) (limit : Option Nat) (d : Dest) : DestResult :=
  if d.setupOk = false then ⟨fs, false⟩
  else
    match fs.file d.path with
    | some _ => ⟨fs, false⟩
    | none => ⟨fs.set d.path (lim limit d.content), fits limit d.content && d.bodyOk⟩

/-- **Closed form of the writer**: for every capacity and chunking the destination file ends up holding
    exactly the first `limit` bytes of the content, and the arm succeeds (and announces) iff the whole content
    fitted and the reporter did not fail. -/
theorem dest_spec (cap : Nat) (fs : FS) (limit : Option Nat) (d : Dest) :
    writeDest cap fs limit d = destSpec fs limit d := by
  unfold writeDest writeDestV destSpec createNew
  cases hs : d.setupOk with
  | false => simp
  | true =>
    cases hfile : fs.file d.path with
    | some old => simp
    | none =>
      have W := writeChunks_spec d.chunks _ (BufWriter.inv_empty limit cap)
      have hdrop := W.drop_data
      simp only [BufWriter.all, List.nil_append] at hdrop
      cases hr : (writeChunks ⟨⟨[], limit⟩, [], cap⟩ d.chunks).2 with
      | false =>
        have := (W.failed hr).2
        simp only [BufWriter.all, List.nil_append] at this
        simp [hr, hdrop, this, Dest.content]
      | true =>
        cases hb : d.bodyOk with
        | false => simp [hr, hdrop, Dest.content]
        | true =>
          -- the checked flush: its result says whether everything fitted
          have Fl := flushBuf_spec _ (W.ok hr).2.sink
          have F := W.andThen hr Fl.wrote
          have hd := F.drop_data
          simp only [BufWriter.all, List.nil_append, List.append_nil] at hd
          cases hf : (writeChunks ⟨⟨[], limit⟩, [], cap⟩ d.chunks).1.flushBuf.2 with
          | false =>
            have := (F.failed hf).2
            simp only [BufWriter.all, List.nil_append, List.append_nil] at this
            simp [hr, BufWriter.flush, hf, hd, this, Dest.content]
          | true =>
            have := (Fl.ok hf).2.2
            rw [W.limit, (W.ok hr).1] at this
            simp only [BufWriter.all, List.nil_append] at this
            simp [hr, BufWriter.flush, hf, hd, this, Dest.content]

theorem destSpec_ok {fs : FS} {limit : Option Nat} {d : Dest} (h : (destSpec fs limit d).ok = true) :
    d.setupOk = true ∧ d.bodyOk = true ∧ fits limit d.content = true ∧ fs.file d.path = none ∧
    (destSpec fs limit d).fs = fs.set d.path d.content := by
  unfold destSpec at h ⊢
  cases hs : d.setupOk with
  | false => simp [hs] at h
  | true =>
    cases hfile : fs.file d.path with
    | some old => simp [hs, hfile] at h
    | none =>
      simp [hs, hfile] at h
      simp [lim_of_fits h.1, h.1, h.2]

theorem destSpec_existing {fs : FS} {limit : Option Nat} {d : Dest} {p : Path} {old : Bytes}
    (h : fs.file p = some old) : (destSpec fs limit d).fs.file p = some old := by
  unfold destSpec
  cases hs : d.setupOk with
  | false => simpa using h
  | true =>
    cases hfile : fs.file d.path with
    | some o => simpa using h
    | none =>
      have : p ≠ d.path := by intro e; rw [e, hfile] at h; cases h
      simp [FS.set, this, h]

theorem destSpec_other {fs : FS} {limit : Option Nat} {d : Dest} {p : Path} (h : p ≠ d.path) :
    (destSpec fs limit d).fs.file p = fs.file p := by
  unfold destSpec
  cases hs : d.setupOk with
  | false => simp
  | true =>
    cases hfile : fs.file d.path with
    | some o => simp
    | none => simp [FS.set, h]

theorem destSpec_fs (fs : FS) (limit : Option Nat) (d : Dest) :
    (destSpec fs limit d).fs = fs ∨
    (fs.file d.path = none ∧ (destSpec fs limit d).fs = fs.set d.path (lim limit d.content)) := by
  unfold destSpec
  cases hs : d.setupOk with
  | false => simp
  | true =>
    cases hfile : fs.file d.path with
    | some o => simp
    | none => simp

/-! ### the loop -/

theorem writeMany_nil (cap : Nat) (faults : FaultPlan) (fs : FS) :
    writeMany cap faults [] fs = ⟨fs, [], true⟩ := rfl

theorem writeMany_cons (cap : Nat) (faults : FaultPlan) (d : Dest) (ds : List Dest) (fs : FS) :
    writeMany cap faults (d :: ds) fs =
      if (destSpec fs (faults d.path) d).ok = true then
        ⟨(writeMany cap faults ds (destSpec fs (faults d.path) d).fs).fs,
         d.path :: (writeMany cap faults ds (destSpec fs (faults d.path) d).fs).announced,
         (writeMany cap faults ds (destSpec fs (faults d.path) d).fs).ok⟩
      else ⟨(destSpec fs (faults d.path) d).fs, [], false⟩ := by
  rw [← dest_spec cap]
  rfl

theorem writeMany_append (cap : Nat) (faults : FaultPlan) (xs ys : List Dest) : ∀ (fs : FS),
    writeMany cap faults (xs ++ ys) fs =
      if (writeMany cap faults xs fs).ok = true then
        ⟨(writeMany cap faults ys (writeMany cap faults xs fs).fs).fs,
         (writeMany cap faults xs fs).announced ++ (writeMany cap faults ys (writeMany cap faults xs fs).fs).announced,
         (writeMany cap faults ys (writeMany cap faults xs fs).fs).ok⟩
      else writeMany cap faults xs fs := by
  induction xs with
  | nil => intro fs; simp [writeMany_nil]
  | cons d xs ih =>
    intro fs
    simp only [List.cons_append, writeMany_cons]
    by_cases hd : (destSpec fs (faults d.path) d).ok = true
    · simp only [hd, if_true]
      rw [ih]
      by_cases hx : (writeMany cap faults xs (destSpec fs (faults d.path) d).fs).ok = true
      · simp [hx]
      · simp [hx]
    · simp [hd]

theorem run_eq (cap : Nat) (plan : Plan) (fs : FS) (faults : FaultPlan) :
    (run cap plan fs faults).exit = (if (writeMany cap faults plan.dests fs).ok = true then 0 else 1) ∧
    (run cap plan fs faults).fs = (writeMany cap faults plan.dests fs).fs ∧
    (run cap plan fs faults).announced = (writeMany cap faults plan.dests fs).announced := by
  have happ := writeMany_append cap faults plan.reports plan.exports fs
  unfold run runV writeTxtReportsV writeExportsV Plan.dests
  unfold writeMany at happ ⊢
  rw [happ]
  cases hr : (writeManyV true cap faults plan.reports fs).ok <;> simp [hr]

theorem exit_zero_iff (cap : Nat) (plan : Plan) (fs : FS) (faults : FaultPlan) :
    (run cap plan fs faults).exit = 0 ↔ (writeMany cap faults plan.dests fs).ok = true := by
  rw [(run_eq cap plan fs faults).1]
  by_cases h : (writeMany cap faults plan.dests fs).ok = true <;> simp [h]

/-! #### facts about the loop, by induction over the targets -/

theorem many_existing (cap : Nat) (faults : FaultPlan) (ds : List Dest) : ∀ (fs : FS) (p : Path) (old : Bytes),
    fs.file p = some old → (writeMany cap faults ds fs).fs.file p = some old := by
  induction ds with
  | nil => intro fs p old h; simpa [writeMany_nil] using h
  | cons d ds ih =>
    intro fs p old h
    rw [writeMany_cons]
    by_cases hd : (destSpec fs (faults d.path) d).ok = true
    · simp only [hd, if_true]
      exact ih _ p old (destSpec_existing h)
    · simp only [hd]
      exact destSpec_existing h

theorem many_other (cap : Nat) (faults : FaultPlan) (ds : List Dest) : ∀ (fs : FS) (p : Path),
    p ∉ ds.map (·.path) → (writeMany cap faults ds fs).fs.file p = fs.file p := by
  induction ds with
  | nil => intro fs p _; simp [writeMany_nil]
  | cons d ds ih =>
    intro fs p h
    simp only [List.map_cons, List.mem_cons, not_or] at h
    rw [writeMany_cons]
    by_cases hd : (destSpec fs (faults d.path) d).ok = true
    · simp only [hd, if_true]
      rw [ih _ p h.2, destSpec_other h.1]
    · simp only [hd]
      exact destSpec_other h.1

/-- a destination that can be written: reporter fine, content within the limit -/
def Good (faults : FaultPlan) (d : Dest) : Prop :=
  d.setupOk = true ∧ d.bodyOk = true ∧ fits (faults d.path) d.content = true

theorem many_success (cap : Nat) (faults : FaultPlan) (ds : List Dest) : ∀ (fs : FS),
    (writeMany cap faults ds fs).ok = true →
    (writeMany cap faults ds fs).announced = ds.map (·.path) ∧
    (ds.map (·.path)).Nodup ∧
    ∀ d ∈ ds, (writeMany cap faults ds fs).fs.file d.path = some d.content ∧ fs.file d.path = none ∧ Good faults d := by
  induction ds with
  | nil => intro fs _; simp [writeMany_nil]
  | cons d ds ih =>
    intro fs h
    rw [writeMany_cons] at h ⊢
    by_cases hd : (destSpec fs (faults d.path) d).ok = true
    · simp only [hd, if_true] at h ⊢
      obtain ⟨g1, g2, g3, g4, g5⟩ := destSpec_ok hd
      obtain ⟨i1, i2, i3⟩ := ih _ h
      have hnew : (destSpec fs (faults d.path) d).fs.file d.path = some d.content := by
        rw [g5]; simp [FS.set]
      refine ⟨by rw [i1]; rfl, ?_, ?_⟩
      · simp only [List.map_cons, List.nodup_cons]
        refine ⟨?_, i2⟩
        intro hmem
        obtain ⟨d', hd', he⟩ := List.mem_map.mp hmem
        have := (i3 d' hd').2.1
        rw [he, hnew] at this
        cases this
      · intro x hx
        rcases List.mem_cons.mp hx with rfl | hx
        · exact ⟨many_existing cap faults ds _ _ _ hnew, g4, g1, g2, g3⟩
        · obtain ⟨j1, j2, j3⟩ := i3 x hx
          refine ⟨j1, ?_, j3⟩
          cases hfx : fs.file x.path with
          | none => rfl
          | some old => rw [destSpec_existing hfx] at j2; cases j2
    · simp [hd] at h

theorem many_success_conv (cap : Nat) (faults : FaultPlan) (ds : List Dest) : ∀ (fs : FS),
    (ds.map (·.path)).Nodup → (∀ d ∈ ds, fs.file d.path = none ∧ Good faults d) →
    (writeMany cap faults ds fs).ok = true := by
  induction ds with
  | nil => intro fs _ _; simp [writeMany_nil]
  | cons d ds ih =>
    intro fs hn hall
    simp only [List.map_cons, List.nodup_cons] at hn
    obtain ⟨hfile, g1, g2, g3⟩ := hall d (List.mem_cons_self ..)
    have hd : (destSpec fs (faults d.path) d).ok = true := by
      unfold destSpec; simp [g1, g2, g3, hfile]
    rw [writeMany_cons]
    simp only [hd, if_true]
    apply ih _ hn.2
    intro x hx
    refine ⟨?_, (hall x (List.mem_cons_of_mem _ hx)).2⟩
    have hne : x.path ≠ d.path := by
      intro e; exact hn.1 (List.mem_map.mpr ⟨x, hx, e⟩)
    rw [destSpec_other hne]
    exact (hall x (List.mem_cons_of_mem _ hx)).1

/-- anatomy of the loop: a successful prefix, then (on failure) exactly one failing destination; what follows it is
    never looked at -/
theorem many_anatomy (cap : Nat) (faults : FaultPlan) (ds : List Dest) : ∀ (fs : FS),
    (writeMany cap faults ds fs).ok = false →
    ∃ pre d post, ds = pre ++ d :: post ∧
      (writeMany cap faults pre fs).ok = true ∧
      (writeMany cap faults ds fs).announced = pre.map (·.path) ∧
      (destSpec (writeMany cap faults pre fs).fs (faults d.path) d).ok = false ∧
      (writeMany cap faults ds fs).fs = (destSpec (writeMany cap faults pre fs).fs (faults d.path) d).fs := by
  induction ds with
  | nil => intro fs h; simp [writeMany_nil] at h
  | cons d ds ih =>
    intro fs h
    rw [writeMany_cons] at h ⊢
    by_cases hd : (destSpec fs (faults d.path) d).ok = true
    · simp only [hd, if_true] at h ⊢
      obtain ⟨pre, x, post, e, p1, p2, p3, p4⟩ := ih _ h
      refine ⟨d :: pre, x, post, by rw [e]; rfl, ?_, ?_, ?_, ?_⟩
      · rw [writeMany_cons]; simp only [hd, if_true]; exact p1
      · rw [p2]; rfl
      · rw [writeMany_cons]; simp only [hd, if_true]; exact p3
      · rw [writeMany_cons]; simp only [hd, if_true]; exact p4
    · simp only [hd]
      refine ⟨[], d, ds, rfl, rfl, rfl, ?_, rfl⟩
      simp only [writeMany_nil]
      exact Bool.eq_false_iff.mpr hd

/-! ### the property theorems -/

/-- **success_complete.** Exit status 0 ⇒ every planned destination holds exactly its content, was announced,
    did not exist before, and the announcements are exactly the plan, in order. -/
theorem success_complete (cap : Nat) (plan : Plan) (fs : FS) (faults : FaultPlan)
    (h : (run cap plan fs faults).exit = 0) :
    (∀ d ∈ plan.dests, (run cap plan fs faults).fs.file d.path = some d.content ∧
        d.path ∈ (run cap plan fs faults).announced ∧ fs.file d.path = none) ∧
    (run cap plan fs faults).announced = plan.dests.map (·.path) := by
  have hok := (exit_zero_iff cap plan fs faults).mp h
  obtain ⟨_, e2, e3⟩ := run_eq cap plan fs faults
  obtain ⟨m1, _, m3⟩ := many_success cap faults plan.dests fs hok
  rw [e2, e3]
  refine ⟨?_, m1⟩
  intro d hd
  refine ⟨(m3 d hd).1, ?_, (m3 d hd).2.1⟩
  rw [m1]; exact List.mem_map.mpr ⟨d, hd, rfl⟩

/-- **success_iff.** The run succeeds exactly when no destination exists, the destination paths are pairwise
    different, every reporter works and every content fits under its limit. -/
theorem success_iff (cap : Nat) (plan : Plan) (fs : FS) (faults : FaultPlan) :
    (run cap plan fs faults).exit = 0 ↔
      ((plan.dests.map (·.path)).Nodup ∧ ∀ d ∈ plan.dests, fs.file d.path = none ∧ Good faults d) := by
  rw [exit_zero_iff]
  constructor
  · intro h
    obtain ⟨_, m2, m3⟩ := many_success cap faults plan.dests fs h
    exact ⟨m2, fun d hd => ⟨(m3 d hd).2.1, (m3 d hd).2.2⟩⟩
  · intro ⟨hn, hall⟩
    exact many_success_conv cap faults plan.dests fs hn hall

/-- **fail_stop.** A write fault at any offset inside the content of any planned destination (a limit smaller than
    the content — whether it is hit in a write call or only by the final flush) makes the run end with a non-zero
    exit status; so does a failing reporter. -/
theorem fail_stop (cap : Nat) (plan : Plan) (fs : FS) (faults : FaultPlan) (d : Dest) (hd : d ∈ plan.dests)
    (hfault : (∃ k, faults d.path = some k ∧ k < d.content.length) ∨ d.setupOk = false ∨ d.bodyOk = false) :
    (run cap plan fs faults).exit ≠ 0 := by
  intro h
  obtain ⟨_, hall⟩ := (success_iff cap plan fs faults).mp h
  obtain ⟨_, g1, g2, g3⟩ := hall d hd
  rcases hfault with ⟨k, hk, hlt⟩ | hs | hb
  · rw [hk] at g3
    simp [fits] at g3
    omega
  · rw [g1] at hs; cases hs
  · rw [g2] at hb; cases hb

/-- **existing_preserved.** Whatever happens, a file that existed before the run (at a destination or anywhere else)
    is byte-identical afterwards. -/
theorem existing_preserved (cap : Nat) (plan : Plan) (fs : FS) (faults : FaultPlan) (p : Path) (old : Bytes)
    (h : fs.file p = some old) : (run cap plan fs faults).fs.file p = some old := by
  rw [(run_eq cap plan fs faults).2.1]
  exact many_existing cap faults plan.dests fs p old h

theorem existing_untouched (cap : Nat) (plan : Plan) (fs : FS) (faults : FaultPlan) (d : Dest) (old : Bytes)
    (hd : d ∈ plan.dests) (h : fs.file d.path = some old) :
    (run cap plan fs faults).exit ≠ 0 ∧ (run cap plan fs faults).fs.file d.path = some old := by
  refine ⟨?_, existing_preserved cap plan fs faults d.path old h⟩
  intro h0
  have := ((success_iff cap plan fs faults).mp h0).2 d hd
  rw [h] at this
  cases this.1

theorem nothing_else (cap : Nat) (plan : Plan) (fs : FS) (faults : FaultPlan) (p : Path)
    (h : p ∉ plan.dests.map (·.path)) : (run cap plan fs faults).fs.file p = fs.file p := by
  rw [(run_eq cap plan fs faults).2.1]
  exact many_other cap faults plan.dests fs p h

/-- **announced_complete.** In every run — failed ones included — each announced path is a planned destination that
    did not exist before and now holds exactly its content. -/
theorem announced_complete (cap : Nat) (plan : Plan) (fs : FS) (faults : FaultPlan) (p : Path)
    (hp : p ∈ (run cap plan fs faults).announced) :
    ∃ d ∈ plan.dests, d.path = p ∧ (run cap plan fs faults).fs.file p = some d.content ∧ fs.file p = none := by
  obtain ⟨_, e2, e3⟩ := run_eq cap plan fs faults
  rw [e3] at hp
  rw [e2]
  by_cases hok : (writeMany cap faults plan.dests fs).ok = true
  · obtain ⟨m1, _, m3⟩ := many_success cap faults plan.dests fs hok
    rw [m1] at hp
    obtain ⟨d, hd, rfl⟩ := List.mem_map.mp hp
    exact ⟨d, hd, rfl, (m3 d hd).1, (m3 d hd).2.1⟩
  · have hf : (writeMany cap faults plan.dests fs).ok = false := by
      cases h : (writeMany cap faults plan.dests fs).ok <;> simp_all
    obtain ⟨pre, x, post, e, p1, p2, p3, p4⟩ := many_anatomy cap faults plan.dests fs hf
    rw [p2] at hp
    obtain ⟨d, hd, rfl⟩ := List.mem_map.mp hp
    obtain ⟨_, _, m3⟩ := many_success cap faults pre fs p1
    refine ⟨d, by rw [e]; exact List.mem_append_left _ hd, rfl, ?_, (m3 d hd).2.1⟩
    rw [p4]
    exact destSpec_existing (m3 d hd).1

/-- **failure_anatomy.** A failed run is: a prefix `pre` of the plan written completely and announced (in order),
    then one destination `d` that fails and is not announced, then nothing — the destinations after `d` are never
    touched.  The failing destination's path is left as it was found (it existed, or its reporter could not be set
    up, or it is one of the paths just written by `pre`), or it did not exist and now holds exactly the first
    `limit` bytes of its content (everything, if the failure was the reporter's). -/
theorem failure_anatomy (cap : Nat) (plan : Plan) (fs : FS) (faults : FaultPlan)
    (h : (run cap plan fs faults).exit ≠ 0) :
    ∃ pre d post, plan.dests = pre ++ d :: post ∧
      (run cap plan fs faults).announced = pre.map (·.path) ∧
      (∀ x ∈ pre, (run cap plan fs faults).fs.file x.path = some x.content ∧ fs.file x.path = none) ∧
      (∀ p, p ∉ (pre ++ [d]).map (·.path) → (run cap plan fs faults).fs.file p = fs.file p) ∧
      ((run cap plan fs faults).fs.file d.path = (writeMany cap faults pre fs).fs.file d.path ∨
       ((writeMany cap faults pre fs).fs.file d.path = none ∧ fs.file d.path = none ∧
        (run cap plan fs faults).fs.file d.path = some (lim (faults d.path) d.content))) := by
  obtain ⟨_, e2, e3⟩ := run_eq cap plan fs faults
  have hf : (writeMany cap faults plan.dests fs).ok = false := by
    cases hh : (writeMany cap faults plan.dests fs).ok with
    | false => rfl
    | true => exact absurd ((exit_zero_iff cap plan fs faults).mpr hh) h
  obtain ⟨pre, d, post, e, p1, p2, p3, p4⟩ := many_anatomy cap faults plan.dests fs hf
  obtain ⟨_, _, m3⟩ := many_success cap faults pre fs p1
  refine ⟨pre, d, post, e, by rw [e3, p2], ?_, ?_, ?_⟩
  · intro x hx
    rw [e2, p4]
    exact ⟨destSpec_existing (m3 x hx).1, (m3 x hx).2.1⟩
  · intro p hp
    simp only [List.map_append, List.map_cons, List.map_nil, List.mem_append, List.mem_singleton, not_or] at hp
    rw [e2, p4, destSpec_other hp.2]
    exact many_other cap faults pre fs p hp.1
  · rw [e2, p4]
    rcases destSpec_fs _ _ _ with hsame | ⟨hnone, hset⟩
    · left; rw [hsame]
    · right
      refine ⟨hnone, ?_, by rw [hset]; simp [FS.set]⟩
      cases hfd : fs.file d.path with
      | none => rfl
      | some old => rw [many_existing cap faults pre fs _ _ hfd] at hnone; cases hnone

/-- **existing_before_after.** The precise picture around a pre-existing destination `d`, when everything planned
    before it is writable: the destinations before `d` are written completely and announced, the run then fails at
    `d` with exit status 1, `d` keeps its bytes, and nothing after `d` is created or touched. -/
theorem existing_before_after (cap : Nat) (plan : Plan) (fs : FS) (faults : FaultPlan)
    (pre post : List Dest) (d : Dest) (old : Bytes)
    (hplan : plan.dests = pre ++ d :: post) (hold : fs.file d.path = some old)
    (hnodup : (pre.map (·.path)).Nodup) (hpre : ∀ x ∈ pre, fs.file x.path = none ∧ Good faults x) :
    (run cap plan fs faults).exit = 1 ∧
    (run cap plan fs faults).announced = pre.map (·.path) ∧
    (∀ x ∈ pre, (run cap plan fs faults).fs.file x.path = some x.content) ∧
    (run cap plan fs faults).fs.file d.path = some old ∧
    (∀ p, p ∉ pre.map (·.path) → (run cap plan fs faults).fs.file p = fs.file p) := by
  obtain ⟨e1, e2, e3⟩ := run_eq cap plan fs faults
  have hok := many_success_conv cap faults pre fs hnodup hpre
  obtain ⟨m1, _, m3⟩ := many_success cap faults pre fs hok
  have hd : (destSpec (writeMany cap faults pre fs).fs (faults d.path) d).ok = false ∧
      (destSpec (writeMany cap faults pre fs).fs (faults d.path) d).fs = (writeMany cap faults pre fs).fs := by
    have := many_existing cap faults pre fs d.path old hold
    unfold destSpec
    cases hs : d.setupOk <;> simp [this]
  have hall : writeMany cap faults plan.dests fs =
      ⟨(writeMany cap faults pre fs).fs, pre.map (·.path), false⟩ := by
    rw [hplan, writeMany_append]
    simp only [hok, if_true]
    rw [writeMany_cons]
    simp [hd.1, hd.2, m1]
  rw [e1, e2, e3, hall]
  refine ⟨by simp, rfl, fun x hx => (m3 x hx).1, many_existing cap faults pre fs d.path old hold, ?_⟩
  intro p hp
  exact many_other cap faults pre fs p hp

/-- **inputs_only_read_partial.**  Full statement (property text): *journal files, the Git repository and the
    configuration are only read* by the whole program.  The loading phase (toml, winnow parser, walkdir, gix) is not
    modelled; it is the parameter `Loader`.  Under the hypothesis that loading leaves the file system as it is —
    which is what the before/after snapshots (size, mtime, sha256) of the tie check on the real binary for file,
    fs and git input — the whole run changes nothing outside the planned destinations, and a failed load changes
    nothing at all.  What is missing for the full statement: a model of the loaders' file-system effects. -/
theorem inputs_only_read_partial (L : Loader) (hread : ∀ fs, (L.load fs).1 = fs)
    (cap : Nat) (plan : Plan) (fs : FS) (faults : FaultPlan) :
    (∀ p, p ∉ plan.dests.map (·.path) → (cliRun L cap plan fs faults).fs.file p = fs.file p) ∧
    (∀ p old, fs.file p = some old → (cliRun L cap plan fs faults).fs.file p = some old) ∧
    ((L.load fs).2 = false → (cliRun L cap plan fs faults).fs = fs ∧ (cliRun L cap plan fs faults).exit = 1 ∧
        (cliRun L cap plan fs faults).announced = []) := by
  unfold cliRun cliRunV
  cases hl : (L.load fs).2 with
  | false =>
    simp only [if_true, hread]
    exact ⟨fun _ _ => (by first | rfl | trivial), fun _ _ h => h, fun _ => ⟨(by first | rfl | trivial), (by first | rfl | trivial), (by first | rfl | trivial)⟩⟩
  | true =>
    simp only [Bool.true_eq_false, if_false, hread]
    refine ⟨fun p hp => nothing_else cap plan fs faults p hp,
            fun p old h => existing_preserved cap plan fs faults p old h, fun h => by cases h⟩

/-- what a run can depend on: where, the whole content, and whether the reporter works -/
def key (d : Dest) : Path × Bytes × Bool × Bool := (d.path, d.content, d.setupOk, d.bodyOk)

theorem many_chunking_irrelevant (cap₁ cap₂ : Nat) (faults : FaultPlan) : ∀ (ds₁ ds₂ : List Dest),
    ds₁.map key = ds₂.map key → ∀ fs, writeMany cap₁ faults ds₁ fs = writeMany cap₂ faults ds₂ fs := by
  intro ds₁
  induction ds₁ with
  | nil =>
    intro ds₂ h fs
    cases ds₂ with
    | nil => rfl
    | cons b l => simp at h
  | cons a l₁ ih =>
    intro ds₂ h fs
    cases ds₂ with
    | nil => simp at h
    | cons b l₂ =>
      simp only [List.map_cons, List.cons.injEq, key, Prod.mk.injEq] at h
      obtain ⟨⟨h1, h2, h3, h4⟩, hl⟩ := h
      have hspec : destSpec fs (faults a.path) a = destSpec fs (faults b.path) b := by
        unfold destSpec; rw [h1, h2, h3, h4]
      rw [writeMany_cons, writeMany_cons, hspec, h1]
      by_cases hd : (destSpec fs (faults b.path) b).ok = true
      · simp only [hd, if_true]; rw [ih l₂ hl]
      · simp [hd]

/-- **chunking_irrelevant.** The result of a run depends on the destinations' contents only — not on the buffer
    capacity and not on how the reporters cut the content into write calls.  (This is what lets the tie feed the
    model with any chunking of the real content; it is false without the checked flush, see `F4_chunking`.) -/
theorem chunking_irrelevant (cap₁ cap₂ : Nat) (faults : FaultPlan) (p₁ p₂ : Plan) (fs : FS)
    (h : p₁.dests.map key = p₂.dests.map key) :
    (run cap₁ p₁ fs faults).exit = (run cap₂ p₂ fs faults).exit ∧
    (run cap₁ p₁ fs faults).fs = (run cap₂ p₂ fs faults).fs ∧
    (run cap₁ p₁ fs faults).announced = (run cap₂ p₂ fs faults).announced := by
  obtain ⟨a1, a2, a3⟩ := run_eq cap₁ p₁ fs faults
  obtain ⟨b1, b2, b3⟩ := run_eq cap₂ p₂ fs faults
  rw [a1, a2, a3, b1, b2, b3, many_chunking_irrelevant cap₁ cap₂ faults _ _ h fs]
  exact ⟨rfl, rfl, rfl⟩

/-! ### finding F4: the variant without the checked flush (`flushChecked = false`) -/

def b (n : Nat) : Bytes := List.replicate n 0x61

/-- the reproduction of DESIGN.md F4: three pieces of 40 bytes, 8 KiB buffer, file-size limit 10 -/
def f4Plan : Plan := ⟨[⟨"out/p.bal.txt", [b 40, b 40, b 40], true, true⟩], []⟩
def emptyFS : FS := ⟨fun _ => none⟩
def limit10 : FaultPlan := fun _ => some 10

/-- **F4 witness** (`flushChecked = false`): exit status 0, the report is announced, the file holds 10 of 120 bytes. -/
theorem F4_witness :
    (runV false 8192 f4Plan emptyFS limit10).exit = 0 ∧
    (runV false 8192 f4Plan emptyFS limit10).announced = ["out/p.bal.txt"] ∧
    (runV false 8192 f4Plan emptyFS limit10).fs.file "out/p.bal.txt" = some (b 10) := by
  refine ⟨by decide, by decide, by decide⟩

/-- with the checked flush, on the same input: exit status 1, nothing announced, the 10 bytes are left behind -/
theorem F4_fixed :
    (run 8192 f4Plan emptyFS limit10).exit = 1 ∧
    (run 8192 f4Plan emptyFS limit10).announced = [] ∧
    (run 8192 f4Plan emptyFS limit10).fs.file "out/p.bal.txt" = some (b 10) := by
  refine ⟨by decide, by decide, by decide⟩

/-- Without the checked flush the verdict depends on how the content is cut into write calls (same 12 bytes, limit 11,
    4-byte buffer): written in one piece the failure is seen, written in four pieces it is swallowed by `drop`. -/
theorem F4_chunking :
    (runV false 4 ⟨[⟨"f", [b 12], true, true⟩], []⟩ emptyFS (fun _ => some 11)).exit = 1 ∧
    (runV false 4 ⟨[⟨"f", [b 3, b 3, b 3, b 3], true, true⟩], []⟩ emptyFS (fun _ => some 11)).exit = 0 ∧
    (runV false 4 ⟨[⟨"f", [b 3, b 3, b 3, b 3], true, true⟩], []⟩ emptyFS (fun _ => some 11)).fs.file "f" = some (b 11) := by
  refine ⟨by decide, by decide, by decide⟩

/-! ### non-vacuity: the hypotheses of the theorems are satisfiable by non-trivial runs -/

def demoPlan : Plan :=
  ⟨[⟨"o/p.bal.txt", [b 3, b 5], true, true⟩, ⟨"o/p.reg.txt", [b 2, b 9, b 1], true, true⟩],
   [⟨"o/p.identity.txn", [b 4, b 4], true, true⟩]⟩

/-- a fault-free run with a 4-byte buffer (flushes inside writes, a bypassing chunk, a final flush): exit 0 -/
example : (run 4 demoPlan emptyFS (fun _ => none)).exit = 0 ∧
    (run 4 demoPlan emptyFS (fun _ => none)).announced = ["o/p.bal.txt", "o/p.reg.txt", "o/p.identity.txn"] ∧
    (run 4 demoPlan emptyFS (fun _ => none)).fs.file "o/p.reg.txt" = some (b 12) := by
  refine ⟨by decide, by decide, by decide⟩

/-- a fault in the second destination at offset 11 of 12 (it surfaces only at the final flush): the first report is
    complete and announced, the second is truncated and not announced, the export is never created, exit 1 -/
example : (run 4 demoPlan emptyFS (fun p => if p = "o/p.reg.txt" then some 11 else none)).exit = 1 ∧
    (run 4 demoPlan emptyFS (fun p => if p = "o/p.reg.txt" then some 11 else none)).announced = ["o/p.bal.txt"] ∧
    (run 4 demoPlan emptyFS (fun p => if p = "o/p.reg.txt" then some 11 else none)).fs.file "o/p.reg.txt" = some (b 11) ∧
    (run 4 demoPlan emptyFS (fun p => if p = "o/p.reg.txt" then some 11 else none)).fs.file "o/p.identity.txn" = none := by
  refine ⟨by decide, by decide, by decide, by decide⟩

/-- an existing second destination: exit 1, the file keeps its bytes, the first report was written, the export not -/
example : (run 4 demoPlan (emptyFS.set "o/p.reg.txt" (b 7)) (fun _ => none)).exit = 1 ∧
    (run 4 demoPlan (emptyFS.set "o/p.reg.txt" (b 7)) (fun _ => none)).announced = ["o/p.bal.txt"] ∧
    (run 4 demoPlan (emptyFS.set "o/p.reg.txt" (b 7)) (fun _ => none)).fs.file "o/p.reg.txt" = some (b 7) ∧
    (run 4 demoPlan (emptyFS.set "o/p.reg.txt" (b 7)) (fun _ => none)).fs.file "o/p.identity.txn" = none := by
  refine ⟨by decide, by decide, by decide, by decide⟩

end C14
end Tackler
