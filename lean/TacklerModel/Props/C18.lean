import TacklerModel.Lemmas.FilterDef
import TacklerModel.Props.C11
/-!
# C18 — filter definitions mean the same in every encoding and survive re-serialisation

Theorems over `Model/FilterDef.lean` (serde's view of `TxnFilter`/`FilterDefinition` as a JSON value, the armor layer,
base64, UTF-8, the textual description).  JSON *text* ⇄ JSON value is `serde_json`'s: every statement about texts takes
that layer as a parameter `P : String → Option JVal` and holds for every `P`.

**Views of a pattern** (module header of `Model/FilterDef.lean`).  The `re` arguments of the `Filter` leaves hold the *stored* text here:
deserialising pattern `p` stores `wrapStr p = ^(?:p)$`, serialising and describing print `peelStr` of it.
`stored f = mapRe wrapStr f` takes a filter of the *pattern* view of C05 to this view; `eval_stored`: both evaluate alike.

## Statements

* `json_roundtrip` — **the property**: a parsed definition, serialised and parsed again, is the same definition.
  It rests on `fromJson_toJson` (`Normal f` round-trips to syntactic equality) and `fromJson_normal` (whatever is parsed is
  normal).  `json_roundtrip_patterns`: the same in the pattern view, for arbitrary pattern texts that compile, with
  `eval_stored`.  `not_normal_changes`: the normal form is necessary.
* `wrap_once`, `wrap_once_any`, `patterns_wrapped_once`, `rounds_fixed`, `stored_is_whole_match` — after any number of
  rounds the stored text is `wrapStr p` exactly once, applied as one whole-string match.
* `armor_equiv`, `armor_equiv_encoded`, `armor_of_text`, `armored_same_as_plain`, `parseDefinition_armored`,
  `parseDefinition_plain` — armor and plain JSON mean the same, for every text and every JSON text layer.
* `b64_roundtrip`, `b64_canonical`, `b64_rejects_length`, `b64_rejects_symbol`, `b64_rejects_padding_inside`.
* `reject_*` — every malformed class is an error (never `ok`): armor prefix absent / repeated (F7), bad base64, bad UTF-8,
  not JSON, not an object / several variants / unknown variant, a required field absent or given twice, wrong types,
  invalid regex, uuid, number, timestamp.
* `number_unchanged`, `instant_unchanged`, `number_value_unchanged`, `parsed_number_stable`, `parsed_instant_stable`.
* `F7_witness` — under `trim_start_matches` (`fromArmorTrimAll`) a repeated armor prefix is accepted.
-/
namespace Tackler
namespace C18
open FilterDef Regex

/-! ## the twenty variants (how `fromJsonF` reads each) -/

theorem variant_true (c : JVal) : fromJsonF (.obj [("NullaryTRUE", c)]) = (struct0 c).map fun _ => .tt := by
  simp only [fromJsonF, leafOf, String.reduceEq, ↓reduceIte]
theorem variant_false (c : JVal) : fromJsonF (.obj [("NullaryFALSE", c)]) = (struct0 c).map fun _ => .ff := by
  simp only [fromJsonF, leafOf, String.reduceEq, ↓reduceIte]
theorem variant_and (c : JVal) : fromJsonF (.obj [("TxnFilterAND", c)]) = (contentFilters c).map .and := by
  simp only [fromJsonF, ↓reduceIte]
theorem variant_or (c : JVal) : fromJsonF (.obj [("TxnFilterOR", c)]) = (contentFilters c).map .or := by
  simp only [fromJsonF, String.reduceEq, ↓reduceIte]
theorem variant_not (c : JVal) : fromJsonF (.obj [("TxnFilterNOT", c)]) = (contentFilter c).map .not := by
  simp only [fromJsonF, String.reduceEq, ↓reduceIte]

theorem variant_tsBegin (c : JVal) :
    fromJsonF (.obj [("TxnFilterTxnTSBegin", c)]) = (struct1 "begin" c).bind fun v => (tsField v).map .tsBegin := by
  simp only [fromJsonF, leafOf, String.reduceEq, ↓reduceIte]
theorem variant_tsEnd (c : JVal) :
    fromJsonF (.obj [("TxnFilterTxnTSEnd", c)]) = (struct1 "end" c).bind fun v => (tsField v).map .tsEnd := by
  simp only [fromJsonF, leafOf, String.reduceEq, ↓reduceIte]
theorem variant_code (c : JVal) : fromJsonF (.obj [("TxnFilterTxnCode", c)]) = reLeaf .code c := by
  simp only [fromJsonF, leafOf, String.reduceEq, ↓reduceIte]
theorem variant_desc (c : JVal) : fromJsonF (.obj [("TxnFilterTxnDescription", c)]) = reLeaf .desc c := by
  simp only [fromJsonF, leafOf, String.reduceEq, ↓reduceIte]
theorem variant_uuid (c : JVal) :
    fromJsonF (.obj [("TxnFilterTxnUUID", c)]) = (struct1 "uuid" c).bind fun v => (uuidField v).map .uuid := by
  simp only [fromJsonF, leafOf, String.reduceEq, ↓reduceIte]
theorem variant_bbox (c : JVal) :
    fromJsonF (.obj [("TxnFilterBBoxLatLon", c)]) = (struct4 "south" "west" "north" "east" c).bind fun p =>
      (decField p.1).bind fun s => (decField p.2.1).bind fun w =>
      (decField p.2.2.1).bind fun n => (decField p.2.2.2).map fun e => .bbox s w n e := by
  simp only [fromJsonF, leafOf, String.reduceEq, ↓reduceIte]
theorem variant_bbox3 (c : JVal) :
    fromJsonF (.obj [("TxnFilterBBoxLatLonAlt", c)]) = (struct6 "south" "west" "depth" "north" "east" "height" c).bind fun p =>
      (decField p.1).bind fun s => (decField p.2.1).bind fun w => (decField p.2.2.1).bind fun d =>
      (decField p.2.2.2.1).bind fun n => (decField p.2.2.2.2.1).bind fun e =>
      (decField p.2.2.2.2.2).map fun h => .bbox3 s w d n e h := by
  simp only [fromJsonF, leafOf, String.reduceEq, ↓reduceIte]
theorem variant_tags (c : JVal) : fromJsonF (.obj [("TxnFilterTxnTags", c)]) = reLeaf .tags c := by
  simp only [fromJsonF, leafOf, String.reduceEq, ↓reduceIte]
theorem variant_comments (c : JVal) : fromJsonF (.obj [("TxnFilterTxnComments", c)]) = reLeaf .comments c := by
  simp only [fromJsonF, leafOf, String.reduceEq, ↓reduceIte]
theorem variant_postAccount (c : JVal) : fromJsonF (.obj [("TxnFilterPostingAccount", c)]) = reLeaf .postAccount c := by
  simp only [fromJsonF, leafOf, String.reduceEq, ↓reduceIte]
theorem variant_postComment (c : JVal) : fromJsonF (.obj [("TxnFilterPostingComment", c)]) = reLeaf .postComment c := by
  simp only [fromJsonF, leafOf, String.reduceEq, ↓reduceIte]
theorem variant_amountEq (c : JVal) : fromJsonF (.obj [("TxnFilterPostingAmountEqual", c)]) = amountLeaf .postAmountEq c := by
  simp only [fromJsonF, leafOf, String.reduceEq, ↓reduceIte]
theorem variant_amountLess (c : JVal) : fromJsonF (.obj [("TxnFilterPostingAmountLess", c)]) = amountLeaf .postAmountLess c := by
  simp only [fromJsonF, leafOf, String.reduceEq, ↓reduceIte]
theorem variant_amountGreater (c : JVal) :
    fromJsonF (.obj [("TxnFilterPostingAmountGreater", c)]) = amountLeaf .postAmountGreater c := by
  simp only [fromJsonF, leafOf, String.reduceEq, ↓reduceIte]
theorem variant_postCommodity (c : JVal) : fromJsonF (.obj [("TxnFilterPostingCommodity", c)]) = reLeaf .postCommodity c := by
  simp only [fromJsonF, leafOf, String.reduceEq, ↓reduceIte]

/-! ## numbers and instants are unchanged by the text form -/

theorem number_unchanged (d : Dec) (h : DecNormal d) : decOfText d.toString.toList = .ok d := by
  unfold Dec.toString
  rw [String.toList_ofList]
  exact decOfText_toChars d h

theorem number_value_unchanged (d d' : Dec) (h : DecNormal d) (h' : decOfText d.toString.toList = .ok d') : d'.units = d.units := by
  rw [number_unchanged d h] at h'
  cases h'
  rfl

theorem instant_unchanged (ns : Int) (h : Time.instantOk ns = true) : parseTsJson (tsText ns).toList = .ok ns := by
  unfold tsText
  rw [String.toList_ofList]
  exact parseTsJson_tsJsonChars ns h

theorem tsField_normal (v : JVal) (ns : Int) (h : tsField v = .ok ns) : Time.instantOk ns = true := by
  unfold tsField at h
  split at h
  · exact parseTsJson_ok _ _ h
  · cases h

theorem parsed_number_stable (v : JVal) (d : Dec) (h : decField v = .ok d) : decField (.num d.toString) = .ok d ∧ decField (.str d.toString) = .ok d := by
  have hn := decField_normal v d h
  exact ⟨number_unchanged d hn, number_unchanged d hn⟩

theorem parsed_instant_stable (v : JVal) (ns : Int) (h : tsField v = .ok ns) : tsField (.str (tsText ns)) = .ok ns :=
  instant_unchanged ns (tsField_normal v ns h)

/-! ## serialise, then parse: the normal form is a fixed point -/

theorem reLeaf_reObj (mk : String → Filter) (re : String) (h : ReNormal re) : reLeaf mk (reObj re) = .ok (mk re) := by
  obtain ⟨p, rfl, hc⟩ := h
  simp only [reLeaf, reObj, struct1, getField, fieldVals, ↓reduceIte, Outcome.bind, reField, C11.peel_wrap, hc, Outcome.map]

theorem amountLeaf_amountObj (mk : String → Dec → Filter) (re : String) (x : Dec) (h : ReNormal re) (hx : DecNormal x) :
    amountLeaf mk (amountObj re x) = .ok (mk re x) := by
  obtain ⟨p, rfl, hc⟩ := h
  simp only [amountLeaf, amountObj, struct2, getField, fieldVals, String.reduceEq, ↓reduceIte, Outcome.bind, reField,
    C11.peel_wrap, hc, Outcome.map, decField, number_unchanged x hx]

mutual
theorem fromJsonF_toJsonF : ∀ (f : Filter), Normal f → fromJsonF (toJsonF f) = .ok f
  | .tt, _ => by simp only [toJsonF, variant_true, struct0, Outcome.map]
  | .ff, _ => by simp only [toJsonF, variant_false, struct0, Outcome.map]
  | .and fs, h | .or fs, h => by
    simp only [toJsonF, variant_and, variant_or, contentFilters, fieldsFilters, ↓reduceIte, pick1, valFilters,
      fromJsonArr_toJsonList fs h, Outcome.map]
  | .not f, h => by
    simp only [toJsonF, variant_not, contentFilter, fieldsFilter, ↓reduceIte, pick1, fromJsonF_toJsonF f h, Outcome.map]
  | .tsBegin ns, h | .tsEnd ns, h => by
    simp only [toJsonF, variant_tsBegin, variant_tsEnd, struct1, getField, fieldVals, ↓reduceIte, Outcome.bind, tsField,
      instant_unchanged ns h, Outcome.map]
  | .uuid u, h => by
    simp only [toJsonF, variant_uuid, struct1, getField, fieldVals, ↓reduceIte, Outcome.bind, uuidField,
      show uuidParse u.toList = some u.toList from h, String.ofList_toList, Outcome.map]
  | .bbox s w n e, h => by
    simp only [toJsonF, variant_bbox, struct4, getField, fieldVals, String.reduceEq, ↓reduceIte, Outcome.bind, decField,
      number_unchanged _ h.1, number_unchanged _ h.2.1, number_unchanged _ h.2.2.1, number_unchanged _ h.2.2.2, Outcome.map]
  | .bbox3 s w d n e hh, h => by
    simp only [toJsonF, variant_bbox3, struct6, getField, fieldVals, String.reduceEq, ↓reduceIte, Outcome.bind, decField,
      number_unchanged _ h.1, number_unchanged _ h.2.1, number_unchanged _ h.2.2.1, number_unchanged _ h.2.2.2.1,
      number_unchanged _ h.2.2.2.2.1, number_unchanged _ h.2.2.2.2.2, Outcome.map]
  | .code re, h | .desc re, h | .tags re, h | .comments re, h | .postAccount re, h | .postComment re, h
  | .postCommodity re, h => by
    simp only [toJsonF, variant_code, variant_desc, variant_tags, variant_comments, variant_postAccount, variant_postComment,
      variant_postCommodity, reLeaf_reObj _ re h]
  | .postAmountEq re x, h | .postAmountLess re x, h | .postAmountGreater re x, h => by
    simp only [toJsonF, variant_amountEq, variant_amountLess, variant_amountGreater, amountLeaf_amountObj _ re x h.1 h.2]
theorem fromJsonArr_toJsonList : ∀ (fs : List Filter), NormalList fs → fromJsonArr (toJsonList fs) = .ok fs
  | [], _ => rfl
  | f :: fs, h => by
    simp only [toJsonList, fromJsonArr, fromJsonF_toJsonF f h.1, fromJsonArr_toJsonList fs h.2, Outcome.bind, Outcome.map]
end

theorem fromJson_toJson (f : Filter) (h : Normal f) : fromJson (toJson f) = .ok f := by
  simp only [toJson, fromJson, fieldsFilter, ↓reduceIte, pick1, fromJsonF_toJsonF f h]

/-! ## whatever is parsed is in normal form -/

theorem compileFull_ok (s re : String) (h : compileFull s = .ok re) : re = wrapStr s := by
  unfold compileFull at h
  split at h
  · split at h
    · cases h
    · split at h
      · cases h; rfl
      · cases h
  · cases h

theorem reField_normal (v : JVal) (re : String) (h : reField v = .ok re) : ReNormal re := by
  unfold reField at h
  split at h
  · rename_i s
    cases compileFull_ok s re h
    exact ⟨s, rfl, h⟩
  · cases h

theorem uuidField_normal (v : JVal) (u : String) (h : uuidField v = .ok u) : UuidNormal u := by
  unfold uuidField at h
  split at h
  · split at h
    · rename_i s c hc
      cases h
      unfold UuidNormal
      rw [String.toList_ofList]
      exact uuidParse_idem _ _ hc
    · cases h
  · cases h

/-- A filter read through `bind`/`map` is normal if it is normal whenever the steps succeed. -/
theorem bind_normal {α} {x : Outcome α} {g : α → Outcome Filter} {f : Filter} (h : x.bind g = .ok f)
    (hg : ∀ a, x = .ok a → g a = .ok f → Normal f) : Normal f := by
  obtain ⟨a, ha, hf⟩ := (Outcome.bind_ok _ _ _).mp h
  exact hg a ha hf

theorem map_normal {α} {x : Outcome α} {mk : α → Filter} {f : Filter} (h : x.map mk = .ok f)
    (hmk : ∀ a, x = .ok a → Normal (mk a)) : Normal f := by
  obtain ⟨a, ha, rfl⟩ := (Outcome.map_ok _ _ _).mp h
  exact hmk a ha

theorem reLeaf_normal {mk : String → Filter} {content : JVal} {f : Filter} (hmk : ∀ re, ReNormal re → Normal (mk re))
    (h : reLeaf mk content = .ok f) : Normal f :=
  bind_normal h fun v _ h => map_normal h fun re hre => hmk re (reField_normal v re hre)

theorem amountLeaf_normal {mk : String → Dec → Filter} {content : JVal} {f : Filter}
    (hmk : ∀ re x, ReNormal re ∧ DecNormal x → Normal (mk re x)) (h : amountLeaf mk content = .ok f) : Normal f :=
  bind_normal h fun _ _ h => bind_normal h fun re hre h => map_normal h fun x hx =>
    hmk re x ⟨reField_normal _ re hre, decField_normal _ x hx⟩

theorem tsLeaf_normal {mk : Int → Filter} {k : String} {content : JVal} {f : Filter}
    (hmk : ∀ ns, Time.instantOk ns = true → Normal (mk ns))
    (h : ((struct1 k content).bind fun v => (tsField v).map mk) = .ok f) : Normal f :=
  bind_normal h fun v _ h => map_normal h fun ns hns => hmk ns (tsField_normal v ns hns)

theorem leafOf_normal (tag : String) (content : JVal) (f : Filter) (h : leafOf tag content = .ok f) : Normal f := by
  unfold leafOf at h
  refine of_ite_eq h (map_normal · fun _ _ => trivial) fun h => ?_
  refine of_ite_eq h (map_normal · fun _ _ => trivial) fun h => ?_
  refine of_ite_eq h (tsLeaf_normal fun _ h => h) fun h => ?_
  refine of_ite_eq h (tsLeaf_normal fun _ h => h) fun h => ?_
  refine of_ite_eq h (reLeaf_normal fun _ h => h) fun h => ?_
  refine of_ite_eq h (reLeaf_normal fun _ h => h) fun h => ?_
  refine of_ite_eq h (bind_normal · fun v _ h => map_normal h fun u hu => uuidField_normal v u hu) fun h => ?_
  refine of_ite_eq h (fun h => ?_) fun h => ?_
  · exact bind_normal h fun _ _ h => bind_normal h fun s hs h => bind_normal h fun w hw h => bind_normal h fun n hn h =>
      map_normal h fun e he =>
        show _ ∧ _ ∧ _ ∧ _ from ⟨decField_normal _ s hs, decField_normal _ w hw, decField_normal _ n hn, decField_normal _ e he⟩
  refine of_ite_eq h (fun h => ?_) fun h => ?_
  · exact bind_normal h fun _ _ h => bind_normal h fun s hs h => bind_normal h fun w hw h => bind_normal h fun d hd h =>
      bind_normal h fun n hn h => bind_normal h fun e he h => map_normal h fun hh hhh =>
        show _ ∧ _ ∧ _ ∧ _ ∧ _ ∧ _ from ⟨decField_normal _ s hs, decField_normal _ w hw, decField_normal _ d hd,
          decField_normal _ n hn, decField_normal _ e he, decField_normal _ hh hhh⟩
  refine of_ite_eq h (reLeaf_normal fun _ h => h) fun h => ?_
  refine of_ite_eq h (reLeaf_normal fun _ h => h) fun h => ?_
  refine of_ite_eq h (reLeaf_normal fun _ h => h) fun h => ?_
  refine of_ite_eq h (reLeaf_normal fun _ h => h) fun h => ?_
  refine of_ite_eq h (amountLeaf_normal fun _ _ h => h) fun h => ?_
  refine of_ite_eq h (amountLeaf_normal fun _ _ h => h) fun h => ?_
  refine of_ite_eq h (amountLeaf_normal fun _ _ h => h) fun h => ?_
  refine of_ite_eq h (reLeaf_normal fun _ h => h) fun h => ?_
  cases h

theorem fieldsFilters_eq : ∀ (fields : List (String × JVal)), fieldsFilters fields = (fieldVals "txnFilters" fields).map valFilters
  | [] => rfl
  | (k, v) :: rest => by
    simp only [fieldsFilters, fieldVals]
    split <;> simp only [List.map_cons, fieldsFilters_eq rest]

theorem fieldsFilter_eq : ∀ (fields : List (String × JVal)), fieldsFilter fields = (fieldVals "txnFilter" fields).map fromJsonF
  | [] => rfl
  | (k, v) :: rest => by
    simp only [fieldsFilter, fieldVals]
    split <;> simp only [List.map_cons, fieldsFilter_eq rest]

theorem pick1_map_fieldVals {α} (g : JVal → Outcome α) (k : String) (fields : List (String × JVal)) :
    pick1 ((fieldVals k fields).map g) = (getField k fields).bind g := by
  unfold getField
  cases fieldVals k fields with
  | nil => rfl
  | cons v t => cases t <;> rfl

/-- the logic variants read their sub-filters through the same struct rules as every other variant -/
theorem contentFilter_eq (j : JVal) : contentFilter j = (struct1 "txnFilter" j).bind fromJsonF := by
  unfold contentFilter struct1
  split
  · rw [fieldsFilter_eq, pick1_map_fieldVals]
  · rfl
  · rfl

theorem contentFilters_eq (j : JVal) : contentFilters j = (struct1 "txnFilters" j).bind valFilters := by
  unfold contentFilters struct1
  split
  · rw [fieldsFilters_eq, pick1_map_fieldVals]
  · rfl
  · rfl

theorem contentFilters_inv (j : JVal) (fs : List Filter) (h : contentFilters j = .ok fs) : ∃ items, fromJsonArr items = .ok fs := by
  rw [contentFilters_eq] at h
  obtain ⟨v, _, h2⟩ := (Outcome.bind_ok _ _ _).mp h
  unfold valFilters at h2
  split at h2
  · exact ⟨_, h2⟩
  · cases h2

theorem fromJsonF_inv (j : JVal) (f : Filter) (h : fromJsonF j = .ok f) :
    (∃ fs items, f = .and fs ∧ fromJsonArr items = .ok fs) ∨ (∃ fs items, f = .or fs ∧ fromJsonArr items = .ok fs) ∨
    (∃ g v, f = .not g ∧ fromJsonF v = .ok g) ∨ (∃ tag content, leafOf tag content = .ok f) := by
  unfold fromJsonF at h
  split at h
  · rename_i tag content
    refine of_ite_eq h (fun h => ?_) fun h => of_ite_eq h (fun h => ?_) fun h => of_ite_eq h (fun h => ?_) fun h => ?_
    · obtain ⟨fs, h1, rfl⟩ := (Outcome.map_ok _ _ _).mp h
      obtain ⟨items, hi⟩ := contentFilters_inv _ _ h1
      exact Or.inl ⟨fs, items, rfl, hi⟩
    · obtain ⟨fs, h1, rfl⟩ := (Outcome.map_ok _ _ _).mp h
      obtain ⟨items, hi⟩ := contentFilters_inv _ _ h1
      exact Or.inr (Or.inl ⟨fs, items, rfl, hi⟩)
    · obtain ⟨g, h1, rfl⟩ := (Outcome.map_ok _ _ _).mp h
      rw [contentFilter_eq] at h1
      obtain ⟨v, _, hv⟩ := (Outcome.bind_ok _ _ _).mp h1
      exact Or.inr (Or.inr (Or.inl ⟨g, v, rfl, hv⟩))
    · exact Or.inr (Or.inr (Or.inr ⟨tag, content, h⟩))
  · cases h

theorem fromJsonArr_inv (items : List JVal) (f : Filter) (fs : List Filter) (h : fromJsonArr items = .ok (f :: fs)) :
    ∃ v vs, fromJsonF v = .ok f ∧ fromJsonArr vs = .ok fs := by
  cases items with
  | nil => cases h
  | cons v vs =>
    simp only [fromJsonArr] at h
    obtain ⟨g, hg, h2⟩ := (Outcome.bind_ok _ _ _).mp h
    obtain ⟨gs, hgs, h3⟩ := (Outcome.map_ok _ _ _).mp h2
    cases h3
    exact ⟨v, vs, hg, hgs⟩

mutual
/-- **whatever `fromJsonF` accepts is in normal form**: by `fromJsonF_inv` a logic variant was read from sub-filters that
    were accepted, and everything else was read by `leafOf` -/
theorem normal_of_fromJsonF : ∀ (f : Filter) (j : JVal), fromJsonF j = .ok f → Normal f
  | .and fs, j, h => by
    rcases fromJsonF_inv j _ h with ⟨_, items, e, hi⟩ | ⟨_, _, e, _⟩ | ⟨_, _, e, _⟩ | ⟨tag, content, hl⟩
    · cases e; exact normal_of_fromJsonArr fs items hi
    · cases e
    · cases e
    · exact leafOf_normal tag content _ hl
  | .or fs, j, h => by
    rcases fromJsonF_inv j _ h with ⟨_, _, e, _⟩ | ⟨_, items, e, hi⟩ | ⟨_, _, e, _⟩ | ⟨tag, content, hl⟩
    · cases e
    · cases e; exact normal_of_fromJsonArr fs items hi
    · cases e
    · exact leafOf_normal tag content _ hl
  | .not g, j, h => by
    rcases fromJsonF_inv j _ h with ⟨_, _, e, _⟩ | ⟨_, _, e, _⟩ | ⟨_, v, e, hv⟩ | ⟨tag, content, hl⟩
    · cases e
    · cases e
    · cases e; exact normal_of_fromJsonF g v hv
    · exact leafOf_normal tag content _ hl
  | .tt, j, h | .ff, j, h | .tsBegin _, j, h | .tsEnd _, j, h | .code _, j, h | .desc _, j, h | .uuid _, j, h
  | .bbox _ _ _ _, j, h | .bbox3 _ _ _ _ _ _, j, h | .tags _, j, h | .comments _, j, h | .postAccount _, j, h
  | .postComment _, j, h | .postAmountEq _ _, j, h | .postAmountLess _ _, j, h | .postAmountGreater _ _, j, h
  | .postCommodity _, j, h => by
    rcases fromJsonF_inv j _ h with ⟨_, _, e, _⟩ | ⟨_, _, e, _⟩ | ⟨_, _, e, _⟩ | ⟨tag, content, hl⟩
    · cases e
    · cases e
    · cases e
    · exact leafOf_normal tag content _ hl
theorem normal_of_fromJsonArr : ∀ (fs : List Filter) (items : List JVal), fromJsonArr items = .ok fs → NormalList fs
  | [], _, _ => trivial
  | f :: fs, items, h => by
    obtain ⟨v, vs, hv, hvs⟩ := fromJsonArr_inv items f fs h
    exact ⟨normal_of_fromJsonF f v hv, normal_of_fromJsonArr fs vs hvs⟩
end

theorem fromJson_inv (j : JVal) (f : Filter) (h : fromJson j = .ok f) : ∃ v, fromJsonF v = .ok f := by
  unfold fromJson at h
  split at h
  · rw [fieldsFilter_eq, pick1_map_fieldVals] at h
    obtain ⟨v, _, hv⟩ := (Outcome.bind_ok _ _ _).mp h
    exact ⟨v, hv⟩
  · exact ⟨_, h⟩
  · cases h

theorem fromJson_normal (j : JVal) (f : Filter) (h : fromJson j = .ok f) : Normal f := by
  obtain ⟨v, hv⟩ := fromJson_inv j f h
  exact normal_of_fromJsonF f v hv

/-! ## the property -/

/-- **C18 main theorem.**  Serialising a parsed definition and parsing it again yields the very same definition:
    identical behaviour under every matcher, identical description in every zone. -/
theorem json_roundtrip (j : JVal) (f : Filter) (h : fromJson j = .ok f) :
    ∃ f', fromJson (toJson f) = .ok f' ∧ f' = f ∧
      (∀ (m : String → String → Bool) (t : Txn), Filter.eval m f' t = Filter.eval m f t) ∧
      (∀ off : Int, describe off f' = describe off f) :=
  ⟨f, fromJson_toJson f (fromJson_normal j f h), rfl, fun _ _ => rfl, fun _ => rfl⟩

theorem reserialise_fixed (j : JVal) (f : Filter) (h : fromJson j = .ok f) :
    (fromJson (toJson f)).map toJson = .ok (toJson f) := by
  rw [fromJson_toJson f (fromJson_normal j f h)]; rfl

/-- any number of serialise / parse rounds -/
def roundN : Nat → Filter → Outcome Filter
  | 0, f => .ok f
  | n + 1, f => (roundN n f).bind fun g => fromJson (toJson g)

theorem rounds_fixed (n : Nat) (f : Filter) (h : Normal f) : roundN n f = .ok f := by
  induction n with
  | zero => rfl
  | succ n ih => simp only [roundN, ih, Outcome.bind, fromJson_toJson f h]

/-! ## the pattern view of C05 -/

/-- `new_full_haystack_regex(pat).is_match(hay)` (the matcher the drivers use for C05: `Ops.regexMatch`) -/
def fullMatch (pat hay : String) : Bool :=
  match newFullHaystack pat with
  | some r => search r hay.toList
  | none => false

theorem storedMatch_wrap (p hay : String) : storedMatch (wrapStr p) hay = fullMatch p hay := by
  unfold storedMatch fullMatch newFullHaystack
  rfl

mutual
/-- Evaluation looks at a regex field only through the matcher: renaming the patterns by `g` and matching with `m` is
    matching the original patterns with any `m'` that agrees with `m ∘ g`. -/
theorem eval_mapRe {m m' : String → String → Bool} {g : String → String} (h : ∀ p, m (g p) = m' p) :
    ∀ (f : Filter) (t : Txn), Filter.eval m (mapRe g f) t = Filter.eval m' f t
  | .and fs, t => by simp only [mapRe, Filter.eval, evalAll_mapRe h fs t]
  | .or fs, t => by simp only [mapRe, Filter.eval, evalAny_mapRe h fs t]
  | .not f, t => by simp only [mapRe, Filter.eval, eval_mapRe h f t]
  | .tt, _ | .ff, _ | .tsBegin _, _ | .tsEnd _, _ | .uuid _, _ | .bbox _ _ _ _, _ | .bbox3 _ _ _ _ _ _, _ => rfl
  | .code _, _ | .desc _, _ | .tags _, _ | .comments _, _ | .postAccount _, _ | .postComment _, _ | .postCommodity _, _
  | .postAmountEq _ _, _ | .postAmountLess _ _, _ | .postAmountGreater _ _, _ => by simp only [mapRe, Filter.eval, h]
theorem evalAll_mapRe {m m' : String → String → Bool} {g : String → String} (h : ∀ p, m (g p) = m' p) :
    ∀ (fs : List Filter) (t : Txn), Filter.evalAll m (mapReList g fs) t = Filter.evalAll m' fs t
  | [], _ => rfl
  | f :: fs, t => by simp only [mapReList, Filter.evalAll, eval_mapRe h f t, evalAll_mapRe h fs t]
theorem evalAny_mapRe {m m' : String → String → Bool} {g : String → String} (h : ∀ p, m (g p) = m' p) :
    ∀ (fs : List Filter) (t : Txn), Filter.evalAny m (mapReList g fs) t = Filter.evalAny m' fs t
  | [], _ => rfl
  | f :: fs, t => by simp only [mapReList, Filter.evalAny, eval_mapRe h f t, evalAny_mapRe h fs t]
end

theorem storedMatch_wrapStr (p : String) : storedMatch (wrapStr p) = fullMatch p := funext (storedMatch_wrap p)

/-- a pattern-view filter and its stored form select the same transactions -/
theorem eval_stored : ∀ (f : Filter) (t : Txn), Filter.eval storedMatch (stored f) t = Filter.eval fullMatch f t :=
  eval_mapRe storedMatch_wrapStr

theorem evalAll_stored : ∀ (fs : List Filter) (t : Txn),
    Filter.evalAll storedMatch (mapReList wrapStr fs) t = Filter.evalAll fullMatch fs t :=
  evalAll_mapRe storedMatch_wrapStr

theorem evalAny_stored : ∀ (fs : List Filter) (t : Txn),
    Filter.evalAny storedMatch (mapReList wrapStr fs) t = Filter.evalAny fullMatch fs t :=
  evalAny_mapRe storedMatch_wrapStr

/-- the pattern compiles once wrapped (inside the modelled subset) -/
def PatOk (p : String) : Prop := compileFull p = .ok (wrapStr p)

mutual
/-- a pattern-view filter whose leaves can be written down in a definition -/
def NormalP : Filter → Prop
  | .and fs => NormalPList fs
  | .or fs => NormalPList fs
  | .not f => NormalP f
  | .tsBegin ns => Time.instantOk ns = true
  | .tsEnd ns => Time.instantOk ns = true
  | .code re => PatOk re
  | .desc re => PatOk re
  | .tags re => PatOk re
  | .comments re => PatOk re
  | .postAccount re => PatOk re
  | .postComment re => PatOk re
  | .postCommodity re => PatOk re
  | .postAmountEq re x => PatOk re ∧ DecNormal x
  | .postAmountLess re x => PatOk re ∧ DecNormal x
  | .postAmountGreater re x => PatOk re ∧ DecNormal x
  | .uuid u => UuidNormal u
  | .bbox s w n e => DecNormal s ∧ DecNormal w ∧ DecNormal n ∧ DecNormal e
  | .bbox3 s w d n e h => DecNormal s ∧ DecNormal w ∧ DecNormal d ∧ DecNormal n ∧ DecNormal e ∧ DecNormal h
  | .tt => True
  | .ff => True
def NormalPList : List Filter → Prop
  | [] => True
  | f :: fs => NormalP f ∧ NormalPList fs
end

theorem reNormal_wrap (p : String) (h : PatOk p) : ReNormal (wrapStr p) := ⟨p, rfl, h⟩

mutual
theorem normal_stored : ∀ (f : Filter), NormalP f → Normal (mapRe wrapStr f)
  | .and fs, h | .or fs, h => normalList_stored fs h
  | .not f, h => normal_stored f h
  | .tt, h | .ff, h | .tsBegin _, h | .tsEnd _, h | .uuid _, h | .bbox _ _ _ _, h | .bbox3 _ _ _ _ _ _, h => h
  | .code re, h | .desc re, h | .tags re, h | .comments re, h | .postAccount re, h | .postComment re, h
  | .postCommodity re, h => reNormal_wrap re h
  | .postAmountEq re _, h | .postAmountLess re _, h | .postAmountGreater re _, h => ⟨reNormal_wrap re h.1, h.2⟩
theorem normalList_stored : ∀ (fs : List Filter), NormalPList fs → NormalList (mapReList wrapStr fs)
  | [], _ => trivial
  | f :: fs, h => ⟨normal_stored f h.1, normalList_stored fs h.2⟩
end

/-- **round trip in the pattern view, for arbitrary pattern texts** (also ones that contain `^`, `$`, `^(?:` … `)$`):
    the stored form of the filter is a fixed point of serialise-then-parse, and it selects exactly what the
    pattern-view filter selects under whole-string matching -/
theorem json_roundtrip_patterns (f : Filter) (h : NormalP f) :
    fromJson (toJson (stored f)) = .ok (stored f) ∧
    ∀ t : Txn, Filter.eval storedMatch (stored f) t = Filter.eval fullMatch f t :=
  ⟨fromJson_toJson _ (normal_stored f h), eval_stored f⟩

/-- what is written out for the pattern of a code filter is the user's own text — nothing added, nothing peeled off it,
    even when the text itself looks like the wrapper (every regex leaf is written by the same `reObj`) -/
theorem serialised_pattern_is_users (p : String) :
    toJsonF (stored (.code p)) = .obj [("TxnFilterTxnCode", .obj [("regex", .str p)])] := by
  simp only [stored, mapRe, toJsonF, reObj, C11.peel_wrap]

theorem serialised_pattern_is_users_wrapped (p : String) :
    toJsonF (stored (.code (wrapStr p))) = .obj [("TxnFilterTxnCode", .obj [("regex", .str (wrapStr p))])] :=
  serialised_pattern_is_users (wrapStr p)

/-- what is read for pattern `p` of a code filter is stored as `^(?:p)$` -/
theorem parsed_pattern_is_wrapped (p : String) (f : Filter)
    (h : fromJsonF (.obj [("TxnFilterTxnCode", .obj [("regex", .str p)])]) = .ok f) : f = .code (wrapStr p) := by
  rw [variant_code] at h
  simp only [reLeaf, struct1, getField, fieldVals, if_true, reField, Outcome.bind] at h
  obtain ⟨re, hre, rfl⟩ := (Outcome.map_ok _ _ _).mp h
  rw [compileFull_ok p re hre]

/-- every stored pattern is applied as **one whole-string match** of the pattern the user wrote (inside the subset) -/
theorem stored_is_whole_match (p : String) (r : Regex) (hay : String) (hp : parse p = some r) :
    storedMatch (wrapStr p) hay = true ↔ FullMatch r hay.toList := by
  unfold storedMatch
  rw [C11.parse_wrap p r hp]
  simp only
  rw [C11.matcher_sound, C11.wrap_is_full]
  rfl

/-! ## anchoring is neither lost nor compounded -/

/-- the stored text after one serialise / parse round -/
def reround (src : String) : String := wrapStr (peelStr src)

def iter {α} (g : α → α) : Nat → α → α
  | 0, a => a
  | n + 1, a => g (iter g n a)

/-- after any number of rounds the stored text of pattern `p` is `wrapStr p` — for every `p`, including
    patterns that themselves contain `^(?:` … `)$` -/
theorem wrap_once (p : String) (n : Nat) : iter reround n (wrapStr p) = wrapStr p := by
  induction n with
  | zero => rfl
  | succ n ih => simp only [iter, ih, reround, C11.peel_wrap]

/-- an arbitrary stored text is in wrapped form after the first round and stays as it is from then on -/
theorem wrap_once_any (src : String) (n : Nat) : iter reround (n + 1) src = wrapStr (peelStr src) := by
  induction n with
  | zero => rfl
  | succ n ih => rw [iter, ih]; simp only [reround, C11.peel_wrap]

theorem wrap_not_compounded (p : String) : reround (wrapStr (wrapStr p)) = wrapStr (wrapStr p) := by
  simp only [reround, C11.peel_wrap]

mutual
theorem patterns_of_normal : ∀ (f : Filter), Normal f → ∀ re ∈ patterns f, ReNormal re
  | .and fs, h, re, hre | .or fs, h, re, hre => patternsList_of_normal fs h re hre
  | .not f, h, re, hre => patterns_of_normal f h re hre
  | .tt, _, _, hre | .ff, _, _, hre | .tsBegin _, _, _, hre | .tsEnd _, _, _, hre | .uuid _, _, _, hre | .bbox _ _ _ _, _, _, hre
  | .bbox3 _ _ _ _ _ _, _, _, hre => nomatch hre
  | .code _, h, _, hre | .desc _, h, _, hre | .tags _, h, _, hre | .comments _, h, _, hre | .postAccount _, h, _, hre
  | .postComment _, h, _, hre | .postCommodity _, h, _, hre => by cases List.mem_singleton.mp hre; exact h
  | .postAmountEq _ _, h, _, hre | .postAmountLess _ _, h, _, hre | .postAmountGreater _ _, h, _, hre => by
    cases List.mem_singleton.mp hre; exact h.1
theorem patternsList_of_normal : ∀ (fs : List Filter), NormalList fs → ∀ re ∈ patternsList fs, ReNormal re
  | [], _, _, hre => nomatch hre
  | f :: fs, h, re, hre => by
    rcases List.mem_append.mp hre with hre | hre
    · exact patterns_of_normal f h.1 re hre
    · exact patternsList_of_normal fs h.2 re hre
end

/-- in every parsed definition every stored pattern is the wrapper applied **exactly once** to the text that is written
    out again, and a further round leaves it untouched -/
theorem patterns_wrapped_once (j : JVal) (f : Filter) (h : fromJson j = .ok f) :
    ∀ re ∈ patterns f, re = wrapStr (peelStr re) ∧ reround re = re ∧ compileFull (peelStr re) = .ok re := by
  intro re hre
  obtain ⟨p, rfl, hc⟩ := patterns_of_normal f (fromJson_normal j f h) re hre
  simp only [reround, C11.peel_wrap]
  exact ⟨trivial, trivial, hc⟩

/-! ## armor -/

/-- an armored definition means what its payload means -/
theorem armor_equiv (P : String → Option JVal) (e : List Char) (bytes : List UInt8) (s : List Char)
    (hb : b64decode e = some bytes) (hu : utf8decode bytes = some s) :
    fromArmor P (String.ofList (armorPrefix ++ e)) = fromJsonStr P (String.ofList s) := by
  unfold fromArmor
  rw [String.toList_ofList, stripPrefix_append]
  simp only [fromPayload, hb, hu]

/-- the armor of a text, as a user produces it (`base64:` + standard base64 of the UTF-8 bytes), is read as that text -/
theorem armor_equiv_encoded (P : String → Option JVal) (bytes : List UInt8) (s : List Char) (hu : utf8decode bytes = some s) :
    fromArmor P (String.ofList (armorPrefix ++ b64encode bytes)) = fromJsonStr P (String.ofList s) :=
  armor_equiv P _ bytes s (b64decode_encode bytes) hu

/-- **armored ≡ plain, for every text**: the armor of `s` is read as `s` -/
theorem armor_of_text (P : String → Option JVal) (s : String) : fromArmor P (armorOf s) = fromJsonStr P s := by
  unfold armorOf
  rw [armor_equiv_encoded P _ s.toList (utf8decode_encode s.toList), String.ofList_toList]

theorem isArmored_armor (e : List Char) : isArmored (String.ofList (armorPrefix ++ e)) = true := by
  unfold isArmored
  rw [String.toList_ofList]
  simp [armorPrefix, List.isPrefixOf]

/-- the command line's dispatch: armored text goes through `from_armor` … -/
theorem parseDefinition_armored (P : String → Option JVal) (e : List Char) (bytes : List UInt8) (s : List Char)
    (hb : b64decode e = some bytes) (hu : utf8decode bytes = some s) :
    parseDefinition P (String.ofList (armorPrefix ++ e)) = fromJsonStr P (String.ofList s) := by
  unfold parseDefinition
  rw [isArmored_armor, if_pos rfl]
  exact armor_equiv P e bytes s hb hu

theorem parseDefinition_armorOf (P : String → Option JVal) (s : String) : parseDefinition P (armorOf s) = fromJsonStr P s := by
  unfold armorOf
  rw [parseDefinition_armored P _ _ s.toList (b64decode_encode _) (utf8decode_encode s.toList), String.ofList_toList]

/-- … everything else is JSON text -/
theorem parseDefinition_plain (P : String → Option JVal) (s : String) (h : isArmored s = false) :
    parseDefinition P s = fromJsonStr P s := by
  unfold parseDefinition
  rw [h]; rfl

theorem armored_same_as_plain (P : String → Option JVal) (s : String) (h : isArmored s = false) :
    parseDefinition P (armorOf s) = parseDefinition P s := by
  rw [parseDefinition_armorOf, parseDefinition_plain P s h]

/-! ## base64 -/

theorem b64_roundtrip (bs : List UInt8) : b64decode (b64encode bs) = some bs := b64decode_encode bs

/-- the decoder accepts canonical encodings only -/
theorem b64_canonical (e : List Char) (bs : List UInt8) (h : b64decode e = some bs) : b64encode bs = e :=
  b64encode_decode e bs h

theorem b64_rejects_length (e : List Char) (h : e.length % 4 ≠ 0) : b64decode e = none := by
  cases hd : b64decode e with
  | none => rfl
  | some bs => exact absurd (b64decode_length e bs hd) h

theorem b64_rejects_symbol (e : List Char) (c : Char) (hc : c ∈ e) (h1 : b64val c = none) (h2 : c ≠ '=') : b64decode e = none := by
  cases hd : b64decode e with
  | none => rfl
  | some bs =>
    rcases b64decode_symbols e bs hd c hc with h | h
    · rw [h1] at h; cases h
    · exact absurd h h2

theorem cons_eq_append_pad {q : Char} {l x y : List Char} (hq : q ≠ '=') (h : q :: l = x ++ '=' :: y) :
    ∃ x', x = q :: x' ∧ l = x' ++ '=' :: y := by
  cases x with
  | nil => exact absurd (List.cons.inj h).1 hq
  | cons a x' =>
    obtain ⟨rfl, h'⟩ := List.cons.inj h
    exact ⟨x', rfl, h'⟩

theorem b64encode_pad_end : ∀ (bs : List UInt8) (x y : List Char), b64encode bs = x ++ '=' :: y → y = [] ∨ y = ['=']
  | [], x, y, h => by cases x <;> cases h
  | [a], x, y, h => by
    obtain ⟨s1, _, _, _⟩ := sextets_lt a 0 0
    obtain ⟨_, rfl, h1⟩ := cons_eq_append_pad (b64chr_ne_pad _ s1) h
    obtain ⟨x2, rfl, h2⟩ := cons_eq_append_pad (b64chr_ne_pad _ (by have := a.toNat_lt; omega)) h1
    match x2, h2 with
    | [], h2 => exact Or.inr (List.cons.inj h2).2.symm
    | [_], h2 => exact Or.inl (List.cons.inj (List.cons.inj h2).2).2.symm
    | _ :: _ :: t, h2 => cases t <;> cases (List.cons.inj (List.cons.inj h2).2).2
  | [a, b], x, y, h => by
    obtain ⟨s1, s2, _, _⟩ := sextets_lt a b 0
    obtain ⟨_, rfl, h1⟩ := cons_eq_append_pad (b64chr_ne_pad _ s1) h
    obtain ⟨_, rfl, h2⟩ := cons_eq_append_pad (b64chr_ne_pad _ s2) h1
    obtain ⟨x3, rfl, h3⟩ := cons_eq_append_pad (b64chr_ne_pad _ (by have := b.toNat_lt; omega)) h2
    match x3, h3 with
    | [], h3 => exact Or.inl (List.cons.inj h3).2.symm
    | _ :: t, h3 => cases t <;> cases (List.cons.inj h3).2
  | a :: b :: c :: rest, x, y, h => by
    obtain ⟨s1, s2, s3, s4⟩ := sextets_lt a b c
    obtain ⟨_, rfl, h1⟩ := cons_eq_append_pad (b64chr_ne_pad _ s1) h
    obtain ⟨_, rfl, h2⟩ := cons_eq_append_pad (b64chr_ne_pad _ s2) h1
    obtain ⟨_, rfl, h3⟩ := cons_eq_append_pad (b64chr_ne_pad _ s3) h2
    obtain ⟨x4, rfl, h4⟩ := cons_eq_append_pad (b64chr_ne_pad _ s4) h3
    exact b64encode_pad_end rest x4 y h4

/-- padding is accepted only as the last one or two characters -/
theorem b64_rejects_padding_inside (x y : List Char) (h : y ≠ [] ∧ y ≠ ['=']) : b64decode (x ++ '=' :: y) = none := by
  cases hd : b64decode (x ++ '=' :: y) with
  | none => rfl
  | some bs =>
    rcases b64encode_pad_end bs x y (b64encode_decode _ bs hd) with e | e
    · exact absurd e h.1
    · exact absurd e h.2

/-! ## malformed input is rejected -/

theorem reject_bad_prefix (P : String → Option JVal) (s : String) (h : isArmored s = false) : fromArmor P s = .err := by
  unfold fromArmor stripPrefix
  unfold isArmored at h
  rw [h]; rfl

/-- a repeated armor prefix is malformed armor, whatever follows (F7: `strip_prefix` removes the prefix once) -/
theorem reject_repeated_prefix (P : String → Option JVal) (e : List Char) :
    fromArmor P (String.ofList (armorPrefix ++ (armorPrefix ++ e))) = .err := by
  have hb : b64decode (armorPrefix ++ e) = none :=
    b64_rejects_symbol (armorPrefix ++ e) ':' (by simp [armorPrefix]) (by decide) (by decide)
  unfold fromArmor
  rw [String.toList_ofList, stripPrefix_append]
  simp only [fromPayload, hb]

theorem reject_bad_base64 (P : String → Option JVal) (e : List Char) (h : b64decode e = none) :
    fromArmor P (String.ofList (armorPrefix ++ e)) = .err := by
  unfold fromArmor
  rw [String.toList_ofList, stripPrefix_append]
  simp only [fromPayload, h]

theorem reject_bad_utf8 (P : String → Option JVal) (e : List Char) (bytes : List UInt8) (hb : b64decode e = some bytes)
    (h : utf8decode bytes = none) : fromArmor P (String.ofList (armorPrefix ++ e)) = .err := by
  unfold fromArmor
  rw [String.toList_ofList, stripPrefix_append]
  simp only [fromPayload, hb, h]

theorem reject_not_json (P : String → Option JVal) (s : String) (h : P s = none) : fromJsonStr P s = .err := by
  unfold fromJsonStr; rw [h]

def variantNames : List String :=
  ["NullaryTRUE", "NullaryFALSE", "TxnFilterAND", "TxnFilterOR", "TxnFilterNOT", "TxnFilterTxnTSBegin", "TxnFilterTxnTSEnd",
   "TxnFilterTxnCode", "TxnFilterTxnDescription", "TxnFilterTxnUUID", "TxnFilterBBoxLatLon", "TxnFilterBBoxLatLonAlt",
   "TxnFilterTxnTags", "TxnFilterTxnComments", "TxnFilterPostingAccount", "TxnFilterPostingComment",
   "TxnFilterPostingAmountEqual", "TxnFilterPostingAmountLess", "TxnFilterPostingAmountGreater", "TxnFilterPostingCommodity"]

theorem reject_unknown_variant (tag : String) (content : JVal) (h : tag ∉ variantNames) :
    fromJsonF (.obj [(tag, content)]) = .err := by
  simp only [variantNames, List.mem_cons, List.not_mem_nil, or_false, not_or] at h
  obtain ⟨h1, h2, h3, h4, h5, h6, h7, h8, h9, h10, h11, h12, h13, h14, h15, h16, h17, h18, h19, h20⟩ := h
  simp only [fromJsonF, leafOf, if_neg h1, if_neg h2, if_neg h3, if_neg h4, if_neg h5, if_neg h6, if_neg h7, if_neg h8, if_neg h9,
    if_neg h10, if_neg h11, if_neg h12, if_neg h13, if_neg h14, if_neg h15, if_neg h16, if_neg h17, if_neg h18, if_neg h19, if_neg h20]

/-- a filter must be an object with exactly one entry: no entry, several variants, or anything that is not an object is an error -/
theorem reject_not_single_variant (j : JVal) (h : ∀ tag content, j ≠ .obj [(tag, content)]) : fromJsonF j = .err := by
  unfold fromJsonF
  split
  · rename_i tag content; exact absurd rfl (h tag content)
  · rfl

theorem reject_two_variants (a b : String × JVal) (rest : List (String × JVal)) : fromJsonF (.obj (a :: b :: rest)) = .err :=
  reject_not_single_variant _ (by intro tag content e; simp at e)

theorem reject_bare_string (s : String) : fromJsonF (.str s) = .err := rfl

theorem err_bind {α β} (f : α → Outcome β) : (Outcome.err : Outcome α).bind f = .err := rfl

theorem err_map {α β} (f : α → β) : (Outcome.err : Outcome α).map f = .err := rfl

/-- `getField` yields a value or an error, never `undef`: a later error is the result whatever this field holds -/
theorem getField_bind_err {β} (k : String) (fields : List (String × JVal)) :
    ((getField k fields).bind fun _ => (Outcome.err : Outcome β)) = .err := by
  unfold getField
  split <;> rfl

theorem getField_count (k : String) (fields : List (String × JVal)) (h : (fieldVals k fields).length ≠ 1) :
    getField k fields = .err := by
  unfold getField
  split
  · rename_i v hv; rw [hv] at h; simp at h
  · rfl

theorem pick1_count {α} (l : List (Outcome α)) (h : l.length ≠ 1) : pick1 l = .err := by
  unfold pick1
  split
  · simp at h
  · rfl

/-- (variant, field of its struct) -/
def requiredFields : List (String × String) :=
  [("TxnFilterAND", "txnFilters"), ("TxnFilterOR", "txnFilters"), ("TxnFilterNOT", "txnFilter"),
   ("TxnFilterTxnTSBegin", "begin"), ("TxnFilterTxnTSEnd", "end"), ("TxnFilterTxnCode", "regex"),
   ("TxnFilterTxnDescription", "regex"), ("TxnFilterTxnUUID", "uuid"), ("TxnFilterTxnTags", "regex"),
   ("TxnFilterTxnComments", "regex"), ("TxnFilterPostingAccount", "regex"), ("TxnFilterPostingComment", "regex"),
   ("TxnFilterPostingCommodity", "regex"),
   ("TxnFilterPostingAmountEqual", "regex"), ("TxnFilterPostingAmountEqual", "amount"),
   ("TxnFilterPostingAmountLess", "regex"), ("TxnFilterPostingAmountLess", "amount"),
   ("TxnFilterPostingAmountGreater", "regex"), ("TxnFilterPostingAmountGreater", "amount"),
   ("TxnFilterBBoxLatLon", "south"), ("TxnFilterBBoxLatLon", "west"), ("TxnFilterBBoxLatLon", "north"), ("TxnFilterBBoxLatLon", "east"),
   ("TxnFilterBBoxLatLonAlt", "south"), ("TxnFilterBBoxLatLonAlt", "west"), ("TxnFilterBBoxLatLonAlt", "depth"),
   ("TxnFilterBBoxLatLonAlt", "north"), ("TxnFilterBBoxLatLonAlt", "east"), ("TxnFilterBBoxLatLonAlt", "height")]

/-- **a required field that is missing, or present more than once, makes the definition an error** — for every
    variant and every field of its struct -/
theorem reject_field_count (tag k : String) (fields : List (String × JVal)) (hk : (tag, k) ∈ requiredFields)
    (h : (fieldVals k fields).length ≠ 1) : fromJsonF (.obj [(tag, .obj fields)]) = .err := by
  simp only [requiredFields, List.mem_cons, Prod.mk.injEq, List.not_mem_nil, or_false] at hk
  rcases hk with ⟨rfl, rfl⟩ | ⟨rfl, rfl⟩ | ⟨rfl, rfl⟩ | ⟨rfl, rfl⟩ | ⟨rfl, rfl⟩ | ⟨rfl, rfl⟩ | ⟨rfl, rfl⟩ | ⟨rfl, rfl⟩ | ⟨rfl, rfl⟩ |
    ⟨rfl, rfl⟩ | ⟨rfl, rfl⟩ | ⟨rfl, rfl⟩ | ⟨rfl, rfl⟩ | ⟨rfl, rfl⟩ | ⟨rfl, rfl⟩ | ⟨rfl, rfl⟩ | ⟨rfl, rfl⟩ | ⟨rfl, rfl⟩ | ⟨rfl, rfl⟩ |
    ⟨rfl, rfl⟩ | ⟨rfl, rfl⟩ | ⟨rfl, rfl⟩ | ⟨rfl, rfl⟩ | ⟨rfl, rfl⟩ | ⟨rfl, rfl⟩ | ⟨rfl, rfl⟩ | ⟨rfl, rfl⟩ | ⟨rfl, rfl⟩ | ⟨rfl, rfl⟩
  -- every variant reads the fields of its struct with `getField`, which the count of `k` makes an error
  all_goals
    simp only [variant_and, variant_or, variant_not, variant_tsBegin, variant_tsEnd, variant_code, variant_desc, variant_uuid,
      variant_bbox, variant_bbox3, variant_tags, variant_comments, variant_postAccount, variant_postComment, variant_amountEq,
      variant_amountLess, variant_amountGreater, variant_postCommodity, contentFilters_eq, contentFilter_eq, reLeaf, amountLeaf,
      struct1, struct2, struct4, struct6, getField_count _ _ h, err_bind, err_map, getField_bind_err]

theorem reject_missing_field (tag k : String) (fields : List (String × JVal)) (hk : (tag, k) ∈ requiredFields)
    (h : fieldVals k fields = []) : fromJsonF (.obj [(tag, .obj fields)]) = .err :=
  reject_field_count tag k fields hk (by rw [h]; simp)

theorem reject_duplicate_field (tag k : String) (fields : List (String × JVal)) (hk : (tag, k) ∈ requiredFields)
    (v w : JVal) (rest : List JVal) (h : fieldVals k fields = v :: w :: rest) : fromJsonF (.obj [(tag, .obj fields)]) = .err :=
  reject_field_count tag k fields hk (by rw [h]; simp)

theorem reject_top_field_count (fields : List (String × JVal)) (h : (fieldVals "txnFilter" fields).length ≠ 1) :
    fromJson (.obj fields) = .err := by
  simp only [fromJson, fieldsFilter_eq]
  exact pick1_count _ (by simpa using h)

theorem reject_top_wrong_type_null : fromJson .null = .err := rfl
theorem reject_top_wrong_type_str (s : String) : fromJson (.str s) = .err := rfl

/-! ### leaves -/

def regexVariants : List String :=
  ["TxnFilterTxnCode", "TxnFilterTxnDescription", "TxnFilterTxnTags", "TxnFilterTxnComments", "TxnFilterPostingAccount",
   "TxnFilterPostingComment", "TxnFilterPostingCommodity"]

/-- **an invalid regular expression is rejected**: a pattern whose wrapped text lexes inside the subset but does not
    parse (a group that is not closed or not opened, nothing to repeat) is an error; a pattern that does not even lex is
    *outside the model* (`undef`), never `ok` -/
theorem compileFull_reject (s : String) (toks : List Tok) (hs : patternSizeOk s = true)
    (hl : lex (wrapChars s.toList) = some toks) (hp : parseToks toks = none) : compileFull s = .err := by
  unfold compileFull
  rw [if_pos hs, hl]
  simp only [hp]

theorem compileFull_ne_ok_of_no_parse (s : String) (h : parse (wrapStr s) = none) (re : String) : compileFull s ≠ .ok re := by
  intro hc
  unfold compileFull at hc
  unfold parse parseChars at h
  rw [C11.wrapStr_toList] at h
  split at hc
  · split at hc
    · cases hc
    · rename_i toks hl
      rw [hl] at h
      simp only at h
      rw [h] at hc
      cases hc
  · cases hc

theorem reject_bad_regex_field (tag : String) (v : JVal) (ht : tag ∈ regexVariants) (h : reField v = .err) :
    fromJsonF (.obj [(tag, .obj [("regex", v)])]) = .err := by
  simp only [regexVariants, List.mem_cons, List.not_mem_nil, or_false] at ht
  rcases ht with rfl | rfl | rfl | rfl | rfl | rfl | rfl <;>
    simp only [variant_code, variant_desc, variant_tags, variant_comments, variant_postAccount, variant_postComment,
      variant_postCommodity, reLeaf, struct1, getField, fieldVals, ↓reduceIte, h, Outcome.bind, Outcome.map]

theorem reject_bad_regex (tag : String) (s : String) (ht : tag ∈ regexVariants) (h : compileFull s = .err) :
    fromJsonF (.obj [(tag, .obj [("regex", .str s)])]) = .err :=
  reject_bad_regex_field tag (.str s) ht h

theorem amountLeaf_obj (mk : String → Dec → Filter) (re amount : JVal) :
    amountLeaf mk (.obj [("regex", re), ("amount", amount)]) = (reField re).bind fun r => (decField amount).map fun x => mk r x := by
  simp only [amountLeaf, struct2, getField, fieldVals, String.reduceEq, ↓reduceIte, Outcome.bind, Outcome.map]

theorem reject_bad_regex_amount (s : String) (amount : JVal) (h : compileFull s = .err) :
    fromJsonF (.obj [("TxnFilterPostingAmountEqual", .obj [("regex", .str s), ("amount", amount)])]) = .err := by
  rw [variant_amountEq, amountLeaf_obj, reField, h, err_bind]

theorem reject_regex_not_string (tag : String) (v : JVal) (ht : tag ∈ regexVariants) (hv : ∀ s, v ≠ .str s) :
    fromJsonF (.obj [(tag, .obj [("regex", v)])]) = .err := by
  have hr : reField v = .err := by
    unfold reField
    split
    · rename_i s; exact absurd rfl (hv s)
    · rfl
  exact reject_bad_regex_field tag v ht hr

theorem reject_bad_uuid (s : String) (h : uuidParse s.toList = none) :
    fromJsonF (.obj [("TxnFilterTxnUUID", .obj [("uuid", .str s)])]) = .err := by
  rw [variant_uuid]
  simp only [struct1, getField, fieldVals, if_true, uuidField, h, Outcome.bind, Outcome.map]

theorem reject_bad_number (s p : String) (h : decOfText s.toList = .err) (hp : PatOk p) :
    fromJsonF (.obj [("TxnFilterPostingAmountEqual", .obj [("regex", .str p), ("amount", .str s)])]) = .err ∧
    fromJsonF (.obj [("TxnFilterPostingAmountEqual", .obj [("regex", .str p), ("amount", .num s)])]) = .err := by
  constructor <;>
  · rw [variant_amountEq, amountLeaf_obj, reField, show compileFull p = .ok (wrapStr p) from hp]
    simp only [decField, h, Outcome.bind, Outcome.map]

theorem reject_bad_number_bbox (s : String) (w n e : JVal) (h : decOfText s.toList = .err) :
    fromJsonF (.obj [("TxnFilterBBoxLatLon", .obj [("south", .str s), ("west", w), ("north", n), ("east", e)])]) = .err := by
  rw [variant_bbox]
  simp only [struct4, getField, fieldVals, String.reduceEq, if_false, if_true, decField, h, Outcome.bind, Outcome.map]

theorem reject_number_wrong_type (p : String) (hp : PatOk p) :
    fromJsonF (.obj [("TxnFilterPostingAmountEqual", .obj [("regex", .str p), ("amount", .null)])]) = .err ∧
    fromJsonF (.obj [("TxnFilterPostingAmountEqual", .obj [("regex", .str p), ("amount", .bool true)])]) = .err ∧
    fromJsonF (.obj [("TxnFilterPostingAmountEqual", .obj [("regex", .str p), ("amount", .arr [.num "1"])])]) = .err := by
  refine ⟨?_, ?_, ?_⟩ <;>
  · rw [variant_amountEq, amountLeaf_obj, reField, show compileFull p = .ok (wrapStr p) from hp]
    rfl

theorem reject_bad_timestamp (s : String) (h : parseTsJson s.toList = .err) :
    fromJsonF (.obj [("TxnFilterTxnTSBegin", .obj [("begin", .str s)])]) = .err ∧
    fromJsonF (.obj [("TxnFilterTxnTSEnd", .obj [("end", .str s)])]) = .err := by
  constructor <;>
    simp only [variant_tsBegin, variant_tsEnd, struct1, getField, fieldVals, ↓reduceIte, tsField, h, Outcome.bind, Outcome.map]

theorem reject_sub_filters_not_array (v : JVal) (hv : ∀ items, v ≠ .arr items) :
    fromJsonF (.obj [("TxnFilterAND", .obj [("txnFilters", v)])]) = .err := by
  have : valFilters v = .err := by
    unfold valFilters
    split
    · rename_i items; exact absurd rfl (hv items)
    · rfl
  rw [variant_and]
  simp only [contentFilters, fieldsFilters, if_true, pick1, this, Outcome.map]

theorem reject_bad_sub_filter (pre post : List JVal) (fs : List Filter) (bad : JVal) (hpre : fromJsonArr pre = .ok fs)
    (hbad : fromJsonF bad = .err) : fromJsonArr (pre ++ bad :: post) = .err := by
  induction pre generalizing fs with
  | nil => simp only [List.nil_append, fromJsonArr, hbad, Outcome.bind]
  | cons v vs ih =>
    simp only [List.cons_append, fromJsonArr] at hpre ⊢
    obtain ⟨g, hg, h2⟩ := (Outcome.bind_ok _ _ _).mp hpre
    obtain ⟨gs, hgs, _⟩ := (Outcome.map_ok _ _ _).mp h2
    rw [hg, ih gs hgs]
    rfl

/-! ## witness of F7; the normal form is necessary -/

instance (d : Dec) : Decidable (DecNormal d) := by unfold DecNormal; exact inferInstance
instance (u : String) : Decidable (UuidNormal u) := by unfold UuidNormal; exact inferInstance

theorem payload_not_armored (e : List Char) (bytes : List UInt8) (hb : b64decode e = some bytes) :
    stripPrefix armorPrefix e = none := by
  cases hs : stripPrefix armorPrefix e with
  | none => rfl
  | some r =>
    have he := stripPrefix_some hs
    have : b64decode e = none := b64_rejects_symbol e ':' (by rw [he]; simp [armorPrefix]) (by decide) (by decide)
    rw [this] at hb; cases hb

theorem trim_twice (e : List Char) (n : Nat) (h : stripPrefix armorPrefix e = none) :
    trimStartMatches armorPrefix (n + 3) (armorPrefix ++ (armorPrefix ++ e)) = e := by
  have hne : armorPrefix.isEmpty = false := rfl
  simp only [trimStartMatches, stripPrefix_append, hne, Bool.false_eq_true, if_false, h]

/-- witness of F7: `trim_start_matches` (`fromArmorTrimAll`) removes every repetition of the prefix, so the malformed
    armor `base64:base64:<payload>` is read as `<payload>`; `fromArmor` (`strip_prefix`) reports an error
    (`reject_repeated_prefix`) -/
theorem F7_witness (P : String → Option JVal) (e : List Char) (bytes : List UInt8) (s : List Char)
    (hb : b64decode e = some bytes) (hu : utf8decode bytes = some s) :
    fromArmorTrimAll P (String.ofList (armorPrefix ++ (armorPrefix ++ e))) = fromJsonStr P (String.ofList s) ∧
    fromArmor P (String.ofList (armorPrefix ++ (armorPrefix ++ e))) = .err := by
  refine ⟨?_, reject_repeated_prefix P e⟩
  unfold fromArmorTrimAll
  rw [isArmored_armor, if_pos rfl, String.toList_ofList]
  have hl : (String.ofList (armorPrefix ++ (armorPrefix ++ e))).length = (e.length + 11) + 3 := by
    rw [String.length_ofList]
    simp [armorPrefix]
  rw [hl, trim_twice e _ (payload_not_armored e bytes hb)]
  simp only [fromPayload, hb, hu]

/-- a transaction with a code and nothing else -/
def tCode (c : String) : Txn := ⟨⟨⟨0, 0⟩, some c, none, none, none, none, none⟩, []⟩

theorem compile_a : compileFull "a" = .ok "^(?:a)$" := by decide

/-- **the normal form is necessary**: a filter whose stored text is not of the wrapped form (a Rust program can build one
    with `Regex::new("a")`; no definition text parses to it) is a substring search; written out and read back it is a
    whole-string match -/
theorem not_normal_changes :
    fromJson (toJson (.code "a")) = .ok (.code "^(?:a)$") ∧
    Filter.eval storedMatch (.code "a") (tCode "xay") = true ∧
    Filter.eval storedMatch (.code "^(?:a)$") (tCode "xay") = false := by
  refine ⟨?_, by decide, by decide⟩
  have hp : peelStr "a" = "a" := by decide
  simp only [toJson, toJsonF, reObj, hp, fromJson, fieldsFilter, if_true, pick1, variant_code, reLeaf, struct1, getField,
    fieldVals, reField, compile_a, Outcome.bind, Outcome.map]

/-! ## non-vacuity and test vectors -/

/-- a pattern-view filter over all kinds of leaves -/
def f1 : Filter :=
  .and [.code "a.c", .not (.tsBegin 1704067200123000000), .postAmountEq "^(?:x)$" ⟨true, 150, 2⟩,
    .uuid "67e55044-10b1-426f-9247-bb680e5fe0c8", .or [], .bbox ⟨false, 1, 0⟩ ⟨false, 0, 2⟩ ⟨true, 5, 1⟩ ⟨false, 1, 0⟩]

example : PatOk "a.c" := by unfold PatOk; decide
example : PatOk "^(?:x)$" := by unfold PatOk; decide
example : UuidNormal "67e55044-10b1-426f-9247-bb680e5fe0c8" := by unfold UuidNormal; rw [String.toList_ofList]; decide

example : NormalP f1 := by
  simp only [f1, NormalP, NormalPList, and_true, true_and]
  refine ⟨?_, by decide, ⟨?_, by decide⟩, ?_, by decide, by decide, by decide, by decide⟩
  · unfold PatOk; decide
  · unfold PatOk; decide
  · unfold UuidNormal; rw [String.toList_ofList]; decide

/-- the stored text of a pattern that already is the wrapper text is the wrapper applied once more, and what is written
    out is the user's text -/
example : stored (.code "^(?:x)$") = .code (wrapStr "^(?:x)$") := rfl
example : wrapStr "^(?:x)$" = "^(?:^(?:x)$)$" := by decide
example : peelStr "^(?:^(?:x)$)$" = "^(?:x)$" := by decide

/-- regexes: rejected by the crate / outside the subset / fine -/
example : compileFull "(a" = .err := by decide
example : compileFull "a)" = .err := by decide
example : compileFull "*a" = .err := by decide
example : compileFull "a)$" = .err := by decide
example : compileFull "^(?:a" = .err := by decide
example : compileFull "[a" = .undef := by decide
example : compileFull "a{2}" = .undef := by decide
example : compileFull "a)(b" = .ok "^(?:a)(b)$" := by decide

/-- uuids -/
example : uuidParse "67E55044-10B1-426F-9247-BB680E5FE0C8".toList = some "67e55044-10b1-426f-9247-bb680e5fe0c8".toList := by
  rw [String.toList_ofList, String.toList_ofList]; decide
example : uuidParse "{67e5504410b1426f9247bb680e5fe0c8}".toList = none := by rw [String.toList_ofList]; decide
example : uuidParse "67e55044-10b1-426f-9247-bb680e5fe0cg".toList = none := by rw [String.toList_ofList]; decide
example : uuidParse "".toList = none := by rw [String.toList_ofList]; decide

/-- numbers: spellings of one value, rejected spellings, and the rounding zone that is outside the model (F26) -/
example : decOfText "1.50".toList = .ok ⟨false, 150, 2⟩ := by rw [String.toList_ofList]; decide
example : decOfText "150e-2".toList = .ok ⟨false, 150, 2⟩ := by rw [String.toList_ofList]; decide
example : decOfText "+1_5.0e-1".toList = .ok ⟨false, 150, 2⟩ := by rw [String.toList_ofList]; decide
example : decOfText "1.5e3".toList = .ok ⟨false, 1500, 0⟩ := by rw [String.toList_ofList]; decide
example : decOfText "-0".toList = .ok ⟨false, 0, 0⟩ := by rw [String.toList_ofList]; decide
example : decOfText "79228162514264337593543950335".toList = .ok ⟨false, 79228162514264337593543950335, 0⟩ := by rw [String.toList_ofList]; decide
example : decOfText "79228162514264337593543950336".toList = .err := by rw [String.toList_ofList]; decide
example : decOfText "abc".toList = .err := by rw [String.toList_ofList]; decide
example : decOfText "".toList = .err := by rw [String.toList_ofList]; decide
example : decOfText "1e29".toList = .err := by rw [String.toList_ofList]; decide
example : decOfText "1e-29".toList = .err := by rw [String.toList_ofList]; decide
example : decOfText "1.000000000000000000000000000x".toList = .err := by rw [String.toList_ofList]; decide
example : decOfText "1.0000000000000000000000000000x".toList = .undef := by rw [String.toList_ofList]; decide
example : decOfText "1.00000000000000000000000000005abc".toList = .undef := by rw [String.toList_ofList]; decide

/-- instants -/
example : parseTsJson "2024-01-01T00:00:00.5+02:00".toList = .ok 1704060000500000000 := by rw [String.toList_ofList]; decide
example : parseTsJson "-009999-01-02T01:59:59Z".toList = .ok (-377705023201000000000) := by rw [String.toList_ofList]; decide
example : tsJsonChars (-377705023201000000000) = "-009999-01-02T01:59:59Z".toList := by rw [String.toList_ofList]; decide
example : tsJsonChars 1704060000500000000 = "2023-12-31T22:00:00.5Z".toList := by rw [String.toList_ofList]; decide
example : parseTsJson "2024-13-01T00:00:00Z".toList = .err := by rw [String.toList_ofList]; decide
example : parseTsJson "2024-01-01T00:00:00".toList = .err := by rw [String.toList_ofList]; decide
example : parseTsJson "2024-01-01".toList = .err := by rw [String.toList_ofList]; decide
example : parseTsJson "2024-01-01T00:00:00+26:00".toList = .err := by rw [String.toList_ofList]; decide
example : parseTsJson "9999-12-30T22:00:01Z".toList = .err := by rw [String.toList_ofList]; decide
example : parseTsJson "2024-01-01 00:00:00Z".toList = .undef := by rw [String.toList_ofList]; decide

/-- base64 and UTF-8 -/
example : b64decode "e30=".toList = some [123, 125] := by decide
example : b64decode "e30".toList = none := by decide
example : b64decode "e30==".toList = none := by decide
example : b64decode "e3 0=".toList = none := by decide
example : b64decode "e31=".toList = none := by decide
example : b64decode "e3-_".toList = none := by decide
example : b64decode "e30=\n".toList = none := by decide
example : b64encode [123, 125] = "e30=".toList := by decide
example : utf8decode [123, 125] = some ['{', '}'] := by decide
example : utf8decode [0xC3, 0xA9] = some ['é'] := by decide
example : utf8decode [0xC0, 0xAF] = none := by decide
example : utf8decode [0xED, 0xA0, 0x80] = none := by decide
example : utf8decode [0xF4, 0x90, 0x80, 0x80] = none := by decide
example : utf8decode [0xFF] = none := by decide
example : utf8encode ['é', '€'] = [0xC3, 0xA9, 0xE2, 0x82, 0xAC] := by decide
example : armorOf "{}" = "base64:e30=" := by decide

/-- armor, for every text layer `P` -/
example (P : String → Option JVal) : fromArmor P (String.ofList (armorPrefix ++ "e30=".toList)) = fromJsonStr P (String.ofList ['{', '}']) :=
  armor_equiv P _ [123, 125] _ (by decide) (by decide)
example : isArmored "base64:e30=" = true := by decide
example : isArmored "Base64:e30=" = false := by decide
example (P : String → Option JVal) : fromArmor P "e30=" = .err := reject_bad_prefix P _ (by decide)

/-- structure -/
example : fromJson (.obj [("txnFilter", .obj [("NullaryTRUE", .obj [])])]) = .ok .tt := rfl
example : fromJson (.arr [.obj [("NullaryTRUE", .arr [])]]) = .ok .tt := rfl
example : fromJson (.obj [("x", .null), ("txnFilter", .obj [("NullaryTRUE", .obj [("y", .num "1")])])]) = .ok .tt := rfl
example : fromJson (.obj [("txnFilter", .obj [("NullaryTRUE", .null)])]) = .err := rfl
example : fromJson (.obj [("txnFilter", .str "NullaryTRUE")]) = .err := rfl
example : fromJson (.obj [("txnFilter", .obj [("NullaryTRUE", .obj []), ("NullaryFALSE", .obj [])])]) = .err := rfl
example : fromJson (.obj [("txnFilter", .obj [("NullaryTrue", .obj [])])]) = .err := by
  simp only [fromJson, fieldsFilter, ↓reduceIte, pick1, fromJsonF, leafOf, String.reduceEq]
example : fromJson (.obj []) = .err := rfl

end C18
end Tackler
