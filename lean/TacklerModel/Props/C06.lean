import TacklerModel.Lemmas.RoundTripTxn
import TacklerModel.Lemmas.RoundTripTs
import TacklerModel.Lemmas.RawLex
import TacklerModel.Props.C01
import TacklerModel.Lemmas.AcceptOrder
/-!
# C06 — the identity export re-parses to the same transactions and is a fixed point

Model: `Print.printL L div` (`Model/Print.lean`; `Layout.identity` is `Display for Transaction` + `IdentityExporter`),
`Syntax.parseJournal`, `acceptTxn`/`loadJournal`.  `div` is `rust_decimal`'s division, a parameter with the contract
`DivExact` (re-multiplying the printed unit price gives the transaction amount back).

* **Text ⇒ parse tree.**  For every layout of the family `LayoutOK` (indent and separator of ≥ 1 blank, trailing blanks,
  `\n` or `\r\n`, any order of the metadata lines, blank lines before the first and ≥ 1 after every transaction), a list
  of transactions satisfying `C06.WF` prints to a text that `parseJournal` maps to exactly the parse trees `rawOf`:
  `number_roundtrip` … `transaction_roundtrip`, `journal_roundtrip`, `layout_free` (proofs: `Lemmas/RoundTrip*.lean`, one
  lemma per parser).  `WF` is what the acceptor produces (`accept_wf`): trimmed code, right-trimmed description, canonical
  uuid, valid names, representable numbers, and a timestamp passing the decidable check `TsOK`.
* **Parse tree ⇒ transaction.**  `reaccept`: the tree `rawOf t` of an accepted `t` is accepted, in the same settings state,
  to the same `t` and the same resulting state.
* **Composition.**  `roundtrip_layout` prints the transactions in acceptance order.  The identity export prints them sorted
  (`TxnData::from`), in general another order than the one in which the input threaded them through `Settings`;
  `Lemmas/AcceptOrder.lean` shows that order immaterial, which gives `reaccept_perm`, `identity_export_reloads` and
  `export_fixpoint_partial`.  Their hypotheses are `DivExact` and the well-formedness `WF`/`UnitNE` of what was accepted;
  `Props/C06b.lean` proves both of what `parseJournal`, the acceptor and the model's own division produce.
-/
namespace Tackler
namespace C06
open Comb Syntax Print

/-! ## token, line, transaction level (aliases of the lemma library) -/

/-- `p_number (display d ++ rest) = d` -/
theorem number_roundtrip (d : Dec) (rest : List Char) (h : NumWF d) (hr : StartsNot numStop rest) :
    pNumber (d.toChars ++ rest) = .ok d rest := pNumber_print d rest h hr

theorem name_roundtrip (parts : List (List Char)) (rest : List Char) (h : PartsWF parts) (hr : StartsNot nameStop rest) :
    pMultiPartId (joinParts parts ++ rest) = .ok parts rest := pMultiPartId_print parts rest h hr

/-- `; comment` keeps exactly the text after the one blank (also empty, also with leading/trailing blanks) -/
theorem comment_roundtrip (c : List Char) {eol : List Char} (he : IsEol eol) (rest : List Char) (hc : LineText c) :
    pComment (';' :: ' ' :: (c ++ (eol ++ rest))) = .ok c (eol ++ rest) := pComment_print c he rest hc

theorem code_roundtrip (c rest : List Char) (hc : ∀ d ∈ c, validCodeChar d = true) :
    parseTxnCode ('(' :: (c ++ (')' :: rest))) = .ok (String.ofList (trim c)) rest := parseTxnCode_print c rest hc

theorem description_roundtrip (d w : List Char) {eol : List Char} (he : IsEol eol) (rest : List Char)
    (hd : LineText d) (hw : Blanks w) :
    parseTxnDescription ('\'' :: (d ++ (w ++ (eol ++ rest)))) = .ok (String.ofList (trimEnd d)) (eol ++ rest) :=
  parseTxnDescription_print d w he rest hd hw

theorem uuid_roundtrip (u rest : List Char) (h : UuidWF u) : pUuid (u ++ rest) = .ok (String.ofList u) rest :=
  pUuid_print u rest h

/-- `rfc_3339` then `parse_timestamp`, for every instant passing the decidable check `TsOK` -/
theorem timestamp_roundtrip (cfg : Time.TsCfg) (ts : Ts) (hok : TsOK ts = true) (r : List Char) :
    parseTimestamp cfg (rfc3339 ts ++ r) = .ok ts r := ts_roundtrip cfg ts hok r

theorem location_line_roundtrip (L : Layout) (hL : LayoutOK L) (g : Geo) (rest : List Char) (hg : GeoWF g) :
    parseMetaLocation (locationLine L (some g) ++ rest) = .ok g rest := parseMetaLocation_print L hL g rest hg

theorem tags_line_roundtrip (L : Layout) (hL : LayoutOK L) (tags : List String) (rest : List Char) (ht : TagsWF tags) :
    parseMetaTags (tagsLine L (some tags) ++ rest) = .ok tags rest := parseMetaTags_print L hL tags rest ht

/-- the metadata block in each of the six orders, with any subset of uuid / location / tags present -/
theorem metadata_any_order (L : Layout) (hL : LayoutOK L) (h : Header) (rest : List Char) (hm : MetaWF h)
    (hr : NonMeta rest) :
    ∃ m, opt parseTxnMeta (metaBlock L h ++ rest) = .ok m rest ∧
      metaUuid m = h.uuid ∧ metaLocation m = h.location ∧ metaTags m = h.tags := parseTxnMeta_print L hL h rest hm hr

theorem posting_line_roundtrip (L : Layout) (hL : LayoutOK L) (div : Dec → Dec → Dec) (p : Posting)
    (hp : PostingWF div p) (rest : List Char) :
    parseTxnPosting (postingL L div p ++ rest) = .ok (rawPostingOf div p) rest := parseTxnPosting_print L hL div p hp rest

theorem header_roundtrip (cfg : Time.TsCfg) (L : Layout) (hL : LayoutOK L) (h : Header)
    (hts : TsOK h.ts = true) (hh : HeaderWF h) (rest : List Char) (hr : PostingStart rest) :
    parseTxnHeader cfg (headerL L h ++ rest) = .ok h rest :=
  parseTxnHeader_print cfg L hL h (ts_roundtrip cfg h.ts hts) hh rest hr

/-- **WF**: what the acceptor can produce and the export can print re-parsably -/
structure WF (div : Dec → Dec → Dec) (t : Txn) : Prop where
  ts : TsOK t.header.ts = true
  header : HeaderWF t.header
  posts_ne : t.posts ≠ []
  posts : ∀ p ∈ t.posts, PostingWF div p

theorem WF.txnWF {div : Dec → Dec → Dec} {t : Txn} (h : WF div t) (cfg : Time.TsCfg) : TxnWF cfg div t :=
  ⟨ts_roundtrip cfg t.header.ts h.ts, h.header, h.posts_ne, h.posts⟩

theorem transaction_roundtrip (cfg : Time.TsCfg) (L : Layout) (hL : LayoutOK L) (div : Dec → Dec → Dec) (t : Txn)
    (ht : WF div t) (rest : List Char) (hr : TxnStartOrEnd rest) :
    parseTxn cfg (txnL L div t ++ rest) = .ok (rawOf div t) rest := parseTxn_print cfg L hL div t (ht.txnWF cfg) rest hr

theorem journal_roundtrip (cfg : Time.TsCfg) (L : Layout) (hL : LayoutOK L) (div : Dec → Dec → Dec) (ts : List Txn)
    (hne : ts ≠ []) (hw : ∀ t ∈ ts, WF div t) :
    parseJournal cfg (printL L div ts) = some (ts.map (rawOf div)) :=
  parseJournal_print cfg L hL div ts hne (fun t ht => (hw t ht).txnWF cfg)

/-- the parse result does not depend on the layout (nor on the configured zone: the export prints offsets) -/
theorem layout_free (cfg₁ cfg₂ : Time.TsCfg) (L₁ L₂ : Layout) (h₁ : LayoutOK L₁) (h₂ : LayoutOK L₂)
    (div : Dec → Dec → Dec) (ts : List Txn) (hne : ts ≠ []) (hw : ∀ t ∈ ts, WF div t) :
    parseJournal cfg₁ (printL L₁ div ts) = parseJournal cfg₂ (printL L₂ div ts) := by
  rw [journal_roundtrip cfg₁ L₁ h₁ div ts hne hw, journal_roundtrip cfg₂ L₂ h₂ div ts hne hw]

theorem identity_roundtrip (cfg : Time.TsCfg) (div : Dec → Dec → Dec) (ts : List Txn) (hne : ts ≠ [])
    (hw : ∀ t ∈ ts, WF div t) : parseJournal cfg (identityExport div ts) = some (ts.map (rawOf div)) :=
  journal_roundtrip cfg Layout.identity layoutOK_identity div ts hne hw

/-! ## acceptance of the re-parsed tree -/

/-- the division used by the export recovers the unit price of an `@` posting exactly -/
def DivExact (div : Dec → Dec → Dec) (p : Posting) : Prop :=
  p.isTotal = false → p.txnComm ≠ p.comm →
    (div p.txnAmount p.amount).isNeg = false ∧ Dec.mul p.amount (div p.txnAmount p.amount) = some p.txnAmount

/-- commodity names of a parse tree are not empty (the grammar's identifiers never are) -/
def UnitNE (u : Option PostUnit) : Prop :=
  ∀ x, u = some x → x.comm ≠ "" ∧ ∀ v, (x.closing = some (.total v) ∨ x.closing = some (.unitPrice v)) → v.comm ≠ ""

/-! The proofs below argue from the `.ok` leaves of the acceptance functions: `valuePosition_ok` here,
`handlePosting_ok`, `acceptPostings_ok`, `acceptTxn_ok` for the others. -/

/-- the four `.ok` leaves of `valuePosition`, each with the value position it returns -/
theorem valuePosition_ok {amount : Dec} {unit : Option PostUnit} {vp : VP} (h : valuePosition amount unit = .ok vp) :
    (unit = none ∧ vp = ⟨amount, amount, false, "", ""⟩) ∨
    ∃ u, unit = some u ∧
      ((u.closing = none ∧ vp = ⟨amount, amount, false, u.comm, u.comm⟩) ∨
       (∃ v, u.closing = some (.total v) ∧ u.comm ≠ v.comm ∧
          ((v.value.isNeg && amount.isPos) || (amount.isNeg && v.value.isPos)) = false ∧
          vp = ⟨amount, v.value, true, u.comm, v.comm⟩) ∨
       (∃ v t, u.closing = some (.unitPrice v) ∧ u.comm ≠ v.comm ∧ v.value.isNeg = false ∧
          Dec.mul amount v.value = some t ∧ vp = ⟨amount, t, false, u.comm, v.comm⟩)) := by
  unfold valuePosition at h
  -- every other leaf is `.err`, or `inexact` after an overflow
  (repeat' split at h) <;> first | cases h | exact absurd h (Outcome.inexact_ne_ok _ _)
  · exact .inl ⟨rfl, rfl⟩
  · rename_i u _ hcl _
    exact .inr ⟨u, rfl, .inl ⟨hcl, rfl⟩⟩
  · rename_i u _ v hcl hcv _ hsign
    exact .inr ⟨u, rfl, .inr (.inl ⟨v, hcl, hcv, by simpa using hsign, rfl⟩)⟩
  · rename_i u _ v hcl hcv _ hneg _ t ht
    exact .inr ⟨u, rfl, .inr (.inr ⟨v, t, hcl, hcv, by simpa using hneg, ht, rfl⟩)⟩

/-! ### the printed posting is handled like the original -/

/-- the unit the export prints registers the same commodities and has the same value position as the unit read -/
theorem unit_rawOf (div : Dec → Dec → Dec) (st st1 : Settings) (amount : Dec) (unit : Option PostUnit) (vp : VP)
    (hreg : registerUnit st unit = .ok st1) (hvp : valuePosition amount unit = .ok vp) (hne : UnitNE unit)
    (p : Posting) (hp1 : p.comm = vp.postComm) (hp2 : p.amount = vp.postAmount) (hp3 : p.txnAmount = vp.txnAmount)
    (hp4 : p.isTotal = vp.isTotal) (hp5 : p.txnComm = vp.txnComm) (hdiv : DivExact div p) :
    registerUnit st (unitOfPosting div p) = .ok st1 ∧ valuePosition p.amount (unitOfPosting div p) = .ok vp := by
  rcases valuePosition_ok hvp with ⟨rfl, rfl⟩ | ⟨u, rfl, hcase⟩
  · simpa [unitOfPosting, hp1, hp2, registerUnit, valuePosition] using hreg
  · obtain ⟨hcne, hvne⟩ := hne u rfl
    rcases hcase with ⟨hcl, rfl⟩ | ⟨v, hcl, hcv, hsign, rfl⟩ | ⟨v, t, hcl, hcv, hneg, hmul, rfl⟩
    · simp only [registerUnit, hcl] at hreg
      simpa [unitOfPosting, closingOfPosting, hp1, hp2, hp5, hcne, registerUnit, valuePosition, openingNeg] using hreg
    · have hvc := hvne v (.inl hcl)
      simp only [registerUnit, hcl] at hreg
      simpa [unitOfPosting, closingOfPosting, hp1, hp2, hp3, hp4, hp5, hcne, hvc, Ne.symm hcv, hcv, registerUnit,
        valuePosition, openingNeg, hsign] using hreg
    · have hvc := hvne v (.inr hcl)
      -- the printed price is `div t amount`; by `DivExact` it multiplies back to `t`
      obtain ⟨hd1, hd2⟩ := hdiv hp4 (by rw [hp5, hp1]; exact Ne.symm hcv)
      simp only [hp2, hp3] at hd1 hd2
      simp only [registerUnit, hcl] at hreg
      simpa [unitOfPosting, closingOfPosting, hp1, hp2, hp3, hp4, hp5, hcne, hvc, Ne.symm hcv, hcv, registerUnit,
        valuePosition, openingNeg, hd1, hd2] using hreg

theorem handlePosting_rawOf (div : Dec → Dec → Dec) (st st2 : Settings) (rp : RawPosting) (p : Posting)
    (h : handlePosting st rp = .ok (p, st2)) (hne : UnitNE rp.unit) (hdiv : DivExact div p) :
    handlePosting st (rawPostingOf div p) = .ok (p, st2) := by
  obtain ⟨st1, vp, a, hreg, hvp, hacct, hmk⟩ := (handlePosting_ok st rp p st2).mp h
  obtain ⟨rfl, _⟩ := mkPosting_ok _ _ hmk
  obtain ⟨h1, h2⟩ := unit_rawOf div st st1 rp.amount rp.unit vp hreg hvp hne _ rfl rfl rfl rfl rfl hdiv
  cases gocta_acct _ _ _ _ _ hacct
  exact (handlePosting_ok ..).mpr ⟨st1, vp, _, h1, h2, hacct, hmk⟩

theorem goc_idem (st st1 : Settings) (n x : String) (hn : n ≠ "")
    (h : st.getOrCreateCommodity (some n) = .ok (x, st1)) : st1.getOrCreateCommodity (some n) = .ok (n, st1) := by
  unfold Settings.getOrCreateCommodity at h ⊢
  simp only [hn, if_false] at h ⊢
  split at h
  · rename_i hmem; cases h; simp [hmem]
  · split at h
    · cases h
    · cases h; simp

/-- if `g` sends every output back to an input on which the step answers as it did, the traversal of the outputs'
    images reproduces the traversal -/
theorem mapMS_sim {σ α β} (f : σ → α → Outcome (β × σ)) (g : β → α) :
    ∀ (l : List α) (s s' : σ) (bs : List β), mapMS f s l = .ok (bs, s') →
      (∀ a ∈ l, ∀ b ∈ bs, ∀ s s', f s a = .ok (b, s') → f s (g b) = .ok (b, s')) →
      mapMS f s (bs.map g) = .ok (bs, s') := by
  intro l
  induction l with
  | nil => intro s s' bs h _; simp [mapMS] at h; obtain ⟨rfl, rfl⟩ := h; rfl
  | cons a t ih =>
    intro s s' bs h hsim
    obtain ⟨b, s1, bs', h1, h2, rfl⟩ := (mapMS_cons_ok f s s' a t bs).mp h
    rw [List.map_cons, mapMS_cons_ok]
    exact ⟨b, s1, bs', hsim a List.mem_cons_self b List.mem_cons_self s s1 h1,
      ih s1 s' bs' h2 fun x hx y hy => hsim x (List.mem_cons_of_mem _ hx) y (List.mem_cons_of_mem _ hy), rfl⟩

/-- the implicit last posting, once explicit, is handled to the same posting and state -/
theorem lastPosting_rawOf (div : Dec → Dec → Dec) {st1 st2 : Settings} {a : Path} {c : String} {amt : Dec}
    {cmt : Option String} {l : Posting} (hacct : st1.getOrCreateTxnAccount a c = .ok (a, st2))
    (hmk : mkPosting ⟨a, c, amt, amt, false, c, cmt⟩ = .ok l) :
    handlePosting st1 (rawPostingOf div l) = .ok (l, st2) := by
  obtain ⟨rfl, _⟩ := mkPosting_ok _ _ hmk
  unfold handlePosting
  by_cases hc : c = ""
  · subst hc
    simp only [rawPostingOf, unitOfPosting, if_true, registerUnit, valuePosition, hacct, hmk, Outcome.map]
  · have hcl : closingOfPosting div ⟨a, c, amt, amt, false, c, cmt⟩ = none := by simp [closingOfPosting]
    obtain ⟨x, sc, hx⟩ : ∃ x sc, st1.getOrCreateCommodity (some c) = .ok (x, sc) := by
      unfold Settings.getOrCreateTxnAccount at hacct
      split at hacct
      · cases hacct
      · cases hacct
      · exact ⟨_, _, ‹_›⟩
    -- the commodity is registered by the unit already; the account lookup registers it again, to no effect
    have hacct' : sc.getOrCreateTxnAccount a c = .ok (a, st2) := by
      rw [← hacct]
      unfold Settings.getOrCreateTxnAccount
      rw [goc_idem st1 sc c x hc hx, hx]
    simp only [rawPostingOf, unitOfPosting, hc, if_false, hcl, registerUnit, hx, valuePosition, openingNeg,
      Bool.false_eq_true, hacct', hmk, Outcome.map]

theorem acceptPostings_rawOf (div : Dec → Dec → Dec) (st st' : Settings) (posts : List RawPosting)
    (last : Option (Path × Option String)) (all : List Posting)
    (h : acceptPostings st posts last = .ok (all, st'))
    (hne : ∀ rp ∈ posts, UnitNE rp.unit) (hdiv : ∀ p ∈ all, DivExact div p) :
    acceptPostings st (all.map (rawPostingOf div)) none = .ok (all, st') := by
  obtain ⟨p0, rest, st1, hps, hcase⟩ := (acceptPostings_ok ..).mp h
  have hsim := fun hd : ∀ p ∈ p0 :: rest, DivExact div p =>
    mapMS_sim handlePosting (rawPostingOf div) posts st st1 (p0 :: rest) hps
      fun a ha b hb s s' h => handlePosting_rawOf div s s' a b h (hne a ha) (hd b hb)
  rcases hcase with ⟨_, rfl, rfl⟩ | ⟨a, cmt, s, a', l, _, _, hacct, hl, rfl⟩
  · exact (acceptPostings_ok ..).mpr ⟨p0, rest, st', hsim hdiv, .inl ⟨rfl, rfl, rfl⟩⟩
  · cases gocta_acct _ _ _ _ _ hacct
    refine (acceptPostings_ok ..).mpr ⟨p0, rest ++ [l], st', ?_, .inl ⟨rfl, rfl, rfl⟩⟩
    rw [List.map_append, mapMS_append, hsim fun p hp => hdiv p (List.mem_append_left _ hp)]
    simp only [Outcome.bind, List.map, mapMS, lastPosting_rawOf div hacct hl]
    rfl

/-- **re-acceptance**: the parse tree of the printed transaction is accepted, in the state in which the
    original was accepted, to the *same* transaction and the same resulting state -/
theorem reaccept (div : Dec → Dec → Dec) (st st' : Settings) (r : RawTxn) (t : Txn)
    (h : acceptTxn st r = .ok (t, st')) (hne : ∀ rp ∈ r.posts, UnitNE rp.unit) (hdiv : ∀ p ∈ t.posts, DivExact div p) :
    acceptTxn st (rawOf div t) = .ok (t, st') := by
  obtain ⟨st1, ps, hhdr, hps, rfl, hfin⟩ := (acceptTxn_ok st r t st').mp h
  exact (acceptTxn_ok ..).mpr
    ⟨st1, ps, hhdr, acceptPostings_rawOf div st1 st' r.posts r.last ps hps hne hdiv, rfl, hfin⟩

theorem reaccept_journal (div : Dec → Dec → Dec) (st st' : Settings) (rs : List RawTxn) (ts : List Txn)
    (h : acceptJournal st rs = .ok (ts, st'))
    (hne : ∀ r ∈ rs, ∀ rp ∈ r.posts, UnitNE rp.unit) (hdiv : ∀ t ∈ ts, ∀ p ∈ t.posts, DivExact div p) :
    acceptJournal st (ts.map (rawOf div)) = .ok (ts, st') := by
  unfold acceptJournal at h ⊢
  exact mapMS_sim acceptTxn (rawOf div) rs st st' ts h
    fun r hr t ht s s' h => reaccept div s s' r t h (hne r hr) (hdiv t ht)

/-! ## what the acceptor produces is well-formed -/

/-- lexical well-formedness of a parsed posting (the fields of `Syntax.PostLex`, `Lemmas/RawLex.lean`) -/
structure RawPostingLex (rp : RawPosting) : Prop where
  acct : ∃ parts, PartsWF parts ∧ rp.acct = toPath parts ∧ acctOk parts = true
  amount : NumWF rp.amount
  unit : ∀ u, rp.unit = some u → IdentWF u.comm.toList ∧ isValidId u.comm.toList = true ∧
    (∀ v, (u.closing = some (.total v) ∨ u.closing = some (.unitPrice v)) →
      IdentWF v.comm.toList ∧ isValidId v.comm.toList = true ∧ NumWF v.value)
  comment : ∀ c, rp.comment = some c → LineText c.toList

theorem identWF_ne_empty (s : String) (h : IdentWF s.toList) : s ≠ "" := by
  intro e; subst e
  obtain ⟨c, t, hc, _⟩ := h
  simp at hc

theorem mul_wf (a b t : Dec) (h : Dec.mul a b = some t) : t.scale ≤ 28 ∧ t.coeff ≤ max96 := by
  unfold Dec.mul at h
  split at h
  · cases h; simp [Dec.zero, max96]
  · split at h
    · rename_i hc; cases h; exact hc
    · cases h

theorem sumFrom_wf : ∀ (l : List Dec) (acc s : Dec), acc.scale ≤ 28 → acc.coeff ≤ max96 →
    (∀ d ∈ l, d.scale ≤ 28 ∧ d.coeff ≤ max96) → Dec.sumFrom acc l = some s → s.scale ≤ 28 ∧ s.coeff ≤ max96 := by
  intro l
  induction l with
  | nil => intro acc s h1 h2 _ h; simp [Dec.sumFrom] at h; subst h; exact ⟨h1, h2⟩
  | cons d t ih =>
    intro acc s h1 h2 hall h
    simp only [Dec.sumFrom] at h
    split at h
    · rename_i r hr
      have hd := hall d List.mem_cons_self
      exact ih r s (Dec.add_units acc d r h1 hd.1 hr).2 (Dec.add_coeff acc d r h2 hd.2 hr)
        (fun x hx => hall x (List.mem_cons_of_mem _ hx)) h
    · cases h

theorem handlePosting_wf (div : Dec → Dec → Dec) (st st2 : Settings) (rp : RawPosting) (p : Posting)
    (h : handlePosting st rp = .ok (p, st2)) (hl : RawPostingLex rp)
    (hd : p.isTotal = false → NumWF (div p.txnAmount p.amount)) :
    PostingWF div p ∧ p.txnAmount.scale ≤ 28 ∧ p.txnAmount.coeff ≤ max96 := by
  obtain ⟨vp, hvp, _, rfl⟩ := handlePosting_posting _ _ _ _ h
  rcases valuePosition_ok hvp with ⟨_, rfl⟩ | ⟨u, hu, hcase⟩
  · exact ⟨⟨hl.acct, hl.amount, .inl rfl, fun _ => rfl, fun h => absurd rfl h, hl.comment⟩, hl.amount.1, hl.amount.2.1⟩
  · obtain ⟨huid, huv, hcl⟩ := hl.unit u hu
    have hne := identWF_ne_empty _ huid
    rcases hcase with ⟨_, rfl⟩ | ⟨v, hc, _, _, rfl⟩ | ⟨v, t, hc, _, _, ht, rfl⟩
    · exact ⟨⟨hl.acct, hl.amount, .inr ⟨huid, huv⟩, fun e => absurd e hne, fun _ h => absurd rfl h, hl.comment⟩,
        hl.amount.1, hl.amount.2.1⟩
    · obtain ⟨hvid, hvv, hvn⟩ := hcl v (.inl hc)
      exact ⟨⟨hl.acct, hl.amount, .inr ⟨huid, huv⟩, fun e => absurd e hne, fun _ _ => ⟨hvid, hvv, by simpa using hvn⟩,
        hl.comment⟩, hvn.1, hvn.2.1⟩
    · obtain ⟨hvid, hvv, _⟩ := hcl v (.inr hc)
      exact ⟨⟨hl.acct, hl.amount, .inr ⟨huid, huv⟩, fun e => absurd e hne, fun _ _ => ⟨hvid, hvv, by simpa using hd rfl⟩,
        hl.comment⟩, mul_wf _ _ _ ht⟩

/-- lexical well-formedness of a parse tree; `parseJournal_rawLex` (`Props/C06b.lean`) proves it of what
    `Syntax.parseJournal` yields -/
structure RawLex (r : RawTxn) : Prop where
  ts : TsOK r.header.ts = true
  header : HeaderWF r.header
  posts : ∀ rp ∈ r.posts, RawPostingLex rp
  last : ∀ a c, r.last = some (a, c) →
    (∃ parts, PartsWF parts ∧ a = toPath parts ∧ acctOk parts = true) ∧ (∀ x, c = some x → LineText x.toList)

theorem txnComm_lex (div : Dec → Dec → Dec) (p : Posting) (h : PostingWF div p) :
    p.txnComm = "" ∨ (IdentWF p.txnComm.toList ∧ isValidId p.txnComm.toList = true) := by
  by_cases h1 : p.txnComm = ""
  · exact Or.inl h1
  · by_cases h2 : p.txnComm = p.comm
    · rw [h2]
      rcases h.comm with hc | hc
      · exact Or.inl hc
      · exact Or.inr hc
    · obtain ⟨a, b, _⟩ := h.priced h1 h2
      exact Or.inr ⟨a, b⟩

theorem acceptPostings_wf (div : Dec → Dec → Dec) (st st' : Settings) (r : RawTxn) (all : List Posting)
    (h : acceptPostings st r.posts r.last = .ok (all, st')) (hl : RawLex r)
    (hd : ∀ p ∈ all, p.isTotal = false → NumWF (div p.txnAmount p.amount)) :
    all ≠ [] ∧ ∀ p ∈ all, PostingWF div p := by
  obtain ⟨p0, rest, st1, hps, hcase⟩ := (acceptPostings_ok ..).mp h
  have hgood : ∀ q ∈ p0 :: rest, (q.isTotal = false → NumWF (div q.txnAmount q.amount)) →
      PostingWF div q ∧ q.txnAmount.scale ≤ 28 ∧ q.txnAmount.coeff ≤ max96 := by
    intro q hq hdq
    obtain ⟨rp, hrp, s1, s2, hf⟩ := mapMS_ok handlePosting r.posts st st1 _ hps q hq
    exact handlePosting_wf div s1 s2 rp q hf (hl.posts rp hrp) hdq
  rcases hcase with ⟨_, rfl, rfl⟩ | ⟨a, cmt, s, a', l, hlast, hs, hacct, hlp, rfl⟩
  · exact ⟨by simp, fun p hp => (hgood p hp (hd p hp)).1⟩
  · have hmain : ∀ q ∈ p0 :: rest, PostingWF div q ∧ q.txnAmount.scale ≤ 28 ∧ q.txnAmount.coeff ≤ max96 :=
      fun q hq => hgood q hq (hd q (List.mem_append_left _ hq))
    refine ⟨by simp, fun p hp => ?_⟩
    rcases List.mem_append.mp hp with hp | hp
    · exact (hmain p hp).1
    · -- the implicit last posting: its amount is the negated sum, representable and not zero
      cases List.mem_singleton.mp hp
      obtain ⟨rfl, hnz⟩ := mkPosting_ok _ _ hlp
      cases gocta_acct _ _ _ _ _ hacct
      obtain ⟨hal, hcl⟩ := hl.last _ cmt hlast
      have hsum := sumFrom_wf ((p0 :: rest).map fun q : Posting => q.txnAmount) Dec.zero s (by simp [Dec.zero])
        (by simp [Dec.zero, max96])
        (fun d hdm => by obtain ⟨q, hq, rfl⟩ := List.mem_map.mp hdm; exact (hmain q hq).2) hs
      have hcz : s.coeff ≠ 0 := fun e => hnz (by simp [Dec.units, Dec.negate, e])
      exact ⟨hal, ⟨by simpa [Dec.negate] using hsum.1, by simpa [Dec.negate] using hsum.2,
          fun _ => by simpa [Dec.negate] using hcz⟩,
        txnComm_lex div p0 (hmain p0 List.mem_cons_self).1, fun e => e, fun _ h => absurd rfl h, hcl⟩

/-- **C06 `accept_wf`.**  The acceptor turns a lexically well-formed parse tree into a transaction satisfying
    `WF` (everything the export needs to print it re-parsably): the header is copied, every value-carrying posting
    keeps its names and numbers, the implicit last posting gets a representable non-zero amount in the
    transaction commodity.  `hd`: the unit prices the export will print (`div`) are representable numbers. -/
theorem accept_wf (div : Dec → Dec → Dec) (st st' : Settings) (r : RawTxn) (t : Txn)
    (h : acceptTxn st r = .ok (t, st')) (hl : RawLex r)
    (hd : ∀ p ∈ t.posts, p.isTotal = false → NumWF (div p.txnAmount p.amount)) : WF div t := by
  obtain ⟨st1, ps, _, hps, rfl, _⟩ := (acceptTxn_ok ..).mp h
  obtain ⟨hne, hall⟩ := acceptPostings_wf div _ _ r _ hps hl hd
  exact ⟨hl.ts, hl.header, hne, hall⟩

theorem unitNE_of_lex (rp : RawPosting) (h : RawPostingLex rp) : UnitNE rp.unit := by
  intro u hu
  obtain ⟨huid, _, hcl⟩ := h.unit u hu
  exact ⟨identWF_ne_empty _ huid, fun v hv => identWF_ne_empty _ (hcl v hv).1⟩

/-! ## what the grammar stores is well-formed (the fields the property names)

`RawLex` of the parser's output is proved in full in `Lemmas/RawLex.lean` and `Props/C06b.lean`
(`parseJournal_rawLex`; its timestamp part is `tsOK_of_resolved`); these are the parts the property statement
mentions: numbers, trimmed code, right-trimmed description, one-line comments. -/

theorem trimEnd_idem : ∀ l : List Char, trimEnd (trimEnd l) = trimEnd l := by
  intro l
  induction l with
  | nil => rfl
  | cons c t ih =>
    simp only [trimEnd]
    cases h : trimEnd t with
    | nil =>
      simp only []
      split
      · rfl
      · rename_i hc; simp [trimEnd, hc]
    | cons d r =>
      simp only []
      rw [h] at ih
      show (match trimEnd (d :: r) with
        | [] => if isWhitespace c = true then [] else [c]
        | d' :: r' => c :: d' :: r') = c :: d :: r
      rw [ih]

theorem trimEnd_head (c : Char) (t : List Char) (hc : isWhitespace c = false) :
    ∃ r, trimEnd (c :: t) = c :: r := by
  simp only [trimEnd]
  cases trimEnd t with
  | nil => simp [hc]
  | cons d r => exact ⟨d :: r, rfl⟩

theorem trimEnd_sub : ∀ (l : List Char), ∀ c ∈ trimEnd l, c ∈ l := by
  intro l
  induction l with
  | nil => intro c hc; simp [trimEnd] at hc
  | cons d t ih =>
    intro c hc
    simp only [trimEnd] at hc
    cases h : trimEnd t with
    | nil =>
      rw [h] at hc
      simp only [] at hc
      split at hc
      · cases hc
      · simp at hc; subst hc; exact List.mem_cons_self
    | cons e r =>
      rw [h] at hc
      simp only [] at hc
      rcases List.mem_cons.mp hc with rfl | hc'
      · exact List.mem_cons_self
      · exact List.mem_cons_of_mem _ (ih c (by rw [h]; exact hc'))

theorem trim_idem (l : List Char) : trim (trim l) = trim l := by
  unfold trim trimStart
  cases h : l.dropWhile isWhitespace with
  | nil => rfl
  | cons c t =>
    have hc : isWhitespace c = false := by
      have := List.head_dropWhile_not isWhitespace (l := l) (by rw [h]; simp)
      simpa [h] using this
    obtain ⟨r, hr⟩ := trimEnd_head c t hc
    rw [hr]
    simp only [List.dropWhile, hc]
    rw [← hr, trimEnd_idem]

theorem trim_sub (l : List Char) : ∀ c ∈ trim l, c ∈ l := by
  intro c hc
  unfold trim trimStart at hc
  have := trimEnd_sub _ c hc
  exact (List.dropWhile_suffix _).subset this

theorem pNumber_ok_wf (s r : List Char) (d : Dec) (h : pNumber s = .ok d r) : NumWF d := pNumber_ok_numWF h

theorem parseTxnCode_ok_wf (s r : List Char) (c : String) (h : parseTxnCode s = .ok c r) :
    (∀ d ∈ c.toList, validCodeChar d = true) ∧ trim c.toList = c.toList := by
  unfold parseTxnCode at h
  obtain ⟨_, s1, _, h1⟩ := Res.bind_inv h
  obtain ⟨x, s2, hx, h2⟩ := Res.bind_inv h1
  obtain ⟨_, s3, _, h3⟩ := Res.bind_inv h2
  cases h3
  obtain ⟨_, hall, _⟩ := takeWhile0_ok _ _ _ _ hx
  simp only [String.toList_ofList]
  exact ⟨fun d hd => hall d (trim_sub x d hd), trim_idem x⟩

theorem parseTxnDescription_ok_wf (s r : List Char) (d : String) (h : parseTxnDescription s = .ok d r) :
    LineText d.toList ∧ trimEnd d.toList = d.toList := by
  unfold parseTxnDescription at h
  obtain ⟨_, s1, _, h1⟩ := Res.bind_inv h
  obtain ⟨x, s2, hx, h2⟩ := Res.bind_inv h1
  cases h2
  obtain ⟨_, hall, _⟩ := tillLineEnding_ok _ _ _ hx
  simp only [String.toList_ofList]
  exact ⟨fun c hc => hall c (trimEnd_sub x c hc), trimEnd_idem x⟩

theorem pComment_ok_wf (s r c : List Char) (h : pComment s = .ok c r) : LineText c := pComment_ok_lineText h

/-! ## composition -/

theorem loadText_print (cfg : Time.TsCfg) (L : Layout) (hL : LayoutOK L) (div : Dec → Dec → Dec) (st : Settings)
    (ts : List Txn) (hne : ts ≠ []) (hw : ∀ t ∈ ts, WF div t) :
    loadText cfg st (printL L div ts) = loadJournal st (ts.map (rawOf div)) := by
  unfold loadText
  rw [journal_roundtrip cfg L hL div ts hne hw]

theorem loadJournal_ok {st st' : Settings} {rs : List RawTxn} {ts : List Txn} (hrs : rs ≠ [])
    (hacc : acceptJournal st rs = .ok (ts, st')) : loadJournal st rs = .ok (sortTxns ts, st') := by
  unfold loadJournal
  cases rs with
  | nil => exact absurd rfl hrs
  | cons r t => simp only [hacc, Outcome.map]

theorem accepted_ne_nil {st st' : Settings} {rs : List RawTxn} {ts : List Txn} (hrs : rs ≠ [])
    (hacc : acceptJournal st rs = .ok (ts, st')) : ts ≠ [] := by
  intro e
  have hlen := mapMS_length acceptTxn rs st st' ts hacc
  rw [e] at hlen
  exact hrs (List.length_eq_zero_iff.mp hlen.symm)

/-- **C06 `roundtrip_layout`.**  Take the transactions a journal was accepted to, print them (in acceptance
    order) in any layout of the family, and load the text: the loaded list is *equal* to the originally
    loaded one — same instants and offsets, codes, descriptions, uuids, locations, tags, comments, accounts,
    amounts, commodities, transaction amounts, price kinds and posting comments — and so is the final state. -/
theorem roundtrip_layout (cfg : Time.TsCfg) (L : Layout) (hL : LayoutOK L) (div : Dec → Dec → Dec)
    (st st' : Settings) (rs : List RawTxn) (ts : List Txn)
    (hacc : acceptJournal st rs = .ok (ts, st')) (hrs : rs ≠ [])
    (hne : ∀ r ∈ rs, ∀ rp ∈ r.posts, UnitNE rp.unit)
    (hw : ∀ t ∈ ts, WF div t) (hdiv : ∀ t ∈ ts, ∀ p ∈ t.posts, DivExact div p) :
    loadText cfg st (printL L div ts) = loadJournal st rs ∧ loadJournal st rs = .ok (sortTxns ts, st') := by
  have htne := accepted_ne_nil hrs hacc
  have hload := loadJournal_ok hrs hacc
  refine ⟨?_, hload⟩
  rw [hload, loadText_print cfg L hL div st ts htne hw]
  exact loadJournal_ok (by simpa using htne) (reaccept_journal div st st' rs ts hacc hne hdiv)

/-- `roundtrip_layout` with its hypotheses discharged from the lexical well-formedness of the *input* parse
    trees (`accept_wf`): what remains assumed is the contract of the division (`DivExact`, and that the printed
    unit prices are representable numbers) and `RawLex` of the parser's output (`parseJournal_rawLex` in
    `Props/C06b.lean` proves it for journals that come from text: `roundtrip_text`). -/
theorem roundtrip_accepted (cfg : Time.TsCfg) (L : Layout) (hL : LayoutOK L) (div : Dec → Dec → Dec)
    (st st' : Settings) (rs : List RawTxn) (ts : List Txn)
    (hacc : acceptJournal st rs = .ok (ts, st')) (hrs : rs ≠ []) (hlex : ∀ r ∈ rs, RawLex r)
    (hdw : ∀ t ∈ ts, ∀ p ∈ t.posts, p.isTotal = false → NumWF (div p.txnAmount p.amount))
    (hdiv : ∀ t ∈ ts, ∀ p ∈ t.posts, DivExact div p) :
    loadText cfg st (printL L div ts) = loadJournal st rs := by
  have hw : ∀ t ∈ ts, WF div t := by
    intro t ht
    obtain ⟨r, hr, s1, s2, hf⟩ := mapMS_ok acceptTxn rs st st' ts hacc t ht
    exact accept_wf div s1 s2 r t hf (hlex r hr) (hdw t ht)
  exact (roundtrip_layout cfg L hL div st st' rs ts hacc hrs
    (fun r hr rp hrp => unitNE_of_lex rp ((hlex r hr).posts rp hrp)) hw hdiv).1

theorem sortTxns_idem (ts : List Txn) : sortTxns (sortTxns ts) = sortTxns ts :=
  List.mergeSort_of_pairwise (sortTxns_sorted ts)

/-- **re-acceptance in any order**: the parse trees of the printed transactions of an accepted journal, arranged
    in any order `ts'` (a permutation of the accepted list), are accepted — to exactly `ts'`.
    (`reaccept_journal` for the acceptance order, then order independence of acceptance.) -/
theorem reaccept_perm (div : Dec → Dec → Dec) (st st' : Settings) (rs : List RawTxn) (ts ts' : List Txn)
    (h : acceptJournal st rs = .ok (ts, st')) (hp : ts'.Perm ts)
    (hne : ∀ r ∈ rs, ∀ rp ∈ r.posts, UnitNE rp.unit) (hdiv : ∀ t ∈ ts, ∀ p ∈ t.posts, DivExact div p) :
    ∃ st'', acceptJournal st (ts'.map (rawOf div)) = .ok (ts', st'') := by
  have h0 := reaccept_journal div st st' rs ts h hne hdiv
  have hm := (AcceptOrder.accept_as_map st (ts.map (rawOf div)) ts).mp ⟨st', h0⟩
  rw [List.map_map] at hm
  have hall : ∀ t ∈ ts, AcceptOrder.accO st (rawOf div t) = some t := List.map_inj_left.mp hm
  apply (AcceptOrder.accept_as_map st (ts'.map (rawOf div)) ts').mpr
  rw [List.map_map]
  exact List.map_inj_left.mpr (fun t ht => hall t (hp.subset ht))

/-- … and the settings after it have the same switches and the same charts, as sets, as after the original
    journal (`hcl`: in lax mode the initial account chart is ancestor-closed, as `Settings.ofConfig` builds it) -/
theorem reaccept_perm_state (div : Dec → Dec → Dec) (st st' st'' : Settings) (rs : List RawTxn) (ts ts' : List Txn)
    (h : acceptJournal st rs = .ok (ts, st')) (hp : ts'.Perm ts)
    (hne : ∀ r ∈ rs, ∀ rp ∈ r.posts, UnitNE rp.unit) (hdiv : ∀ t ∈ ts, ∀ p ∈ t.posts, DivExact div p)
    (hcl : st.strict = false → C12.AncClosed st.accounts)
    (h' : acceptJournal st (ts'.map (rawOf div)) = .ok (ts', st'')) : AcceptOrder.SameCharts st' st'' :=
  (AcceptOrder.final_state_perm st st' st'' _ _ ts ts' (hp.symm.map (rawOf div)) hcl
    (reaccept_journal div st st' rs ts h hne hdiv) h').1

/-- **C06 `identity_export_reloads`.**  The round trip for the order the export really uses: the identity export
    of the loaded (sorted) list of an accepted journal — whatever the order of the input — is a journal that
    loads to exactly that list, every field equal as in `roundtrip_layout`, in the same order. -/
theorem identity_export_reloads (cfg : Time.TsCfg) (div : Dec → Dec → Dec)
    (st st' : Settings) (rs : List RawTxn) (ts : List Txn)
    (hacc : acceptJournal st rs = .ok (ts, st')) (hrs : rs ≠ [])
    (hne : ∀ r ∈ rs, ∀ rp ∈ r.posts, UnitNE rp.unit)
    (hw : ∀ t ∈ ts, WF div t) (hdiv : ∀ t ∈ ts, ∀ p ∈ t.posts, DivExact div p) :
    ∃ st'', loadText cfg st (identityExport div (sortTxns ts)) = .ok (sortTxns ts, st'') := by
  have hp : (sortTxns ts).Perm ts := sortTxns_perm ts
  have hsne : sortTxns ts ≠ [] := fun e => accepted_ne_nil hrs hacc (by rw [e] at hp; exact hp.symm.eq_nil)
  obtain ⟨st'', h2⟩ := reaccept_perm div st st' rs ts (sortTxns ts) hacc hp hne hdiv
  refine ⟨st'', ?_⟩
  unfold identityExport
  rw [loadText_print cfg _ layoutOK_identity div st _ hsne (fun t ht => hw t (hp.subset ht)),
    loadJournal_ok (by simpa using hsne) h2, sortTxns_idem]

/-- **C06 `export_fixpoint_partial`.**
    Full statement: `identityExport (load (identityExport L)) = identityExport L` for the loaded list `L` of every
    accepted journal.  Proved for every accepted journal in whatever order it was written (`Lemmas/AcceptOrder`), for an
    abstract division `div`, under
    (a) `DivExact` of `div` on the `@` postings (the contract of `rust_decimal`'s division, tested by the tie) and
    (b) the lexical well-formedness of the accepted transactions (`WF`, `UnitNE`).
    `_partial`: (a) and (b) are hypotheses of this statement.  `Props/C06b.lean` proves them of the model's own division
    (`acceptTxn_divExact`) and of journals parsed from text (`parseJournal_rawLex`, `accept_wf`, `accepted_div_wf`).
    The re-loaded list *equals* the loaded list `sortTxns ts`, so exporting it again gives the identical text. -/
theorem export_fixpoint_partial (cfg : Time.TsCfg) (div : Dec → Dec → Dec)
    (st st' : Settings) (rs : List RawTxn) (ts : List Txn)
    (hacc : acceptJournal st rs = .ok (ts, st')) (hrs : rs ≠ [])
    (hne : ∀ r ∈ rs, ∀ rp ∈ r.posts, UnitNE rp.unit)
    (hw : ∀ t ∈ ts, WF div t) (hdiv : ∀ t ∈ ts, ∀ p ∈ t.posts, DivExact div p) :
    (∃ st'', loadText cfg st (identityExport div (sortTxns ts)) = .ok (sortTxns ts, st'')) ∧
    ∀ ts₂ st₂, loadText cfg st (identityExport div (sortTxns ts)) = .ok (ts₂, st₂) →
      identityExport div ts₂ = identityExport div (sortTxns ts) := by
  obtain ⟨st'', h⟩ := identity_export_reloads cfg div st st' rs ts hacc hrs hne hw hdiv
  refine ⟨⟨st'', h⟩, ?_⟩
  intro ts₂ st₂ h2
  rw [h] at h2
  cases h2; rfl

/-- the same, phrased on the load of the original journal: `L` is what `string_to_txns` returned -/
theorem export_fixpoint_loaded_partial (cfg : Time.TsCfg) (div : Dec → Dec → Dec)
    (st st' : Settings) (rs : List RawTxn) (L : List Txn)
    (hload : loadJournal st rs = .ok (L, st'))
    (hne : ∀ r ∈ rs, ∀ rp ∈ r.posts, UnitNE rp.unit)
    (hw : ∀ t ∈ L, WF div t) (hdiv : ∀ t ∈ L, ∀ p ∈ t.posts, DivExact div p) :
    (∃ st'', loadText cfg st (identityExport div L) = .ok (L, st'')) ∧
    ∀ L₂ st₂, loadText cfg st (identityExport div L) = .ok (L₂, st₂) → identityExport div L₂ = identityExport div L := by
  have hrs : rs ≠ [] := by rintro rfl; cases hload
  obtain ⟨ts, hacc, rfl⟩ := loadJournal_some hload
  have hp : (sortTxns ts).Perm ts := sortTxns_perm ts
  exact export_fixpoint_partial cfg div st st' rs ts hacc hrs hne
    (fun t ht => hw t (hp.symm.subset ht)) (fun t ht => hdiv t (hp.symm.subset ht))

/-- the executable division of the driver satisfies the contract whenever the transaction amount is an exact
    product `amount × price` -/
theorem divQuot_exact (a p t : Dec) (ha : a.coeff ≠ 0) (hp : p.coeff ≠ 0) (hm : Dec.mul a p = some t) :
    ∃ q, Dec.divQuot t a = some q ∧ Dec.mul a q = some t ∧ q.isNeg = p.isNeg := by
  unfold Dec.mul at hm
  have hz : (a.isZero || p.isZero) = false := by simp [Dec.isZero, ha, hp]
  simp only [hz, Bool.false_eq_true, if_false] at hm
  split at hm
  · rename_i hc
    cases hm
    have hpos : 0 < a.coeff := Nat.pos_of_ne_zero ha
    have hmul : a.coeff * p.coeff ≠ 0 := Nat.mul_ne_zero ha hp
    refine ⟨⟨(a.neg != p.neg) != a.neg, a.coeff * p.coeff / a.coeff, a.scale + p.scale - a.scale⟩, ?_, ?_, ?_⟩
    · unfold Dec.divQuot
      simp only [ha, hmul, if_false]
      have : a.scale ≤ a.scale + p.scale ∧ a.coeff * p.coeff % a.coeff = 0 := ⟨by omega, Nat.mul_mod_right _ _⟩
      simp only [this, and_self, if_true]
    · unfold Dec.mul
      have e1 : a.coeff * p.coeff / a.coeff = p.coeff := Nat.mul_div_cancel_left _ hpos
      have e2 : a.scale + p.scale - a.scale = p.scale := by omega
      have hz' : (a.coeff == 0 || p.coeff == 0) = false := by simp [ha, hp]
      simp only [Dec.isZero, e1, e2, hz', Bool.false_eq_true, if_false]
      simp only [hc, and_self, if_true]
      cases a.neg <;> cases p.neg <;> rfl
    · simp only [Dec.isNeg]
      cases a.neg <;> cases p.neg <;> rfl
  · cases hm

/-! ## the driver's division and settings; witnesses -/

def utc : Time.TsCfg := Time.utcCfg
def divQ (t a : Dec) : Dec := (Dec.divQuot t a).getD Dec.zero
def lax : Settings := Settings.ofConfig false false true [] [] []

/-- the check `TsOK` holds of ordinary instants, also with fractions, negative offsets and before 1970 -/
example : TsOK ⟨1704096000500000000, 7200⟩ = true := by decide
example : TsOK ⟨-2208988800000000001, -19800⟩ = true := by decide
example : TsOK ⟨4102444799999999999, 50400⟩ = true := by decide
/-- an offset with seconds (F13: a named zone, or a configured offset with seconds, produces it) is not `TsOK` -/
example : TsOK ⟨-2208994789000000000, 5989⟩ = false := by decide

/-- a small journal with a code, an `@` price and an implicit amount: accepted, and the model's own round
    trip through the identity export reproduces the export text (conclusion of `export_fixpoint_partial` on a
    concrete instance; the tie runs the same check on every generated journal) -/
def sample : List Char := "2024-03-01 (c)\n a 1.5 X @ 2 Y\n b\n".toList

/-- The characters of `sample`, read off the literal by `String.toList_ofList` (see `E2E.Ex.sample_parses`).  They stand
    behind a constant because the kernel shares the evaluation of `acceptText utc lax c` between the arms of a `match` for
    a constant `c`, not for a list written out in the goal. -/
def sampleChars : { l : List Char // sample = l } := ⟨_, String.toList_ofList⟩

set_option maxRecDepth 20000 in
example : (acceptText utc lax sample).isOk = true := by
  rw [sampleChars.2]
  decide

set_option maxRecDepth 20000 in
example : (match acceptText utc lax sample with
    | .ok (ts, _) => (match Print.identityExport? ts with
        | some text => (match acceptText utc lax text with
            | .ok (ts₂, _) => decide (Print.identityExport? ts₂ = some text)
            | _ => false)
        | none => false)
    | _ => false) = true := by
  rw [sampleChars.2]
  decide +kernel

/-- a journal written in *descending* order: the export prints the accepted transactions reversed, so the re-load
    threads them through the settings in another order than the input did (conclusion of `reaccept_perm` /
    `export_fixpoint_partial`; `sortTxns` is not evaluated: the example checks that the reversed list is in canonical order) -/
def sample2 : List Char := "2024-03-02 'second\n a:b 2 X\n c\n\n2024-03-01 'first\n a:b:d 1.5 X @ 2 Y\n e\n".toList

def sample2Chars : { l : List Char // sample2 = l } := ⟨_, String.toList_ofList⟩

set_option maxRecDepth 40000 in
example : (match acceptText utc lax sample2 with
    | .ok (ts, _) => (match Print.identityExport? ts.reverse with
        | some text => (match acceptText utc lax text with
            | .ok (ts₂, _) => decide (ts₂ = ts.reverse ∧ Print.identityExport? ts₂ = some text ∧
                ts.reverse.map (·.header.desc) = [some "first", some "second"] ∧
                (match ts.reverse with | [a, b] => txnLe a b && !txnLe b a | _ => false) = true)
            | _ => false)
        | none => false)
    | _ => false) = true := by
  rw [sample2Chars.2]
  decide +kernel

end C06
end Tackler
