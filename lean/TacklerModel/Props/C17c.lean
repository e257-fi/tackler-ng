import TacklerModel.Props.C17
/-!
# C17 (continued) — order, sign and stability of shown figures

`Props/C17.lean` fixes the value every printed figure denotes (`shown_value`).  A reader of a report also relies on
three consequences that a rounding routine with a mis-handled boundary (a truncation for one sign, a carry lost at a
digit border, banker's rounding for some digit) would break while each single figure still looks plausible:

* **order** — of two exact figures the larger never prints as the smaller (`shown_mono`);
* **sign** — a printed figure never has the opposite sign of the exact one (`shown_nonneg`, `shown_nonpos`);
* **stability** — rounding what is already rounded changes nothing (`roundHalfAway_idem`), and rounding to fewer
  decimals is symmetric about zero (`roundHalfAway_neg`, in `Props/C17`).

All statements hold for every scale, every decimal with at most 28 stored decimals and every pair of figures. (namespace `C17`).
-/
namespace Tackler
namespace C17

theorem roundHalfAway_nonneg (k : Nat) (u : Int) (h : 0 ≤ u) : 0 ≤ roundHalfAway k u := by
  obtain ⟨n, rfl⟩ := Int.eq_ofNat_of_zero_le h
  rw [roundHalfAway_natCast]
  exact Int.natCast_nonneg _

theorem roundHalfAway_nonpos (k : Nat) (u : Int) (h : u ≤ 0) : roundHalfAway k u ≤ 0 := by
  have := roundHalfAway_nonneg k (-u) (by omega)
  rw [roundHalfAway_neg] at this
  omega

theorem roundHalfAway_mono_of_nonneg (k : Nat) (u v : Int) (hu : 0 ≤ u) (h : u ≤ v) :
    roundHalfAway k u ≤ roundHalfAway k v := by
  obtain ⟨n, rfl⟩ := Int.eq_ofNat_of_zero_le hu
  obtain ⟨m, rfl⟩ := Int.eq_ofNat_of_zero_le (Int.le_trans hu h)
  rw [roundHalfAway_natCast, roundHalfAway_natCast]
  exact Int.ofNat_le.mpr (Nat.mul_le_mul_right _ (roundCoeff_mono k (Int.ofNat_le.mp h)))

/-- **Order.**  Rounding half away from zero is monotone over all integers (both signs, across zero). -/
theorem roundHalfAway_mono (k : Nat) (u v : Int) (h : u ≤ v) : roundHalfAway k u ≤ roundHalfAway k v := by
  rcases Int.le_total 0 u with hu | hu
  · exact roundHalfAway_mono_of_nonneg k u v hu h
  · rcases Int.le_total 0 v with hv | hv
    · exact Int.le_trans (roundHalfAway_nonpos k u hu) (roundHalfAway_nonneg k v hv)
    · -- both non-positive: the mirror image of the first case
      have := roundHalfAway_mono_of_nonneg k (-v) (-u) (by omega) (by omega)
      rw [roundHalfAway_neg, roundHalfAway_neg] at this
      omega

/-- **Stability.**  Rounding a rounded figure again (to the same unit) changes nothing. -/
theorem roundHalfAway_idem (k : Nat) (u : Int) : roundHalfAway k (roundHalfAway k u) = roundHalfAway k u := by
  obtain ⟨c, hc⟩ := roundHalfAway_dvd k u
  rw [hc, Int.mul_comm, roundHalfAway_exact]

/-- a figure strictly inside half a unit of zero is shown as zero, whatever its sign -/
theorem roundHalfAway_small (k : Nat) (u : Int) (h : 2 * u.natAbs < 10 ^ k) : roundHalfAway k u = 0 := by
  have h0 : roundCoeff u.natAbs k = 0 := by simpa using round_below_tie 0 k u.natAbs h
  obtain ⟨n, rfl | rfl⟩ := Int.eq_nat_or_neg u
  · simp_all [roundHalfAway_natCast]
  · simp_all [roundHalfAway_neg, roundHalfAway_natCast]

/-! ### lifted to the figures a report prints -/

/-- **C17 (order of shown figures).**  If the exact figure `d` is at most the exact figure `e`, the value printed
    for `d` is at most the value printed for `e` (same report scale). -/
theorem shown_mono (sc : Scale) (d e : Dec) (hd : d.scale ≤ 28) (he : e.scale ≤ 28) (hwf : sc.WF)
    (h : d.units ≤ e.units) : valueOfShown (shownChars sc d) ≤ valueOfShown (shownChars sc e) := by
  rw [(shown_value sc d hd hwf).1, (shown_value sc e he hwf).1]
  exact roundHalfAway_mono _ _ _ h

/-- **C17 (sign of shown figures).**  A non-negative exact figure is never printed as a negative value … -/
theorem shown_nonneg (sc : Scale) (d : Dec) (hd : d.scale ≤ 28) (hwf : sc.WF) (h : 0 ≤ d.units) :
    0 ≤ valueOfShown (shownChars sc d) := by
  rw [(shown_value sc d hd hwf).1]; exact roundHalfAway_nonneg _ _ h

/-- … and a non-positive one never as a positive value. -/
theorem shown_nonpos (sc : Scale) (d : Dec) (hd : d.scale ≤ 28) (hwf : sc.WF) (h : d.units ≤ 0) :
    valueOfShown (shownChars sc d) ≤ 0 := by
  rw [(shown_value sc d hd hwf).1]; exact roundHalfAway_nonpos _ _ h

/-- equal exact figures print the same value, however they are stored (`1.50` vs `1.5`) -/
theorem shown_value_ext (sc : Scale) (d e : Dec) (hd : d.scale ≤ 28) (he : e.scale ≤ 28) (hwf : sc.WF)
    (h : d.units = e.units) : valueOfShown (shownChars sc d) = valueOfShown (shownChars sc e) := by
  rw [(shown_value sc d hd hwf).1, (shown_value sc e he hwf).1, h]

/-- non-vacuity and the boundary: at the unit `10^1`, ±5 (half a unit) goes away from zero and ±4 goes to zero -/
example : roundHalfAway 1 (-5) = -10 ∧ roundHalfAway 1 (-4) = 0 ∧ roundHalfAway 1 4 = 0 ∧ roundHalfAway 1 5 = 10 := by
  decide

end C17
end Tackler
