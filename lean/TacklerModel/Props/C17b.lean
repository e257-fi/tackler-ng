import TacklerModel.Model.ReportText
import TacklerModel.Props.C17
import TacklerModel.Props.C03
import TacklerModel.Props.C13
/-!
# C17 (continued, namespace `C17`) — display only, for the register and the balance-group report (journal level)

`Props/C17.lean` proves the single-figure statements (`shown_value`, `half_away`, …) and `display_only` for the
balance report.  This file lifts `display_only` to the two other text reports, over the engines of
`Model/Register.lean` and `Model/Group.lean` and the text step of `Model/ReportText.lean`:

* `register_report_factors`, `balgrp_report_factors(_by)`: the report at any scale is the text step applied to the
  same engine result.
* `register_figures`: stored scales ≤ 28, so `shown_value` covers every printed figure.
* `register_display_only`: a printed running total denotes the *exact* prefix sum of C03 `running_total` rounded once –
  not a sum of rounded amounts (`runningUp_*`: the journal on which the two differ); each figure has the precision of
  its own stored scale.
* `balgrp_display_only(_by)`: every printed group is the balance report of the group's members (C13 `group_figures`),
  and C17 `display_only` holds for it.
-/
namespace Tackler
namespace C17
open Dec Reg

/-! ### the register engine keeps stored scales ≤ 28 -/

/-- **register_figures**: every figure the register engine hands to the writer – the posting's own amount and the
    running total of every listed row – has a stored scale ≤ 28, for every selector -/
theorem register_figures (sel : RegRow → Bool) (txns : List Txn) (es : List RegEntry) (hwf : C03.TxnsWF txns)
    (h : register sel txns = .ok es) :
    ∀ e ∈ es, ∀ r ∈ e.rows, r.post.amount.scale ≤ 28 ∧ r.total.scale ≤ 28 := by
  rw [C03.selector_only_hides, Outcome.map_ok] at h
  obtain ⟨es0, h0, rfl⟩ := h
  intro e he r hr
  obtain ⟨e0, he0, rfl⟩ := List.mem_map.mp he
  obtain ⟨h28, x, hx, it, hi, hp⟩ := C03.rows_wf_stream (plainStream txns) es0 (C03.plainStream_wf txns hwf) h0
    e0 he0 r (List.mem_filter.mp hr).1
  refine ⟨?_, h28⟩
  simp only [plainStream, List.mem_map] at hx
  obtain ⟨t, ht, rfl⟩ := hx
  simp only [noConv, List.mem_map] at hi
  obtain ⟨p, hpp, rfl⟩ := hi
  rw [hp]
  exact hwf t ht p hpp

/-! ### the register report: display only -/

/-- the scale enters after the engine: `register : (RegRow → Bool) → List Txn → Outcome (List RegEntry)` has no
    scale argument, and the report at *any* scale is `registerTxt` of the same entries -/
theorem register_report_factors (sel : RegRow → Bool) (txns : List Txn) (sc : Scale) (t : List ShownRegEntry)
    (h : registerReport sc sel txns = .ok t) :
    ∃ es, register sel txns = .ok es ∧ t = registerTxt sc es ∧
      ∀ sc', registerReport sc' sel txns = .ok (registerTxt sc' es) :=
  map_factors (register sel txns) registerTxt sc t h

/-- the tokens of the two figure columns: `amount_to_string`'s leading blank is layout -/
theorem regRowTxt_cols (sc : Scale) (r : RegRow) :
    (regRowTxt sc r).amount.toList = (regRowCols sc r).1.dropWhile (· == ' ') ∧
    (regRowTxt sc r).total.toList = (regRowCols sc r).2.dropWhile (· == ' ') := by
  unfold regRowTxt regRowCols
  simp only [shown_toList, amountToString_strip, and_self]

/-- **C17 (4) display only, register report.**  For every selector and every scale: the report is `registerTxt sc`
    of the entries `es` of the engine, which is computed without the scale (the same `es` serves every scale
    `sc'`); the written entries are those with a listed row, in order; every line prints `shown sc` of the
    posting's own amount and `shown sc` of the engine's running total, each with the precision of *its own*
    stored scale; the printed amount denotes the posting's exact amount rounded half away from zero to `max`
    decimals, and the printed running total denotes the **exact running total of C03** (all postings to the same
    (commodity, account) in the transactions before, plus those of this transaction at in-entry positions `≤ j`,
    hidden rows included) rounded half away from zero – one rounding of the exact sum, never a sum of rounded
    amounts. -/
theorem register_display_only (sel : RegRow → Bool) (txns : List Txn) (sc : Scale) (t : List ShownRegEntry)
    (hwf : sc.WF) (htx : C03.TxnsWF txns) (h : registerReport sc sel txns = .ok t) :
    ∃ es, register sel txns = .ok es
      ∧ (∀ sc', registerReport sc' sel txns = .ok (registerTxt sc' es))
      ∧ t = (es.filter (fun e => !e.rows.isEmpty)).map (fun e =>
          ⟨e.txn, e.rows.map (fun r => ⟨r.post.acct, r.comm, shown sc r.post.amount, shown sc r.total⟩)⟩)
      ∧ es.length = txns.length
      ∧ ∀ i e, es[i]? = some e → ∃ tx, txns[i]? = some tx ∧ e.txn = tx ∧
          ∀ r ∈ e.rows, sel r = true ∧ ∃ j p, (C03.sortedPosts tx)[j]? = some p ∧ r.post = p ∧ r.comm = p.comm ∧
            valueOfShown (shown sc r.post.amount).toList = roundHalfAway (28 - sc.max) p.amount.units ∧
            decimalsOf (shown sc r.post.amount).toList = sc.getPrecision r.post.amount ∧
            valueOfShown (shown sc r.total).toList = roundHalfAway (28 - sc.max)
              (C03.postSum p.acctnKey ((txns.take i).flatMap (·.posts))
                + C03.postSum p.acctnKey ((C03.sortedPosts tx).take (j + 1))) ∧
            decimalsOf (shown sc r.total).toList = sc.getPrecision r.total := by
  obtain ⟨es, hes, rfl, hall⟩ := register_report_factors sel txns sc t h
  have hfig := register_figures sel txns es htx hes
  have hrun := C03.running_total_selected sel txns es htx hes
  refine ⟨es, hes, hall, rfl, hrun.1, ?_⟩
  intro i e hi
  obtain ⟨tx, htxi, hetx, hrows⟩ := hrun.2 i e hi
  refine ⟨tx, htxi, hetx, ?_⟩
  intro r hr
  obtain ⟨hsel, j, p, hp, hrp, hrc, htot⟩ := hrows r hr
  have he : e ∈ es := List.mem_of_getElem? hi
  obtain ⟨ha28, ht28⟩ := hfig e he r hr
  have hva := shown_value sc r.post.amount ha28 hwf
  have hvt := shown_value sc r.total ht28 hwf
  refine ⟨hsel, j, p, hp, hrp, hrc, ?_, ?_, ?_, ?_⟩
  · rw [shown_toList, hva.1, hrp]
  · rw [shown_toList, hva.2]
  · rw [shown_toList, hvt.1, htot]
  · rw [shown_toList, hvt.2]

/-- every printed register figure obeys the single-figure statements: between `min` and `max` decimals, and at most
    half a unit of the last shown digit away from the exact figure -/
theorem register_decimals_error (sel : RegRow → Bool) (txns : List Txn) (sc : Scale) (es : List RegEntry)
    (hwf : sc.WF) (htx : C03.TxnsWF txns) (h : register sel txns = .ok es) :
    ∀ e ∈ es, ∀ r ∈ e.rows,
      (sc.min ≤ decimalsOf (shown sc r.post.amount).toList ∧ decimalsOf (shown sc r.post.amount).toList ≤ sc.max) ∧
      (sc.min ≤ decimalsOf (shown sc r.total).toList ∧ decimalsOf (shown sc r.total).toList ≤ sc.max) ∧
      2 * (valueOfShown (shown sc r.post.amount).toList - r.post.amount.units).natAbs ≤ 10 ^ (28 - sc.max) ∧
      2 * (valueOfShown (shown sc r.total).toList - r.total.units).natAbs ≤ 10 ^ (28 - sc.max) := by
  intro e he r hr
  obtain ⟨ha28, ht28⟩ := register_figures sel txns es htx h e he r hr
  rw [shown_toList, shown_toList]
  exact ⟨decimals_bounds sc _ hwf, decimals_bounds sc _ hwf, half_away_error sc _ ha28 hwf,
    half_away_error sc _ ht28 hwf⟩

/-! ### the balance-group report: display only -/

/-- the scale enters after the engine (`balanceGroupsBy` has no scale argument): one engine result serves every
    scale -/
theorem balgrp_report_factors_by (st : Settings) (sel : BalRow → Bool) (key : Txn → String) (txns : List Txn)
    (sc : Scale) (t : List GroupText) (h : balgrpReportBy st sel key sc txns = .ok t) :
    ∃ gs, balanceGroupsBy st sel key txns = .ok gs ∧ t = balgrpTxt sc gs ∧
      ∀ sc', balgrpReportBy st sel key sc' txns = .ok (balgrpTxt sc' gs) :=
  map_factors (balanceGroupsBy st sel key txns) balgrpTxt sc t h

/-- the same for the report with the period key of `get_group_by_op` -/
theorem balgrp_report_factors (st : Settings) (sel : BalRow → Bool) (g : GroupBy) (tz : Time.JournalTz)
    (txns : List Txn) (sc : Scale) (t : List GroupText) (h : balgrpReport st sel g tz sc txns = .ok t) :
    ∃ gs, balanceGroups st sel g tz txns = .ok gs ∧ t = balgrpTxt sc gs ∧
      (∀ sc', balgrpReport st sel g tz sc' txns = .ok (balgrpTxt sc' gs)) ∧
      balgrpReportBy st sel (groupKey g tz) sc txns = .ok t := by
  obtain ⟨gs, hgs, rfl, hall⟩ := map_factors (balanceGroups st sel g tz txns) balgrpTxt sc t h
  refine ⟨gs, hgs, rfl, hall, ?_⟩
  unfold balgrpReportBy
  rw [(C13.balanceGroups_ok st sel g tz txns gs hgs).2]; rfl

theorem postsOf_scale (txns : List Txn) (hwf : C03.TxnsWF txns) : ∀ p ∈ postsOf txns, p.amount.scale ≤ 28 := by
  intro p hp
  simp only [postsOf, List.mem_flatMap, List.mem_map] at hp
  obtain ⟨t, ht, q, hq, rfl⟩ := hp
  exact hwf t ht q hq

/-- **C17 (4) display only, balance-group report** (any key function).  The report is `balgrpTxt sc` of the groups
    `gs` of the engine, which is computed without the scale (the same `gs` serves every scale `sc'`); every printed
    group is, by C13 `group_figures`, the balance (`Balance::from_iter`) of the transactions whose key is its title,
    its text is exactly the *balance report* of those members at the scale, and C17 `display_only` holds for it:
    every row figure denotes the exact account / tree sum rounded half away from zero, every delta the rounded
    *exact* sum of the unrounded account sums of its commodity. -/
theorem balgrp_display_only_by (st : Settings) (sel : BalRow → Bool) (key : Txn → String) (txns : List Txn)
    (sc : Scale) (t : List GroupText) (hwf : sc.WF) (htx : C03.TxnsWF txns)
    (h : balgrpReportBy st sel key sc txns = .ok t) :
    ∃ gs, balanceGroupsBy st sel key txns = .ok gs
      ∧ (∀ sc', balgrpReportBy st sel key sc' txns = .ok (balgrpTxt sc' gs))
      ∧ t = gs.map (fun g => ⟨g.title, balanceTxt sc g.bal⟩)
      ∧ ∀ g ∈ gs, ∃ members, members = txns.filter (fun tx => decide (key tx = g.title))
          ∧ fromIter st sel (postsOf members) = .ok g.bal
          ∧ (∀ sc', balanceReport st sel sc' (postsOf members) = .ok (balanceTxt sc' g.bal))
          ∧ (balanceTxt sc g.bal).rows = g.bal.rows.map (fun r => ⟨r.acct, r.comm, shown sc r.own, shown sc r.tree⟩)
          ∧ (balanceTxt sc g.bal).deltas = g.bal.deltas.map (fun cd => (cd.1, shown sc cd.2))
          ∧ (∀ r ∈ g.bal.rows,
              valueOfShown (shown sc r.own).toList = roundHalfAway (28 - sc.max) r.own.units ∧
              valueOfShown (shown sc r.tree).toList = roundHalfAway (28 - sc.max) r.tree.units)
          ∧ (∀ cd ∈ g.bal.deltas, ∃ c, (cd.1, c) ∈ chunkBy (·.comm) g.bal.rows ∧ (∀ r ∈ c, r ∈ g.bal.rows) ∧
              valueOfShown (shown sc cd.2).toList = roundHalfAway (28 - sc.max) (c.map (·.own.units)).sum) := by
  obtain ⟨gs, hgs, rfl, hall⟩ := balgrp_report_factors_by st sel key txns sc t h
  refine ⟨gs, hgs, hall, rfl, ?_⟩
  intro g hg
  obtain ⟨members, _, hmem, hfi, _⟩ := C13.group_figures st sel key txns gs hgs g hg
  have hsub : C03.TxnsWF members := by
    intro tx htxm
    rw [hmem] at htxm
    exact htx tx (List.mem_filter.mp htxm).1
  have hrep : balanceReport st sel sc (postsOf members) = .ok (balanceTxt sc g.bal) := by
    unfold balanceReport; rw [hfi]; rfl
  obtain ⟨b, hb, hall', hr, hd, hrows, hdel⟩ :=
    display_only st sel (postsOf members) sc (balanceTxt sc g.bal) hwf (postsOf_scale members hsub) hrep
  have hbg : b = g.bal := by
    rw [hfi] at hb; cases hb; rfl
  subst hbg
  exact ⟨members, hmem, hfi, hall', hr, hd, hrows, hdel⟩

/-- **C17 (4) display only, balance-group report** with the period key of the report (all five group-by settings,
    report zone as a fixed offset or a zone table inside its window) -/
theorem balgrp_display_only (st : Settings) (sel : BalRow → Bool) (g : GroupBy) (tz : Time.JournalTz)
    (txns : List Txn) (sc : Scale) (t : List GroupText) (hwf : sc.WF) (htx : C03.TxnsWF txns)
    (h : balgrpReport st sel g tz sc txns = .ok t) :
    ∃ gs, balanceGroups st sel g tz txns = .ok gs
      ∧ (∀ sc', balgrpReport st sel g tz sc' txns = .ok (balgrpTxt sc' gs))
      ∧ t = gs.map (fun gr => ⟨gr.title, balanceTxt sc gr.bal⟩)
      ∧ ∀ gr ∈ gs, ∃ members, members = txns.filter (fun tx => decide (groupKey g tz tx = gr.title))
          ∧ fromIter st sel (postsOf members) = .ok gr.bal
          ∧ (∀ sc', balanceReport st sel sc' (postsOf members) = .ok (balanceTxt sc' gr.bal))
          ∧ (∀ r ∈ gr.bal.rows,
              valueOfShown (shown sc r.own).toList = roundHalfAway (28 - sc.max) r.own.units ∧
              valueOfShown (shown sc r.tree).toList = roundHalfAway (28 - sc.max) r.tree.units)
          ∧ (∀ cd ∈ gr.bal.deltas, ∃ c, (cd.1, c) ∈ chunkBy (·.comm) gr.bal.rows ∧ (∀ r ∈ c, r ∈ gr.bal.rows) ∧
              valueOfShown (shown sc cd.2).toList = roundHalfAway (28 - sc.max) (c.map (·.own.units)).sum) := by
  obtain ⟨gs, hgs, rfl, hall, hby⟩ := balgrp_report_factors st sel g tz txns sc t h
  obtain ⟨gs', hgs', _, _, hfig⟩ := balgrp_display_only_by st sel (groupKey g tz) txns sc _ hwf htx hby
  have heq : gs' = gs := by
    rw [(C13.balanceGroups_ok st sel g tz txns gs hgs).2] at hgs'; cases hgs'; rfl
  subst heq
  refine ⟨gs', hgs, hall, rfl, ?_⟩
  intro gr hgr
  obtain ⟨members, hmem, hfi, hall', _, _, hrows, hdel⟩ := hfig gr hgr
  exact ⟨members, hmem, hfi, hall', hrows, hdel⟩

/-! ### non-vacuity and the journal on which "rounded exact total" and "sum of rounded amounts" differ -/

def mkPost (a : String) (x : Dec) : Posting := ⟨[a], "", x, x, false, "", none⟩
def mkTxn (ns : Int) (posts : List Posting) : Txn := ⟨⟨⟨ns, 0⟩, none, none, none, none, none, none⟩, posts⟩

/-- **Amounts round up, the running total rounds down.**  Two transactions, each ` a 0.006 / b -0.006`. -/
def runningUp : List Txn :=
  [mkTxn 0 [mkPost "a" (dec false 6 3), mkPost "b" (dec true 6 3)],
   mkTxn 1 [mkPost "a" (dec false 6 3), mkPost "b" (dec true 6 3)]]

def regRow (a : String) (x tot : Dec) : RegRow := ⟨mkPost a x, tot, "", none⟩

/-- the engine: exact running totals 0.006, 0.012 and -0.006, -0.012 -/
theorem runningUp_register : register selAll runningUp = .ok [
    ⟨mkTxn 0 [mkPost "a" (dec false 6 3), mkPost "b" (dec true 6 3)],
      [regRow "a" (dec false 6 3) (dec false 6 3), regRow "b" (dec true 6 3) (dec true 6 3)]⟩,
    ⟨mkTxn 1 [mkPost "a" (dec false 6 3), mkPost "b" (dec true 6 3)],
      [regRow "a" (dec false 6 3) (dec false 12 3), regRow "b" (dec true 6 3) (dec true 12 3)]⟩] := by
  simp [register, registerEngine, plainStream, registerLoop, registerTxn, accPostings, accPosting, noConv,
    List.mergeSort, List.MergeSort.Internal.splitInTwo, itemLe, rowLe, Posting.acctnKey, keyLe, acctName,
    runningUp, mkTxn, mkPost, regRow, dec, RegMap.set, RegMap.empty, RItem.key, Outcome.ofOption, Dec.add,
    Dec.isZero, sgn, max96]

example : C03.TxnsWF runningUp := by
  unfold C03.TxnsWF
  decide

/-- at scale 2..2 every amount is shown as ±0.01 and **every running total as ±0.01**: the second total is the exact
    0.012 rounded (0.01), not the sum 0.02 of the two shown amounts -/
theorem runningUp_report : (registerReport ⟨2, 2⟩ selAll runningUp).map
      (fun es => es.map (fun e => e.rows.map (fun r => (r.amount.toList, r.total.toList))))
    = .ok [[("0.01".toList, "0.01".toList), ("-0.01".toList, "-0.01".toList)],
           [("0.01".toList, "0.01".toList), ("-0.01".toList, "-0.01".toList)]] := by
  unfold registerReport
  rw [runningUp_register]
  simp only [Outcome.map, registerTxt, printedEntries, regRow, mkPost]
  decide

/-- the shown total is not the sum of the shown amounts … -/
example : valueOfShown "0.01".toList + valueOfShown "0.01".toList ≠ valueOfShown "0.01".toList := by decide
/-- … it is the exact prefix sum 0.006 + 0.006 rounded once (`register_display_only`) -/
example : valueOfShown (shownChars ⟨2, 2⟩ (dec false 12 3)) = roundHalfAway 26 (6 * 10 ^ 25 + 6 * 10 ^ 25) := by decide
example : roundHalfAway 26 (6 * 10 ^ 25) + roundHalfAway 26 (6 * 10 ^ 25) ≠ roundHalfAway 26 (6 * 10 ^ 25 + 6 * 10 ^ 25) := by
  decide
/-- the other way round: amounts 0.004 round down, their exact total 0.008 rounds up -/
example : roundHalfAway 26 (4 * 10 ^ 25) + roundHalfAway 26 (4 * 10 ^ 25) = 0 ∧
    roundHalfAway 26 (4 * 10 ^ 25 + 4 * 10 ^ 25) = 10 ^ 26 := by decide

/-- each figure has its *own* precision: at scale 2..4 the amount 0.5 (stored scale 1) is padded to `0.50` while the
    running total 0.125 + 0.5 = 0.625 (stored scale 3) is shown with 3 decimals -/
example : regRowTxt ⟨2, 4⟩ (regRow "a" (dec false 5 1) (dec false 625 3))
    = ⟨["a"], "", "0.50", "0.625"⟩ := by decide
/-- a running total that returns to zero keeps the larger stored scale and no sign: `0.00`; a negative total that
    rounds to zero loses its sign -/
example : Dec.add (dec false 4 3) (dec true 4 3) = some (dec false 0 3) := by decide
example : regRowTxt ⟨2, 2⟩ (regRow "a" (dec true 4 3) (dec false 0 3)) = ⟨["a"], "", "0.00", "0.00"⟩ := by decide
example : regRowTxt ⟨2, 2⟩ (regRow "a" (dec true 3 3) (dec true 4 3)) = ⟨["a"], "", "0.00", "0.00"⟩ := by decide
/-- the column text of a wide non-negative figure starts with a blank, its token is the figure -/
example : (regRowCols ⟨28, 28⟩ (regRow "a" (dec false 1 0) (dec true 1 0))).1 = (' ' :: "1.".toList) ++ List.replicate 28 '0'
    ∧ ((regRowCols ⟨28, 28⟩ (regRow "a" (dec false 1 0) (dec true 1 0))).2).head? = some '-' := by decide
/-- an entry without a listed row is not written -/
example : registerTxt ⟨2, 2⟩ [⟨mkTxn 0 [], []⟩, ⟨mkTxn 1 [], [regRow "a" (dec false 1 0) (dec false 1 0)]⟩]
    = [⟨mkTxn 1 [], [⟨["a"], "", "1.00", "1.00"⟩]⟩] := by decide

/-- a balance group is printed like a balance report: `partsUp` as a group -/
example : balgrpTxt ⟨2, 2⟩ [⟨"2024-01", partsUp⟩]
    = [⟨"2024-01", ⟨[⟨["p", "c1"], "", "0.01", "0.01"⟩, ⟨["p", "c2"], "", "0.01", "0.01"⟩], [("", "0.01")]⟩⟩] := by decide

end C17
end Tackler
