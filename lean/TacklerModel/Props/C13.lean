import TacklerModel.Model.Group
import TacklerModel.Lemmas.ChunkBy
import TacklerModel.Lemmas.Time
import TacklerModel.Lemmas.Period
import TacklerModel.Lemmas.Order
import TacklerModel.Props.C02
/-!
# C13 — the balance-group report partitions the transactions by period in the report time zone

Property theorems over `Model/Group.lean`: `accumulator::balance_groups` (stable sort by key, then runs of equal
keys), `BalanceGroupReporter::get_group_by_op` and the `as_tz_*` functions of `tackler_api::txn_ts`.

The grouping theorems (`group_partition`, `group_figures`, `group_keys`, `group_total`, `empty_groups_dropped`,
`no_panic`, and the closed form `group_candidates_eq`; what the candidates are is collected in `CandSpec`) hold for
**every key function** `key : Txn → String` — hence for every group-by setting, every report zone (fixed offset or
any zone table, monotone or not) and every list of transactions; figures are on the value layer (`Dec.units`).
`key_is_period` says what the key of the report is: the period text of the instant's civil date at the report
zone's offset.  Finding F12 is about `balanceGroupsConsecutive`, which takes runs of equal keys along the
instant-ordered list: `fixed_offset_unchanged` shows that at a fixed offset it prints the same groups, and
`witness_F12` is the counter-example for a zone whose local date goes back.
-/
namespace Tackler
namespace C13

open ChunkBy ListSum

/-! ### the order of the group keys -/

/-- comparing by a string key, `a ≤ b` as `¬ key b < key a` (`keyLeS`, and the title order of `balanceGroupsConsecutive`), is
    transitive and total -/
theorem notLt_trans {α} (f : α → String) (a b c : α) (h1 : (!decide (f b < f a)) = true)
    (h2 : (!decide (f c < f b)) = true) : (!decide (f c < f a)) = true := by
  simp only [Bool.not_eq_true', decide_eq_false_iff_not] at *; grind

theorem notLt_total {α} (f : α → String) (a b : α) :
    ((!decide (f b < f a)) || (!decide (f a < f b))) = true := by
  simp only [Bool.or_eq_true, Bool.not_eq_true', decide_eq_false_iff_not]; grind

theorem sorted_pairwise (key : Txn → String) (txns : List Txn) :
    (txns.mergeSort (keyLeS key)).Pairwise (fun a b => key a = key b ∨ key a < key b) := by
  have h := List.pairwise_mergeSort (le := keyLeS key) (notLt_trans key) (notLt_total key) txns
  apply h.imp
  intro a b hab
  simp only [keyLeS, Bool.not_eq_true', decide_eq_false_iff_not] at hab; grind

/-- the sort is stable: the transactions of one key keep their journal order -/
theorem sorted_filter (key : Txn → String) (txns : List Txn) (k : String) :
    (txns.mergeSort (keyLeS key)).filter (fun t => decide (key t = k)) = txns.filter (fun t => decide (key t = k)) := by
  have hsub : List.Sublist (txns.filter (fun t => decide (key t = k))) (txns.mergeSort (keyLeS key)) := by
    apply List.sublist_mergeSort (notLt_trans key) (notLt_total key) _ List.filter_sublist
    apply List.pairwise_of_forall_mem_list
    intro a ha b hb
    have ha' := (List.mem_filter.mp ha).2
    have hb' := (List.mem_filter.mp hb).2
    simp only [decide_eq_true_eq] at ha' hb'
    simp only [ha', hb', Bool.not_eq_true', decide_eq_false_iff_not]; exact String.lt_irrefl _
  have hsub2 : List.Sublist (txns.filter (fun t => decide (key t = k)))
      ((txns.mergeSort (keyLeS key)).filter (fun t => decide (key t = k))) := by
    have := hsub.filter (fun t => decide (key t = k))
    simpa only [List.filter_filter, Bool.and_self] using this
  have hlen : ((txns.mergeSort (keyLeS key)).filter (fun t => decide (key t = k))).length
      = (txns.filter (fun t => decide (key t = k))).length :=
    ((List.mergeSort_perm txns (keyLeS key)).filter _).length_eq
  exact (hsub2.eq_of_length hlen.symm).symm

/-! ### the group candidates -/

/-- what `sorted_by_cached_key(key).chunk_by(key)` yields, for every key function:
    the members of all candidates together are a permutation of the transactions; a candidate is not empty and its
    members all have its key; the keys are strictly ascending (so no key comes twice); and the candidate of a key is
    exactly the sub-list of the transactions with that key, in journal order. -/
structure CandSpec (key : Txn → String) (txns : List Txn) (cs : List (String × List Txn)) : Prop where
  perm : ((cs.map (·.2)).flatten).Perm txns
  members : ∀ kg ∈ cs, kg.2 ≠ [] ∧ ∀ t ∈ kg.2, key t = kg.1
  strict : (cs.map (·.1)).Pairwise (· < ·)
  filter : ∀ kg ∈ cs, kg.2 = txns.filter (fun t => decide (key t = kg.1))

theorem strict_nodup {l : List String} (h : l.Pairwise (· < ·)) : l.Nodup :=
  h.imp (fun {a b} hab e => by subst e; exact String.lt_irrefl _ hab)

theorem candidates_spec (key : Txn → String) (txns : List Txn) : CandSpec key txns (groupCandidates key txns) := by
  obtain ⟨hstrict, -, hfilter⟩ := chunkBy_sorted key (· < ·) (fun _ _ _ => String.lt_trans) String.lt_irrefl _
    (sorted_pairwise key txns)
  refine ⟨?_, chunkBy_keys key _, hstrict, fun kg h => by rw [hfilter kg h, sorted_filter]⟩
  unfold groupCandidates
  rw [chunkBy_flatten]
  exact List.mergeSort_perm _ _

theorem chunk_keys_iff {α} (key : α → String) (l : List α) (k : String) :
    k ∈ (chunkBy key l).map (·.1) ↔ ∃ a ∈ l, key a = k := by
  constructor
  · intro hk
    obtain ⟨kg, hkg, rfl⟩ := List.mem_map.mp hk
    exact chunk_key_mem key l kg hkg
  · rintro ⟨a, ha, rfl⟩
    obtain ⟨g, hg, _⟩ := mem_chunk key l a ha
    exact List.mem_map.mpr ⟨_, hg, rfl⟩

/-- a list of groups each of which is the sub-list of its key is determined by its keys -/
theorem groups_eq_map (key : Txn → String) (txns : List Txn) (cs : List (String × List Txn))
    (h : ∀ kg ∈ cs, kg.2 = txns.filter (fun t => decide (key t = kg.1))) :
    cs = (cs.map (·.1)).map (fun k => (k, txns.filter (fun t => decide (key t = k)))) := by
  rw [List.map_map]
  conv => lhs; rw [← List.map_id cs]
  exact List.map_congr_left fun kg hkg => Prod.ext rfl (h kg hkg)

/-- **group_partition**: before empty groups are dropped, the group candidates partition the transactions —
    (1) the concatenation of the candidates' members is a permutation of the transactions;
    (2) the members of a candidate all have the candidate's key, and a candidate has a member;
    (3) every transaction is a member of exactly one candidate (the one of its key);
    (4) the candidate of a key holds exactly the transactions with that key, in journal order. -/
theorem group_partition (key : Txn → String) (txns : List Txn) :
    (((groupCandidates key txns).map (·.2)).flatten).Perm txns ∧
    (∀ kg ∈ groupCandidates key txns, kg.2 ≠ [] ∧ ∀ t ∈ kg.2, key t = kg.1) ∧
    (∀ t ∈ txns, ∃ kg ∈ groupCandidates key txns, t ∈ kg.2 ∧ kg.1 = key t ∧
        ∀ kg' ∈ groupCandidates key txns, t ∈ kg'.2 → kg' = kg) ∧
    (∀ kg ∈ groupCandidates key txns, kg.2 = txns.filter (fun t => decide (key t = kg.1))) := by
  have hs := candidates_spec key txns
  refine ⟨hs.perm, hs.members, ?_, hs.filter⟩
  intro t ht
  have hm : t ∈ ((groupCandidates key txns).map (·.2)).flatten := hs.perm.symm.subset ht
  obtain ⟨g, hg, htg⟩ := List.mem_flatten.mp hm
  obtain ⟨kg, hkg, rfl⟩ := List.mem_map.mp hg
  have hk : key t = kg.1 := (hs.members kg hkg).2 t htg
  refine ⟨kg, hkg, htg, hk.symm, ?_⟩
  intro kg' hkg' htg'
  have hk' : key t = kg'.1 := (hs.members kg' hkg').2 t htg'
  exact C02.eq_of_nodup_map (·.1) (strict_nodup hs.strict) hkg' hkg (hk'.symm.trans hk)

/-! ### the balances of the candidates -/

/-- element-wise relation of two lists (core Lean has no `Forall₂`) -/
inductive Forall₂ {α β} (R : α → β → Prop) : List α → List β → Prop where
  | nil : Forall₂ R [] []
  | cons {a b l₁ l₂} : R a b → Forall₂ R l₁ l₂ → Forall₂ R (a :: l₁) (b :: l₂)

theorem groupBalances_spec (st : Settings) (sel : BalRow → Bool) :
    ∀ (cs : List (String × List Txn)) (bs : List BalGroup), groupBalances st sel cs = .ok bs →
      Forall₂ (fun kg b => b.title = kg.1 ∧ fromIter st sel (postsOf kg.2) = .ok b.bal) cs bs := by
  intro cs
  induction cs with
  | nil => intro bs h; simp only [groupBalances, Outcome.ok.injEq] at h; subst h; exact .nil
  | cons c rest ih =>
    intro bs h
    obtain ⟨k, g⟩ := c
    simp only [groupBalances] at h
    split at h
    · cases h
    · cases h
    · rename_i b hb
      split at h
      · cases h
      · cases h
      · rename_i r hr
        cases h
        exact .cons ⟨rfl, hb⟩ (ih r hr)

theorem groupBalances_of_forall₂ (st : Settings) (sel : BalRow → Bool) :
    ∀ (cs : List (String × List Txn)) (bs : List BalGroup),
      Forall₂ (fun kg b => b.title = kg.1 ∧ fromIter st sel (postsOf kg.2) = .ok b.bal) cs bs →
      groupBalances st sel cs = .ok bs := by
  intro cs
  induction cs with
  | nil => intro bs h; cases h; rfl
  | cons c rest ih =>
    intro bs h
    cases h with
    | cons hab htl =>
      rename_i b bs'
      obtain ⟨k, g⟩ := c
      obtain ⟨t, bal⟩ := b
      simp only at hab
      obtain ⟨rfl, hb⟩ := hab
      simp only [groupBalances, hb, ih bs' htl]

/-- the balance of one candidate (an empty balance where `from_iter` does not answer) -/
def balOf (st : Settings) (sel : BalRow → Bool) (kg : String × List Txn) : BalGroup :=
  ⟨kg.1, match fromIter st sel (postsOf kg.2) with
    | .ok b => b
    | _ => ⟨[], []⟩⟩

/-- the element-wise relation as a map: `from_iter` answers for every candidate, and the balances are theirs -/
theorem forall₂_balOf (st : Settings) (sel : BalRow → Bool) (cs : List (String × List Txn)) (bs : List BalGroup) :
    Forall₂ (fun kg b => b.title = kg.1 ∧ fromIter st sel (postsOf kg.2) = .ok b.bal) cs bs ↔
      (∀ kg ∈ cs, ∃ b, fromIter st sel (postsOf kg.2) = .ok b) ∧ bs = cs.map (balOf st sel) := by
  induction cs generalizing bs with
  | nil => exact ⟨fun h => by cases h; exact ⟨nofun, rfl⟩, fun ⟨_, e⟩ => e ▸ .nil⟩
  | cons c rest ih =>
    constructor
    · intro h
      cases h with
      | cons hab htl =>
        obtain ⟨hall, rfl⟩ := (ih _).mp htl
        refine ⟨List.forall_mem_cons.mpr ⟨⟨_, hab.2⟩, hall⟩, ?_⟩
        simp only [List.map_cons, balOf, hab.2, ← hab.1]
    · rintro ⟨hall, rfl⟩
      obtain ⟨b, hb⟩ := hall c List.mem_cons_self
      exact .cons ⟨rfl, by simp only [balOf, hb]⟩
        ((ih _).mpr ⟨fun kg h => hall kg (List.mem_cons_of_mem _ h), rfl⟩)

theorem groupBalances_ok_iff (st : Settings) (sel : BalRow → Bool) (cs : List (String × List Txn))
    (bs : List BalGroup) :
    groupBalances st sel cs = .ok bs ↔
      (∀ kg ∈ cs, ∃ b, fromIter st sel (postsOf kg.2) = .ok b) ∧ bs = cs.map (balOf st sel) :=
  ⟨fun h => (forall₂_balOf st sel cs bs).mp (groupBalances_spec st sel cs bs h),
   fun h => groupBalances_of_forall₂ st sel cs bs ((forall₂_balOf st sel cs bs).mpr h)⟩

theorem fromIter_rows (st : Settings) (sel : BalRow → Bool) (posts : List BPost) (b : Balance)
    (h : fromIter st sel posts = .ok b) : ∃ bal, balance st posts = .ok bal ∧ b.rows = bal.filter sel := by
  unfold fromIter at h
  split at h
  · cases h
  · cases h
  · rename_i bal hbal
    split at h
    · cases h
    · cases h
      exact ⟨bal, hbal, rfl⟩

theorem forall₂_titles {R : String × List Txn → BalGroup → Prop} (hR : ∀ kg b, R kg b → b.title = kg.1) :
    ∀ {cs : List (String × List Txn)} {bs : List BalGroup}, Forall₂ R cs bs →
      bs.map (·.title) = cs.map (·.1) := by
  intro cs bs h
  induction h with
  | nil => rfl
  | cons hab _ ih => simp [hR _ _ hab, ih]

theorem forall₂_mem_right {α β} {R : α → β → Prop} : ∀ {l₁ : List α} {l₂ : List β}, Forall₂ R l₁ l₂ →
    ∀ b ∈ l₂, ∃ a ∈ l₁, R a b := by
  intro l₁ l₂ h
  induction h with
  | nil => intro b hb; cases hb
  | cons hab _ ih =>
    intro b hb
    rcases List.mem_cons.mp hb with rfl | hb'
    · exact ⟨_, List.mem_cons_self, hab⟩
    · obtain ⟨a, ha, hr⟩ := ih b hb'
      exact ⟨a, List.mem_cons_of_mem _ ha, hr⟩

theorem forall₂_mem_left {α β} {R : α → β → Prop} : ∀ {l₁ : List α} {l₂ : List β}, Forall₂ R l₁ l₂ →
    ∀ a ∈ l₁, ∃ b ∈ l₂, R a b := by
  intro l₁ l₂ h
  induction h with
  | nil => intro a ha; cases ha
  | cons hab _ ih =>
    intro a ha
    rcases List.mem_cons.mp ha with rfl | ha'
    · exact ⟨_, List.mem_cons_self, hab⟩
    · obtain ⟨b, hb, hr⟩ := ih a ha'
      exact ⟨b, List.mem_cons_of_mem _ hb, hr⟩

theorem balanceGroupsBy_ok (st : Settings) (sel : BalRow → Bool) (key : Txn → String) (txns : List Txn)
    (gs : List BalGroup) (h : balanceGroupsBy st sel key txns = .ok gs) :
    ∃ all, Forall₂ (fun kg b => b.title = kg.1 ∧ fromIter st sel (postsOf kg.2) = .ok b.bal)
        (groupCandidates key txns) all ∧ gs = all.filter (fun g => !g.isEmpty) := by
  unfold balanceGroupsBy at h
  obtain ⟨all, hall, hgs⟩ := (Outcome.map_ok _ _ _).mp h
  exact ⟨all, groupBalances_spec st sel _ _ hall, hgs.symm⟩

/-- **group_figures**: a printed group is the group candidate of its title, and its figures are exactly
    `Balance::from_iter` of its members' postings with the report's account selector (and it has a listed row) —
    so everything C02 proves about a balance report holds for every group (corollaries below). -/
theorem group_figures (st : Settings) (sel : BalRow → Bool) (key : Txn → String) (txns : List Txn)
    (gs : List BalGroup) (h : balanceGroupsBy st sel key txns = .ok gs) :
    ∀ g ∈ gs, ∃ members, (g.title, members) ∈ groupCandidates key txns ∧
      members = txns.filter (fun t => decide (key t = g.title)) ∧
      fromIter st sel (postsOf members) = .ok g.bal ∧ g.bal.rows ≠ [] := by
  obtain ⟨all, hall, rfl⟩ := balanceGroupsBy_ok st sel key txns gs h
  intro g hg
  obtain ⟨hga, hne⟩ := List.mem_filter.mp hg
  obtain ⟨kg, hkg, ht, hb⟩ := forall₂_mem_right hall g hga
  refine ⟨kg.2, by rw [ht]; exact hkg, ?_, hb, ?_⟩
  · rw [ht]; exact (candidates_spec key txns).filter kg hkg
  · simpa [BalGroup.isEmpty] using hne

/-- **group_keys**: the titles of the printed groups are strictly ascending — every period is printed at most
    once, in ascending order.  For every key function: no monotonicity of the zone is needed. -/
theorem group_keys (st : Settings) (sel : BalRow → Bool) (key : Txn → String) (txns : List Txn)
    (gs : List BalGroup) (h : balanceGroupsBy st sel key txns = .ok gs) :
    (gs.map (·.title)).Pairwise (· < ·) := by
  obtain ⟨all, hall, rfl⟩ := balanceGroupsBy_ok st sel key txns gs h
  have ht : all.map (·.title) = (groupCandidates key txns).map (·.1) := forall₂_titles (fun _ _ hr => hr.1) hall
  have hs : (all.map (·.title)).Pairwise (· < ·) := by rw [ht]; exact (candidates_spec key txns).strict
  exact hs.sublist (List.filter_sublist.map _)

theorem group_keys_nodup (st : Settings) (sel : BalRow → Bool) (key : Txn → String) (txns : List Txn)
    (gs : List BalGroup) (h : balanceGroupsBy st sel key txns = .ok gs) : (gs.map (·.title)).Nodup :=
  strict_nodup (group_keys st sel key txns gs h)

/-- **empty_groups_dropped**: no printed group is empty, and a group candidate is printed exactly when its balance
    has a listed row, i.e. when some row of its members' balance satisfies the account selector. -/
theorem empty_groups_dropped (st : Settings) (sel : BalRow → Bool) (key : Txn → String) (txns : List Txn)
    (gs : List BalGroup) (h : balanceGroupsBy st sel key txns = .ok gs) :
    (∀ g ∈ gs, g.bal.rows ≠ []) ∧
    (∀ kg ∈ groupCandidates key txns, ∃ b bal, fromIter st sel (postsOf kg.2) = .ok b ∧
        balance st (postsOf kg.2) = .ok bal ∧ b.rows = bal.filter sel ∧
        ((∃ g ∈ gs, g.title = kg.1) ↔ ∃ r ∈ bal, sel r = true)) := by
  refine ⟨fun g hg => by
    obtain ⟨_, _, _, _, hne⟩ := group_figures st sel key txns gs h g hg; exact hne, ?_⟩
  obtain ⟨all, hall, rfl⟩ := balanceGroupsBy_ok st sel key txns gs h
  intro kg hkg
  obtain ⟨b, hb, ht, hfi⟩ := forall₂_mem_left hall kg hkg
  obtain ⟨bal, hbal, hrows⟩ := fromIter_rows st sel _ _ hfi
  refine ⟨b.bal, bal, hfi, hbal, hrows, ?_⟩
  constructor
  · rintro ⟨g, hg, hgt⟩
    obtain ⟨hga, hne⟩ := List.mem_filter.mp hg
    -- g is the balance of kg (titles are unique)
    have hnd : (all.map (·.title)).Nodup := by
      rw [forall₂_titles (fun _ _ hr => hr.1) hall]
      exact strict_nodup (candidates_spec key txns).strict
    have hgb : g = b := C02.eq_of_nodup_map (·.title) hnd hga hb (hgt.trans ht.symm)
    subst hgb
    have : g.bal.rows ≠ [] := by simpa [BalGroup.isEmpty] using hne
    rw [hrows] at this
    obtain ⟨r, tl, hr⟩ := List.exists_cons_of_ne_nil this
    have hmem : r ∈ bal.filter sel := by rw [hr]; exact List.mem_cons_self
    exact ⟨r, (List.mem_filter.mp hmem).1, (List.mem_filter.mp hmem).2⟩
  · rintro ⟨r, hr, hsel⟩
    refine ⟨b, List.mem_filter.mpr ⟨hb, ?_⟩, ht⟩
    have : r ∈ b.bal.rows := by rw [hrows]; exact List.mem_filter.mpr ⟨hr, hsel⟩
    simp only [BalGroup.isEmpty, Bool.not_eq_true', List.isEmpty_eq_false_iff]
    intro e; rw [e] at this; cases this

/-! ### the figures of a group: C02 applies -/

theorem postsOf_subset {l₁ l₂ : List Txn} (h : ∀ t ∈ l₁, t ∈ l₂) : ∀ p ∈ postsOf l₁, p ∈ postsOf l₂ := by
  intro p hp
  unfold postsOf at hp ⊢
  obtain ⟨t, ht, hpt⟩ := List.mem_flatMap.mp hp
  exact List.mem_flatMap.mpr ⟨t, h t ht, hpt⟩

theorem postsWF_subset {posts posts' : List BPost} (hwf : C02.PostsWF posts) (h : ∀ p ∈ posts', p ∈ posts) :
    C02.PostsWF posts' :=
  ⟨fun p hp => hwf.scale p (h p hp), fun p hp => hwf.nonempty p (h p hp),
   fun p q ⟨x, hx, hpx⟩ ⟨y, hy, hqy⟩ e => hwf.namesInj p q ⟨x, h x hx, hpx⟩ ⟨y, h y hy, hqy⟩ e⟩

theorem members_wf (key : Txn → String) (txns : List Txn) (hwf : C02.PostsWF (postsOf txns)) (k : String) :
    C02.PostsWF (postsOf (txns.filter (fun t => decide (key t = k)))) :=
  postsWF_subset hwf (postsOf_subset (fun _ ht => (List.mem_filter.mp ht).1))

/-- a balance of postings that lists every row has a row -/
theorem fromIter_rows_ne_nil (st : Settings) (sel : BalRow → Bool) (posts : List BPost) (hwf : C02.PostsWF posts)
    (b : Balance) (h : fromIter st sel posts = .ok b) (p : BPost) (hp : p ∈ posts) (hsel : ∀ r, sel r = true) :
    b.rows ≠ [] := by
  obtain ⟨bal, hbal, hrows⟩ := fromIter_rows st sel posts b h
  obtain ⟨r, hr, _⟩ := List.mem_map.mp (((C02.rows_exact st _ hwf bal hbal).2 p.key).mpr (.inl ⟨p, hp, rfl⟩))
  rw [hrows]
  exact List.ne_nil_of_mem (List.mem_filter.mpr ⟨hr, hsel r⟩)

/-- corollary of `group_figures` with `C02.own_sum` / `C02.tree_sum_posts`: in a printed group, a row's own sum is
    the exact sum of the postings *of the group's members* to that (commodity, account) pair, and its tree sum the
    exact sum of the members' postings at or below it. -/
theorem group_own_tree_sums (st : Settings) (sel : BalRow → Bool) (key : Txn → String) (txns : List Txn)
    (hwf : C02.PostsWF (postsOf txns)) (gs : List BalGroup) (h : balanceGroupsBy st sel key txns = .ok gs) :
    ∀ g ∈ gs, ∀ row ∈ g.bal.rows,
      row.own.units = C02.ownSum (postsOf (txns.filter (fun t => decide (key t = g.title)))) row.key ∧
      row.tree.units = C02.treeSum (postsOf (txns.filter (fun t => decide (key t = g.title)))) row.key := by
  intro g hg row hrow
  obtain ⟨members, _, hm, hfi, _⟩ := group_figures st sel key txns gs h g hg
  subst hm
  have hwf' := members_wf key txns hwf g.title
  obtain ⟨bal, hbal, hrows⟩ := fromIter_rows st sel _ _ hfi
  have hrb : row ∈ bal := by rw [hrows] at hrow; exact (List.mem_filter.mp hrow).1
  exact ⟨C02.own_sum st _ hwf' bal hbal row hrb, C02.tree_sum_posts st _ hwf' bal hbal row hrb⟩

/-- corollary of `group_figures` with `C02.rows_exact` and `C02.delta_eq`: the rows of a printed group are the
    selected ones among the (commodity, account) pairs its members post to and their proper ancestors, each once;
    there is one delta per listed commodity and it is the exact sum of the group's listed own sums. -/
theorem group_rows_deltas (st : Settings) (sel : BalRow → Bool) (key : Txn → String) (txns : List Txn)
    (hwf : C02.PostsWF (postsOf txns)) (gs : List BalGroup) (h : balanceGroupsBy st sel key txns = .ok gs) :
    ∀ g ∈ gs, ∃ bal,
      balance st (postsOf (txns.filter (fun t => decide (key t = g.title)))) = .ok bal ∧
      g.bal.rows = bal.filter sel ∧
      (∀ k, k ∈ bal.map (·.key) ↔
        C02.Posted (postsOf (txns.filter (fun t => decide (key t = g.title)))) k ∨
        C02.ProperAncestor (postsOf (txns.filter (fun t => decide (key t = g.title)))) k) ∧
      (bal.map (·.key)).Nodup ∧
      (g.bal.deltas.map (·.1)).Pairwise (· < ·) ∧
      (∀ c, c ∈ g.bal.deltas.map (·.1) ↔ ∃ r ∈ g.bal.rows, r.comm = c) ∧
      (∀ cd ∈ g.bal.deltas,
        cd.2.units = ((g.bal.rows.filter (fun r => decide (r.comm = cd.1))).map (·.own.units)).sum) := by
  intro g hg
  obtain ⟨members, _, hm, hfi, _⟩ := group_figures st sel key txns gs h g hg
  subst hm
  have hwf' := members_wf key txns hwf g.title
  obtain ⟨⟨bal, hbal, hrows⟩, hd1, hd2, hd3⟩ := C02.delta_eq st sel _ hwf' g.bal hfi
  exact ⟨bal, hbal, hrows, (C02.rows_exact st _ hwf' bal hbal).2, C02.rows_nodup st _ hwf' bal hbal, hd1, hd2, hd3⟩

/-! ### sums over the groups -/

/-- the postings of one transaction to a (commodity, account) pair, summed -/
def txnOwn (k : AKey) (t : Txn) : Int :=
  (((t.posts.map (fun p => (⟨p.acct, p.comm, p.amount⟩ : BPost))).filter (fun p => decide (p.key = k))).map
    (·.amount.units)).sum

theorem ownSum_postsOf (txns : List Txn) (k : AKey) :
    C02.ownSum (postsOf txns) k = (txns.map (txnOwn k)).sum := by
  unfold C02.ownSum
  rw [C02.postsOf_sum]
  rfl

/-- **group_total**: for every (commodity, account) pair, the sums of the postings of the members of the group
    candidates add up to the sum of the postings of all transactions: every posting counts in exactly one group. -/
theorem group_total (key : Txn → String) (txns : List Txn) (k : AKey) :
    ((groupCandidates key txns).map (fun kg => C02.ownSum (postsOf kg.2) k)).sum
      = C02.ownSum (postsOf txns) k := by
  have hp := (candidates_spec key txns).perm
  rw [ownSum_postsOf, ← perm_sum_map (txnOwn k) hp, sum_map_flatten, List.map_map]
  apply congrArg
  apply List.map_congr_left
  intro kg _
  simp only [Function.comp]
  exact ownSum_postsOf kg.2 k

/-- the own sum a list of balance rows shows for a (commodity, account) pair (0 when there is no such row; there is
    at most one, `C02.rows_nodup`) -/
def rowOwn (rows : List BalRow) (k : AKey) : Int :=
  ((rows.filter (fun r => decide (r.key = k))).map (·.own.units)).sum

theorem rowOwn_balance (st : Settings) (posts : List BPost) (hwf : C02.PostsWF posts) (bal : List BalRow)
    (h : balance st posts = .ok bal) (k : AKey) : rowOwn bal k = C02.ownSum posts k :=
  C02.rows_sum_eq_posts_sum st posts hwf bal h (fun x => decide (x = k))

theorem rowOwn_filter (sel : BalRow → Bool) (bal : List BalRow) (k : AKey)
    (hsel : ∀ r : BalRow, r.key = k → sel r = true) : rowOwn (bal.filter sel) k = rowOwn bal k := by
  unfold rowOwn
  rw [List.filter_filter]
  congr 2
  apply List.filter_congr
  intro r _
  by_cases e : r.key = k
  · simp [e, hsel r e]
  · simp [e]

theorem rowOwn_fromIter (st : Settings) (sel : BalRow → Bool) (posts : List BPost) (hwf : C02.PostsWF posts)
    (b : Balance) (h : fromIter st sel posts = .ok b) (k : AKey)
    (hsel : ∀ r : BalRow, r.key = k → sel r = true) : rowOwn b.rows k = C02.ownSum posts k := by
  obtain ⟨bal, hbal, hrows⟩ := fromIter_rows st sel posts b h
  rw [hrows, rowOwn_filter sel bal k hsel, rowOwn_balance st posts hwf bal hbal]

theorem forall₂_sum (st : Settings) (sel : BalRow → Bool) (k : AKey) (hsel : ∀ r : BalRow, r.key = k → sel r = true) :
    ∀ (cs : List (String × List Txn)) (all : List BalGroup),
      Forall₂ (fun kg b => b.title = kg.1 ∧ fromIter st sel (postsOf kg.2) = .ok b.bal) cs all →
      (∀ kg ∈ cs, C02.PostsWF (postsOf kg.2)) →
      (all.map (fun g => rowOwn g.bal.rows k)).sum = (cs.map (fun kg => C02.ownSum (postsOf kg.2) k)).sum := by
  intro cs all hall
  induction hall with
  | nil => intro _; rfl
  | @cons kg g cs' all' hab _ ih =>
    intro hcs
    simp only [List.map_cons, List.sum_cons]
    rw [ih (fun kg' h' => hcs kg' (List.mem_cons_of_mem _ h')),
      rowOwn_fromIter st sel _ (hcs kg List.mem_cons_self) g.bal hab.2 k hsel]

/-- **group_total** on the printed figures: for every (commodity, account) pair the selector lists, the own sums
    shown by the printed groups add up to the own sum shown by the overall balance report (a group without a row for
    the pair counts 0; the dropped groups have no such row). -/
theorem group_total_rows (st : Settings) (sel : BalRow → Bool) (key : Txn → String) (txns : List Txn)
    (hwf : C02.PostsWF (postsOf txns)) (gs : List BalGroup) (h : balanceGroupsBy st sel key txns = .ok gs)
    (b : Balance) (hb : fromIter st sel (postsOf txns) = .ok b) (k : AKey)
    (hsel : ∀ r : BalRow, r.key = k → sel r = true) :
    (gs.map (fun g => rowOwn g.bal.rows k)).sum = rowOwn b.rows k := by
  obtain ⟨all, hall, rfl⟩ := balanceGroupsBy_ok st sel key txns gs h
  rw [rowOwn_fromIter st sel _ hwf b hb k hsel, ← group_total key txns k]
  -- the dropped groups contribute nothing
  have h1 : ((all.filter (fun g => !g.isEmpty)).map (fun g => rowOwn g.bal.rows k)).sum
      = (all.map (fun g => rowOwn g.bal.rows k)).sum := by
    rw [sum_filter_eq_ite]
    apply sum_map_congr
    intro g _
    cases he : g.isEmpty with
    | false => simp
    | true =>
      have : g.bal.rows = [] := by simpa [BalGroup.isEmpty] using he
      simp [rowOwn, this]
  rw [h1]
  -- element-wise: a group's listed own sum is the sum of its members' postings
  have hcs : ∀ kg ∈ groupCandidates key txns, C02.PostsWF (postsOf kg.2) := by
    intro kg hkg
    rw [(candidates_spec key txns).filter kg hkg]
    exact members_wf key txns hwf kg.1
  exact forall₂_sum st sel k hsel _ _ hall hcs

/-! ### the `expect` in `balance_groups` does not fire -/

theorem groupBalances_ne_err (st : Settings) (sel : BalRow → Bool) :
    ∀ (cs : List (String × List Txn)), (∀ kg ∈ cs, fromIter st sel (postsOf kg.2) ≠ .err) →
      groupBalances st sel cs ≠ .err := by
  intro cs
  induction cs with
  | nil => intro _; simp [groupBalances]
  | cons c rest ih =>
    intro h
    obtain ⟨k, g⟩ := c
    have h1 := h (k, g) List.mem_cons_self
    have h2 := ih (fun kg hkg => h kg (List.mem_cons_of_mem _ hkg))
    simp only [groupBalances]
    split
    · rename_i e; exact absurd e h1
    · simp
    · split
      · rename_i e; exact absurd e h2
      · simp
      · simp

/-- **no_panic**: `Balance::from_iter(…).expect(…)` inside `balance_groups` is the one panic site of the report.  If
    the settings know every proper ancestor of every posted account in the posting's commodity (which the load path
    establishes, as for `C02.balance_ok_of_closed`), no group's balance fails, so the model never answers `.err` —
    the code does not panic — for any key function. -/
theorem no_panic (st : Settings) (sel : BalRow → Bool) (key : Txn → String) (txns : List Txn)
    (hwf : C02.PostsWF (postsOf txns))
    (hclosed : ∀ p ∈ postsOf txns, ∀ q : Path, q ≠ [] → q <+: p.acct → q ≠ p.acct →
      ∃ r, st.getTxnAccount q p.comm = .ok r) :
    balanceGroupsBy st sel key txns ≠ .err := by
  unfold balanceGroupsBy
  apply C02.map_ne_err
  apply groupBalances_ne_err
  intro kg hkg
  have hsub : ∀ p ∈ postsOf kg.2, p ∈ postsOf txns := by
    rw [(candidates_spec key txns).filter kg hkg]
    exact postsOf_subset (fun _ ht => (List.mem_filter.mp ht).1)
  have hb := C02.balance_ok_of_closed st (postsOf kg.2) (postsWF_subset hwf hsub)
    (fun p hp => hclosed p (hsub p hp))
  unfold fromIter
  split
  · rename_i e; exact absurd e hb
  · simp
  · split <;> simp

/-! ### the groups in closed form -/

theorem strict_ext {l₁ l₂ : List String} (h1 : l₁.Pairwise (· < ·)) (h2 : l₂.Pairwise (· < ·))
    (hm : ∀ k, k ∈ l₁ ↔ k ∈ l₂) : l₁ = l₂ := by
  apply sorted_perm_eq (fun a b : String => a < b) l₁ l₂
    ((List.perm_ext_iff_of_nodup (strict_nodup h1) (strict_nodup h2)).mpr hm) h1 h2
  intro a b _ _ hab hba
  exact absurd (String.lt_trans hab hba) (String.lt_irrefl _)

/-- **the group candidates in closed form**: if `ks` lists the keys that occur among the transactions in strictly
    ascending order, the candidates are, for each key of `ks` in turn, the transactions with that key in journal
    order — whatever the order of the keys along the journal. -/
theorem group_candidates_eq (key : Txn → String) (txns : List Txn) (ks : List String)
    (hsorted : ks.Pairwise (· < ·)) (hmem : ∀ k, k ∈ ks ↔ ∃ t ∈ txns, key t = k) :
    groupCandidates key txns = ks.map (fun k => (k, txns.filter (fun t => decide (key t = k)))) := by
  have hs := candidates_spec key txns
  have hks : (groupCandidates key txns).map (·.1) = ks :=
    strict_ext hs.strict hsorted fun k => by
      rw [hmem, groupCandidates, chunk_keys_iff]
      simp only [(List.mergeSort_perm txns (keyLeS key)).mem_iff]
  rw [← hks]
  exact groups_eq_map key txns _ hs.filter

/-! ### the report: key of `get_group_by_op`, zone given as a fixed offset or as a table -/

/-- `balanceGroups` is `balanceGroupsBy` with the period key of the report zone (inside the model's domain: every
    instant inside the window of a zone table), so all the theorems above apply to the report for all five group-by
    settings and every zone -/
theorem balanceGroups_ok (st : Settings) (sel : BalRow → Bool) (g : GroupBy) (tz : Time.JournalTz) (txns : List Txn)
    (gs : List BalGroup) (h : balanceGroups st sel g tz txns = .ok gs) :
    zoneCovers tz txns = true ∧ balanceGroupsBy st sel (groupKey g tz) txns = .ok gs := by
  unfold balanceGroups at h
  split at h
  · exact ⟨by assumption, h⟩
  · cases h

/-- the titles of the report are strictly ascending, each period once — for every group-by setting and **every**
    report zone, monotone or not -/
theorem report_keys (st : Settings) (sel : BalRow → Bool) (g : GroupBy) (tz : Time.JournalTz) (txns : List Txn)
    (gs : List BalGroup) (h : balanceGroups st sel g tz txns = .ok gs) : (gs.map (·.title)).Pairwise (· < ·) :=
  group_keys st sel _ txns gs (balanceGroups_ok st sel g tz txns gs h).2

open Time in
/-- what a period text is, as a specification: `loc` is the local time (instant + offset, in ns); it falls on the
    local day number `days`; `(y, m, d)` is the civil date of that day (unique: `Time.daysFromCivil_inj`) and
    `(wy, w, wd)` its ISO week date — the day is the `wd`-th day of the `w`-th week counted from the Monday of the
    week that contains January 4th of `wy`, and lies before that Monday of `wy + 1` —; the text is
    `YYYY`, `YYYY-MM`, `YYYY-MM-DD`, `Y-Www` or `Y-Www-D` of those numbers. -/
def PeriodSpec (g : GroupBy) (loc : Int) (text : String) : Prop :=
  ∃ (days y : Int) (m d : Nat) (wy w wd : Int),
    (days * 86400000000000 ≤ loc ∧ loc < (days + 1) * 86400000000000) ∧
    (1 ≤ m ∧ m ≤ 12) ∧ (1 ≤ d ∧ d ≤ daysInMonth y m) ∧ daysFromCivil y m d = days ∧
    (1 ≤ w ∧ w ≤ 53) ∧ (1 ≤ wd ∧ wd ≤ 7) ∧ days = isoWeekStart wy + (w - 1) * 7 + (wd - 1) ∧
    days < isoWeekStart (wy + 1) ∧
    text = String.ofList (match g with
      | .year => yearText y
      | .month => yearText y ++ ['-'] ++ padNat 2 m
      | .date => yearText y ++ ['-'] ++ padNat 2 m ++ ['-'] ++ padNat 2 d
      | .isoWeek => intText wy ++ ['-', 'W'] ++ padNat 2 w.toNat
      | .isoWeekDate => intText wy ++ ['-', 'W'] ++ padNat 2 w.toNat ++ ['-'] ++ intText wd)

open Time in
theorem periodText_spec (g : GroupBy) (ns off : Int) : PeriodSpec g (ns + off * 1000000000) (periodText g ns off) := by
  have hl := localDays_spec ns off
  have hr := days_roundtrip (localDays ns off)
  have hi := isoOf_spec (localDays ns off)
  refine ⟨localDays ns off, (civilFromDays (localDays ns off)).1, (civilFromDays (localDays ns off)).2.1,
    (civilFromDays (localDays ns off)).2.2, (isoOf (localDays ns off)).1, (isoOf (localDays ns off)).2.1,
    (isoOf (localDays ns off)).2.2, hl, ⟨hr.2.1, hr.2.2.1⟩, ⟨hr.2.2.2.1, hr.2.2.2.2⟩, hr.1, ⟨hi.1, hi.2.1⟩,
    ⟨hi.2.2.1, hi.2.2.2.1⟩, hi.2.2.2.2.1, hi.2.2.2.2.2, ?_⟩
  rw [periodText_eq]
  cases g <;> rfl

/-- **key_is_period** (fixed offsets, proved in full): the group key of a transaction is the period text of its
    instant's civil date at the report zone's offset. -/
theorem key_is_period (g : GroupBy) (off : Int) (t : Txn) :
    PeriodSpec g (t.header.ts.ns + off * 1000000000) (groupKey g (.fixed off) t) :=
  periodText_spec g _ off

/-- **key_is_period** for a named zone — `_partial`: the zone is *data* (a transition table exported from jiff per
    run), so the statement is relative to the table's content: if inside its window the table agrees with the
    zone's offset function `zoneOffset` (the tz database as jiff reads it, incl. its lookup by truncated second, F22),
    the key is the period text of the instant's civil date at the zone's offset at that instant.
    Full statement: the same with `zoneOffset` = the IANA rules of the zone; missing: a model of the tz database. -/
theorem key_is_period_table_partial (g : GroupBy) (z : Time.ZoneTable) (zoneOffset : Int → Int)
    (hdata : ∀ ns, Time.inWindow z ns = true → Time.offsetAt z ns = zoneOffset ns)
    (t : Txn) (hin : Time.inWindow z t.header.ts.ns = true) :
    PeriodSpec g (t.header.ts.ns + zoneOffset t.header.ts.ns * 1000000000) (groupKey g (.table z) t) := by
  have := periodText_spec g t.header.ts.ns (Time.offsetAt z t.header.ts.ns)
  rw [hdata _ hin] at this
  simpa [groupKey, reportOffset, hdata _ hin] using this

/-- what the table lookup computes: the offset of the last listed transition at or before the (truncated) instant,
    the initial offset when there is none -/
theorem offsetAtFrom_spec (cur : Int) (trans : List (Int × Int)) (x : Int)
    (hasc : (trans.map (·.1)).Pairwise (· < ·)) :
    Time.offsetAtFrom cur trans x = (((trans.filter (fun e => decide (e.1 ≤ x))).map (·.2)).getLast?).getD cur := by
  induction trans generalizing cur with
  | nil => rfl
  | cons e rest ih =>
    obtain ⟨t, o⟩ := e
    simp only [List.map_cons, List.pairwise_cons] at hasc
    simp only [Time.offsetAtFrom]
    split
    · rename_i hlt
      have hnone : (((t, o) :: rest).filter (fun e => decide (e.1 ≤ x))) = [] := by
        rw [List.filter_eq_nil_iff]
        intro e he
        simp only [decide_eq_true_eq]
        rcases List.mem_cons.mp he with rfl | he'
        · simp only; omega
        · have := hasc.1 e.1 (List.mem_map.mpr ⟨e, he', rfl⟩); omega
      rw [hnone]; rfl
    · rename_i hge
      rw [ih o hasc.2]
      have : decide (t ≤ x) = true := by simp; omega
      simp only [List.filter_cons, this, if_true, List.map_cons]
      cases hf : (rest.filter (fun e => decide (e.1 ≤ x))).map (·.2) with
      | nil => simp
      | cons a l => simp [List.getLast?_cons]

/-! ### at a fixed offset: consecutive grouping = grouping by key -/

theorem sorted_by_instant (xs : List Txn) :
    (sortTxns xs).Pairwise (fun a b => a.header.ts.ns ≤ b.header.ts.ns) := by
  apply (sortTxns_sorted xs).imp
  intro a b hab
  simp only [txnLe, hdrLe, hdrKey] at hab
  apply Classical.byContradiction
  intro hlt
  have h1 : ¬ a.header.ts.ns < b.header.ts.ns := by omega
  have h2 : b.header.ts.ns < a.header.ts.ns := by omega
  simp [h1, h2] at hab

theorem groupKey_fixed (g : GroupBy) (off : Int) (t : Txn) :
    groupKey g (.fixed off) t = Time.ptext g (Time.localDays t.header.ts.ns off) :=
  Time.periodText_eq g _ off

/-- **equal keys are contiguous at a fixed offset** (`localDays_mono`): along transactions ordered by instant the
    local day number never decreases, hence the period never goes back, hence `chunk_by` on the instant-ordered list
    yields every period once: what `balanceGroupsConsecutive` assumes holds for fixed offsets. -/
theorem fixed_offset_contiguous (g : GroupBy) (off : Int) (txns : List Txn)
    (hs : txns.Pairwise (fun a b => a.header.ts.ns ≤ b.header.ts.ns)) :
    ((chunkBy (groupKey g (.fixed off)) txns).map (·.1)).Nodup := by
  -- `S k₁ k₂`: `k₁`, `k₂` are period texts of days in periods that follow each other
  let S : String → String → Prop := fun k₁ k₂ =>
    ∃ z₁ z₂, Time.ptext g z₁ = k₁ ∧ Time.ptext g z₂ = k₂ ∧ Time.pcode g z₁ < Time.pcode g z₂
  have htr : ∀ a b c, S a b → S b c → S a c := by
    rintro a b c ⟨z₁, z₂, h1, h2, h3⟩ ⟨z₂', z₃, h4, h5, h6⟩
    have := Time.pcode_of_ptext g z₂ z₂' (h2.trans h4.symm)
    exact ⟨z₁, z₃, h1, h5, by omega⟩
  have hirr : ∀ a, ¬ S a a := by
    rintro a ⟨z₁, z₂, h1, h2, h3⟩
    have := Time.pcode_of_ptext g z₁ z₂ (h1.trans h2.symm)
    omega
  have hpw : txns.Pairwise (fun a b => groupKey g (.fixed off) a = groupKey g (.fixed off) b ∨
      S (groupKey g (.fixed off) a) (groupKey g (.fixed off) b)) := by
    apply hs.imp
    intro a b hab
    have hd := Time.localDays_mono _ _ off hab
    have hc := Time.pcode_mono g _ _ hd
    rw [groupKey_fixed, groupKey_fixed]
    rcases Int.lt_or_eq_of_le hc with hlt | heq
    · exact .inr ⟨_, _, rfl, rfl, hlt⟩
    · exact .inl (Time.ptext_of_pcode g _ _ heq)
  have := chunkBy_strict (groupKey g (.fixed off)) S htr txns hpw
  exact this.imp (fun {a b} hab e => by subst e; exact hirr _ hab)

/-- **consecutive grouping = grouping by key when equal keys are contiguous**: if `chunk_by` on the list as it is
    yields no key twice, consecutive runs followed by a stable sort by title (`balanceGroupsConsecutive`) and a stable
    sort by key followed by runs (`balanceGroupsBy`) print the same groups. -/
theorem consecutive_eq_of_contiguous (st : Settings) (sel : BalRow → Bool) (key : Txn → String) (txns : List Txn)
    (hnd : ((chunkBy key txns).map (·.1)).Nodup) (gs : List BalGroup) :
    balanceGroupsConsecutive st sel key txns = .ok gs ↔ balanceGroupsBy st sel key txns = .ok gs := by
  have hs := candidates_spec key txns
  -- both candidate lists hold, for every key that occurs, the transactions of that key
  have hperm : (groupCandidates key txns).Perm (chunkBy key txns) := by
    rw [groups_eq_map key txns _ hs.filter, groups_eq_map key txns _ (chunk_eq_filter key txns hnd)]
    refine List.Perm.map _ ((List.perm_ext_iff_of_nodup (strict_nodup hs.strict) hnd).mpr fun k => ?_)
    rw [groupCandidates, chunk_keys_iff, chunk_keys_iff]
    simp only [(List.mergeSort_perm txns (keyLeS key)).mem_iff]
  unfold balanceGroupsConsecutive balanceGroupsBy
  rw [Outcome.map_ok, Outcome.map_ok]
  -- the answers for all candidates: element-wise, so a permutation of each other
  have hall : (∀ kg ∈ chunkBy key txns, ∃ b, fromIter st sel (postsOf kg.2) = .ok b) ↔
      (∀ kg ∈ groupCandidates key txns, ∃ b, fromIter st sel (postsOf kg.2) = .ok b) :=
    ⟨fun h kg hkg => h kg (hperm.mem_iff.mp hkg), fun h kg hkg => h kg (hperm.mem_iff.mpr hkg)⟩
  have hfinal : ((chunkBy key txns).map (balOf st sel) |>.filter (fun g => !g.isEmpty)).mergeSort
        (fun a b => !decide (b.title < a.title))
      = ((groupCandidates key txns).map (balOf st sel)).filter (fun g => !g.isEmpty) := by
    apply sorted_perm_eq (fun a b : BalGroup => (!decide (b.title < a.title)) = true)
    · exact (List.mergeSort_perm _ _).trans (((hperm.symm.map _).filter _))
    · exact List.pairwise_mergeSort (notLt_trans BalGroup.title) (notLt_total BalGroup.title) _
    · have : ((groupCandidates key txns).map (balOf st sel)).Pairwise (fun a b => a.title < b.title) := by
        rw [List.pairwise_map]
        have := hs.strict
        rw [List.pairwise_map] at this
        exact this
      apply (this.sublist List.filter_sublist).imp
      intro a b hab
      simp only [Bool.not_eq_true', decide_eq_false_iff_not]; grind
    · intro a b ha hb h1 h2
      have ha' := (List.mem_filter.mp ((List.mergeSort_perm _ _).mem_iff.mp ha)).1
      have hb' := (List.mem_filter.mp ((List.mergeSort_perm _ _).mem_iff.mp hb)).1
      have ht : a.title = b.title := by
        simp only [Bool.not_eq_true', decide_eq_false_iff_not] at h1 h2; grind
      have hndt : (((chunkBy key txns).map (balOf st sel)).map (·.title)).Nodup := by
        rw [List.map_map]; exact hnd
      exact C02.eq_of_nodup_map (·.title) hndt ha' hb' ht
  constructor
  · rintro ⟨bs, hbs, rfl⟩
    obtain ⟨h1, rfl⟩ := (groupBalances_ok_iff st sel _ bs).mp hbs
    exact ⟨_, (groupBalances_ok_iff st sel _ _).mpr ⟨hall.mp h1, rfl⟩, hfinal.symm⟩
  · rintro ⟨bs, hbs, rfl⟩
    obtain ⟨h1, rfl⟩ := (groupBalances_ok_iff st sel _ bs).mp hbs
    exact ⟨_, (groupBalances_ok_iff st sel _ _).mpr ⟨hall.mpr h1, rfl⟩, hfinal⟩

/-- **fixed_offset_unchanged**: for a fixed-offset report zone and transactions in instant order (`sortTxns`: what
    the loader hands to the reports) grouping consecutive equal keys and grouping by key give the same report, for
    all five group-by settings: finding F12 does not show at a fixed offset. -/
theorem fixed_offset_unchanged (st : Settings) (sel : BalRow → Bool) (g : GroupBy) (off : Int) (txns : List Txn)
    (hs : txns.Pairwise (fun a b => a.header.ts.ns ≤ b.header.ts.ns)) (gs : List BalGroup) :
    balanceGroupsConsecutive st sel (groupKey g (.fixed off)) txns = .ok gs ↔
      balanceGroups st sel g (.fixed off) txns = .ok gs := by
  rw [consecutive_eq_of_contiguous st sel _ txns (fixed_offset_contiguous g off txns hs) gs]
  simp [balanceGroups, zoneCovers]

theorem fixed_offset_unchanged_loaded (st : Settings) (sel : BalRow → Bool) (g : GroupBy) (off : Int)
    (xs : List Txn) (gs : List BalGroup) :
    balanceGroupsConsecutive st sel (groupKey g (.fixed off)) (sortTxns xs) = .ok gs ↔
      balanceGroups st sel g (.fixed off) (sortTxns xs) = .ok gs :=
  fixed_offset_unchanged st sel g off _ (sorted_by_instant xs) gs

/-! ### non-vacuity and the witness of F12

`America/Goose_Bay` on 2010-11-07: at 03:01:00Z (00:01 local, UTC−3) the clock goes back to 23:01 of 2010-11-06
(UTC−4).  Three transactions at 03:00:30Z, 03:30:00Z and 04:30:00Z are, in local time, on the 7th, the 6th and the
7th: the local date is not monotone in the instant.
(`corpus/C13/f12-goose-bay-date-twice.json` replays the same instants on the implementation;
`corpus/C13/example-lean-goose-bay.json` is exactly the journal below.)

```
2010-11-07T03:00:30Z        2010-11-07T03:30:00Z        2010-11-07T04:30:00Z
 a:cash  -1                  a:cash  -2                  e:food   4
 e:food   1                  e:food   2                  x:y     -4
```
-/

/-- the zone as data: the window 2010-11-04 … 2010-11-10, offset −3 h, one transition to −4 h -/
def gooseBay : Time.ZoneTable :=
  ⟨1288828800000000000, 1289347200000000000, -10800, [(1289098860000000000, -14400)]⟩

def mkT (ns : Int) (posts : List Posting) : Txn := ⟨⟨⟨ns, 0⟩, none, none, none, none, none, none⟩, posts⟩
def t1 : Txn := mkT 1289098830000000000 [C02.mkP ["a","cash"] "" (C02.dd (-1) 0), C02.mkP ["e","food"] "" (C02.dd 1 0)]
def t2 : Txn := mkT 1289100600000000000 [C02.mkP ["a","cash"] "" (C02.dd (-2) 0), C02.mkP ["e","food"] "" (C02.dd 2 0)]
def t3 : Txn := mkT 1289104200000000000 [C02.mkP ["e","food"] "" (C02.dd 4 0), C02.mkP ["x","y"] "" (C02.dd (-4) 0)]
def txnsF12 : List Txn := [t1, t2, t3]
/-- the settings after loading that journal (no charts, empty commodity permitted) -/
def stF : Settings := Settings.ofConfig false false true [["a","cash"],["e","food"],["x","y"]] [""] []
def keyF : Txn → String := groupKey .date (.table gooseBay)

/-- the list is in instant order, the zone table covers it … -/
example : txnsF12.Pairwise (fun a b => a.header.ts.ns ≤ b.header.ts.ns) := by decide
example : zoneCovers (.table gooseBay) txnsF12 = true := by decide
/-- … and the local dates are the 7th, the 6th, the 7th -/
theorem ex_keys : txnsF12.map keyF = ["2010-11-07", "2010-11-06", "2010-11-07"] := by decide

/-- **witness of F12, part 1**: consecutive grouping of the instant-ordered list yields the key `2010-11-07` twice -/
theorem witness_F12_keys :
    (chunkBy keyF txnsF12).map (·.1) = ["2010-11-07", "2010-11-06", "2010-11-07"] ∧
    ¬ ((chunkBy keyF txnsF12).map (·.1)).Nodup := by
  have h : (chunkBy keyF txnsF12).map (·.1) = ["2010-11-07", "2010-11-06", "2010-11-07"] := by decide
  exact ⟨h, by rw [h]; decide⟩

/-- evaluation helper: `from_iter` on a posting stream that is already in account order, stage by stage -/
theorem fromIter_eval {st : Settings} {sel : BalRow → Bool} {posts : List BPost} {sums complete : List (AKey × Dec)}
    {bal : List BalRow} {ds : List (String × Dec)}
    (h0 : posts.Pairwise (fun a b => keyLe a.key b.key = true))
    (h1 : sumGroups (chunkBy BPost.key posts) = some sums)
    (h2 : completeTree st sums = .ok complete)
    (h3 : flattenOpt ((complete.filter (fun s => s.1.2.length == 1)).map
            (treeNodes complete (maxDepth complete + 1))) = some bal)
    (h4 : bal.Pairwise (fun a b => keyLe a.key b.key = true))
    (h5 : deltaGroups (chunkBy (·.comm) (bal.filter sel)) = some ds) :
    fromIter st sel posts = .ok ⟨bal.filter sel, ds⟩ := by
  rw [fromIter, C02.balance_of_steps h0 h1 h2 h3 h4]
  dsimp only
  rw [h5]

def all : BalRow → Bool := fun _ => true
/-- the group of 2010-11-06: the second transaction alone -/
def bal06 : Balance := ⟨[⟨["a"], "", Dec.zero, C02.dd (-2) 0⟩, ⟨["a","cash"], "", C02.dd (-2) 0, C02.dd (-2) 0⟩,
  ⟨["e"], "", Dec.zero, C02.dd 2 0⟩, ⟨["e","food"], "", C02.dd 2 0, C02.dd 2 0⟩], [("", C02.dd 0 0)]⟩
/-- the group of 2010-11-07: the first and the third transaction -/
def bal07 : Balance := ⟨[⟨["a"], "", Dec.zero, C02.dd (-1) 0⟩, ⟨["a","cash"], "", C02.dd (-1) 0, C02.dd (-1) 0⟩,
  ⟨["e"], "", Dec.zero, C02.dd 5 0⟩, ⟨["e","food"], "", C02.dd 5 0, C02.dd 5 0⟩,
  ⟨["x"], "", Dec.zero, C02.dd (-4) 0⟩, ⟨["x","y"], "", C02.dd (-4) 0, C02.dd (-4) 0⟩], [("", C02.dd 0 0)]⟩

theorem ex_bal06 : fromIter stF all (postsOf [t2]) = .ok bal06 :=
  fromIter_eval (bal := bal06.rows) (by decide) rfl rfl rfl (by decide) rfl

theorem ex_bal07 : fromIter stF all (postsOf [t1, t3]) = .ok bal07 :=
  fromIter_eval (bal := bal07.rows) (by decide) rfl rfl rfl (by decide) rfl

/-- grouping by key: two groups, the 7th holds the first and the third transaction -/
theorem ex_candidates : groupCandidates keyF txnsF12 = [("2010-11-06", [t2]), ("2010-11-07", [t1, t3])] := by
  have hk1 : keyF t1 = "2010-11-07" := by decide
  have hk2 : keyF t2 = "2010-11-06" := by decide
  have hk3 : keyF t3 = "2010-11-07" := by decide
  rw [group_candidates_eq keyF txnsF12 ["2010-11-06", "2010-11-07"] (by decide)]
  · simp only [List.map_cons, List.map_nil, txnsF12, List.filter_cons, hk1, hk2, hk3, List.filter_nil]
    decide
  · intro k
    simp only [txnsF12, List.mem_cons, List.mem_nil_iff, or_false, exists_eq_or_imp, exists_eq_left, hk1, hk2, hk3]
    grind

/-- **the report on the witness journal**: `2010-11-06` (−2 / 2) and `2010-11-07` once, with
    both of its transactions (cash −1, food 1 + 4, x:y −4) -/
theorem ex_report : balanceGroups stF all .date (.table gooseBay) txnsF12
    = .ok [⟨"2010-11-06", bal06⟩, ⟨"2010-11-07", bal07⟩] := by
  have hz : zoneCovers (.table gooseBay) txnsF12 = true := by decide
  unfold balanceGroups balanceGroupsBy
  rw [hz]
  simp only [if_true]
  change Outcome.map _ (groupBalances stF all (groupCandidates keyF txnsF12)) = _
  rw [ex_candidates]
  simp only [groupBalances, ex_bal06, ex_bal07, Outcome.map]
  decide

/-- the figures of the example satisfy the theorems' hypotheses … -/
example : C02.PostsWF (postsOf txnsF12) := by
  refine ⟨by decide, by decide, C02.namesInj_of_good _ ?_⟩
  have : ∀ x ∈ postsOf txnsF12, ∀ c ∈ x.acct, c ≠ "" ∧ ':' ∉ c.toList := by decide
  exact fun x hx c hc => this x hx c hc
/-- … e.g. `group_total`: `e:food` has 2 in the group of the 6th and 5 in the group of the 7th, 7 in all -/
example : ((groupCandidates keyF txnsF12).map (fun kg => C02.ownSum (postsOf kg.2) ("", ["e","food"]))).sum
    = 7 * 10 ^ 28 := by
  rw [ex_candidates]; decide

def runsF12 : List (String × List Txn) := [("2010-11-07", [t1]), ("2010-11-06", [t2]), ("2010-11-07", [t3])]

/-- **witness of F12, part 2**: on this journal consecutive grouping cannot print what grouping by key prints —
    whenever it answers, some title occurs twice (every run of the instant-ordered list becomes a printed group),
    whereas by `group_keys` grouping by key never repeats a title. -/
theorem witness_F12 (gs : List BalGroup)
    (h : balanceGroupsConsecutive stF all keyF txnsF12 = .ok gs) : ¬ (gs.map (·.title)).Nodup := by
  unfold balanceGroupsConsecutive at h
  obtain ⟨bs, hbs, rfl⟩ := (Outcome.map_ok _ _ _).mp h
  obtain ⟨hall, rfl⟩ := (groupBalances_ok_iff stF all _ bs).mp hbs
  have hc : chunkBy keyF txnsF12 = runsF12 := by decide
  have hwf : C02.PostsWF (postsOf txnsF12) := by
    have : ∀ x ∈ postsOf txnsF12, ∀ c ∈ x.acct, c ≠ "" ∧ ':' ∉ c.toList := by decide
    exact ⟨by decide, by decide, C02.namesInj_of_good _ fun x hx c hc => this x hx c hc⟩
  have hposted : ∀ kg ∈ runsF12, postsOf kg.2 ≠ [] := by decide
  -- every run has postings, and all accounts are listed: no group is dropped
  have hne : ∀ kg ∈ runsF12, (balOf stF all kg).isEmpty = false := by
    intro kg hkg
    obtain ⟨b, hb⟩ := hall kg (hc ▸ hkg)
    obtain ⟨p, hp⟩ := List.exists_mem_of_ne_nil _ (hposted kg hkg)
    have hsub := postsOf_subset (chunk_subset keyF txnsF12 kg (hc ▸ hkg))
    have := fromIter_rows_ne_nil stF all _ (postsWF_subset hwf hsub) b hb p hp fun _ => rfl
    simpa only [BalGroup.isEmpty, balOf, hb, List.isEmpty_eq_false_iff] using this
  rw [hc]
  intro hnd
  have hfilt : (runsF12.map (balOf stF all)).filter
      (fun g => !g.isEmpty) = runsF12.map (balOf stF all) := by
    rw [List.filter_eq_self]
    intro g hg
    obtain ⟨kg, hkg, rfl⟩ := List.mem_map.mp hg
    rw [hne kg hkg]; rfl
  rw [hfilt] at hnd
  have hperm := ((List.mergeSort_perm (runsF12.map
    (balOf stF all)) (fun a b => !decide (b.title < a.title))).map (·.title))
  have := hperm.nodup_iff.mp hnd
  simp [balOf, runsF12] at this

end C13
end Tackler
