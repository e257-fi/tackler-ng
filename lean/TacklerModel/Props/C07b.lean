import TacklerModel.Model.PricedReports
import TacklerModel.Props.C07
import TacklerModel.Props.C02
import TacklerModel.Props.C03
import TacklerModel.Props.C13
/-!
# C07b — price conversion at report level (continues C07; namespace `C07b`)

`Model/PricedReports.lean` plugs `convert_prices` into the balance, register and balance-group kernels the way the
three reporters do: one price context per report, built from all transactions of the report.  The converted stream is
`convItem` of every posting (`converted_stream`, `converted_posts`), so the kernel theorems of C02 / C03 / C13 apply to
it, and the figures are unfolded in terms of `C07.appliedEntry` (`convKey`, `val28`, `valueSum`; `valueSum_split`).

* balance: `converted_wf`, `balance_conv_own_sum`, `balance_conv_rows`; `applied_rateAt` (the entry applied is `RateAt`)
* register: `register_conv_running_total`, `register_conv_selector_only_hides`, `register_conv_last_total`
* metadata block (fixed lookups): `metadata_matches_applied`, `shown_rates_determine_figures`, `balance_report_rates`,
  `report_records`
* `no_conversion_reports`; balance groups: `ctx_of_subset`, `balgrp_conv_figures`; `reports_order_free`
* `Ex`: `ex_balance_report`, `ex_postsWF`, `ex_register_engine`, `ex_register_report`
-/
namespace Tackler
namespace C07b
open Tackler.Price Tackler.Priced

/-! ## 1. the converted stream, posting by posting -/

/-- (transaction, posting) pairs in stream order -/
def pairsOf (txns : List Txn) : List (Txn × Posting) := txns.flatMap (fun t => t.posts.map (fun p => (t, p)))

/-- the item `register_engine` builds for posting `p` of `t` (total function; meaningful where
    `convertPosting` is `.ok`) -/
def convItem (cache : Cache) (tgt : String) (t : Txn) (p : Posting) : RItem :=
  match convertPosting cache tgt t p with
  | .ok c => ⟨p, c.comm, c.amount, c.rate⟩
  | .err => ⟨p, p.comm, p.amount, none⟩
  | .undef => ⟨p, p.comm, p.amount, none⟩

/-- what the balance kernel reads of an item: account of the posting, converted commodity and amount -/
def itemBPost (it : RItem) : BPost := ⟨it.post.acct, it.comm, it.amount⟩

theorem itemBPost_key (it : RItem) : (itemBPost it).key = it.key := rfl

theorem convItem_post (cache : Cache) (tgt : String) (t : Txn) (p : Posting) : (convItem cache tgt t p).post = p := by
  unfold convItem; cases convertPosting cache tgt t p <;> rfl

/-- the item `convert_prices` yields for a posting, read back from `convItem` (conversion keeps the account) -/
def convOf (cache : Cache) (tgt : String) (t : Txn) (p : Posting) : Converted :=
  ⟨p.acct, (convItem cache tgt t p).comm, (convItem cache tgt t p).amount, (convItem cache tgt t p).rate⟩

theorem convOf_eq {cache : Cache} {tgt : String} {t : Txn} {p : Posting} {c : Converted}
    (h : convertPosting cache tgt t p = .ok c) : c = convOf cache tgt t p := by
  have hacct : c.acct = p.acct := by
    rw [C07.convertPosting_eq] at h
    cases ha : C07.appliedEntry cache tgt t p with
    | none => rw [ha] at h; cases h; rfl
    | some e => rw [ha] at h; obtain ⟨a, _, rfl⟩ := (C07.valued_ok _ tgt p e c).mp h; rfl
  unfold convOf convItem
  rw [h, ← hacct]

theorem convItem_eq (cache : Cache) (tgt : String) (t : Txn) (p : Posting) :
    convItem cache tgt t p =
      ⟨p, (convOf cache tgt t p).comm, (convOf cache tgt t p).amount, (convOf cache tgt t p).rate⟩ :=
  congrArg (fun q => (⟨q, _, _, _⟩ : RItem)) (convItem_post cache tgt t p)

theorem toBPost_convOf (cache : Cache) (tgt : String) (t : Txn) (p : Posting) :
    toBPost (convOf cache tgt t p) = itemBPost (convItem cache tgt t p) := by
  rw [toBPost, itemBPost, convItem_post]; rfl

/-- `mapO` of an everywhere-`.ok` function is `map` -/
theorem mapO_eq_map {α β} (f : α → Outcome β) (g : α → β) : ∀ (l : List α) (bs : List β),
    (∀ a b, f a = .ok b → b = g a) → mapO f l = .ok bs → bs = l.map g ∧ ∀ a ∈ l, ∃ b, f a = .ok b := by
  intro l bs hg h
  rw [C07.mapO_ok_iff] at h
  have hall : ∀ a ∈ l, ∃ b, f a = .ok b := fun a ha => by
    obtain ⟨b, _, e⟩ := List.mem_map.mp (h ▸ List.mem_map_of_mem (f := f) ha)
    exact ⟨b, e.symm⟩
  refine ⟨(List.map_inj_right fun _ _ => Outcome.ok.inj).mp ?_, hall⟩
  rw [← h, List.map_map]
  exact List.map_congr_left fun a ha => by obtain ⟨b, hb⟩ := hall a ha; rw [hb, Function.comp, ← hg a b hb]

theorem zipItems_map (g : Posting → Converted) (posts : List Posting) :
    zipItems (posts.map g) posts = posts.map (fun p => ⟨p, (g p).comm, (g p).amount, (g p).rate⟩) := by
  induction posts with
  | nil => rfl
  | cons p ps ih =>
    simp only [zipItems, List.map_cons, List.zip_cons_cons] at ih ⊢
    rw [ih]

theorem convertPrices_ok (ctx : Ctx) (tgt : String) (hin : ctx.inCommodity = some tgt) (t : Txn)
    (cs : List Converted) (h : convertPrices ctx t = .ok cs) :
    cs = t.posts.map (convOf ctx.cache tgt t) ∧ ∀ p ∈ t.posts, ∃ c, convertPosting ctx.cache tgt t p = .ok c := by
  unfold convertPrices at h
  rw [hin] at h
  exact mapO_eq_map _ _ _ _ (fun _ _ => convOf_eq) h

/-- the stream of the register engine with conversion on -/
def convStream (cache : Cache) (tgt : String) (txns : List Txn) : List (Txn × List RItem) :=
  txns.map (fun t => (t, t.posts.map (convItem cache tgt t)))

/-- every posting of the set converts inside the exact domain -/
def AllConvert (cache : Cache) (tgt : String) (txns : List Txn) : Prop :=
  ∀ t ∈ txns, ∀ p ∈ t.posts, ∃ c, convertPosting cache tgt t p = .ok c

/-- **converted_stream**: with conversion on, the stream `register_engine` walks is, per transaction, `convItem` of
    its postings in written order -/
theorem converted_stream (ctx : Ctx) (tgt : String) (hin : ctx.inCommodity = some tgt) :
    ∀ (txns : List Txn) (stream : List (Txn × List RItem)), convertedStream ctx txns = .ok stream →
      stream = convStream ctx.cache tgt txns ∧ AllConvert ctx.cache tgt txns := by
  intro txns stream h
  obtain ⟨e, hall⟩ := mapO_eq_map _ (fun t => (t, t.posts.map (convItem ctx.cache tgt t))) txns stream
    (fun t b hb => by
      obtain ⟨cs, hcs, rfl⟩ := (Outcome.map_ok _ _ _).mp hb
      rw [(convertPrices_ok ctx tgt hin t cs hcs).1, zipItems_map]
      simp only [← convItem_eq]) h
  refine ⟨e, fun t ht => ?_⟩
  obtain ⟨b, hb⟩ := hall t ht
  obtain ⟨cs, hcs, _⟩ := (Outcome.map_ok _ _ _).mp hb
  exact (convertPrices_ok ctx tgt hin t cs hcs).2

theorem itemsOf_convStream (cache : Cache) (tgt : String) (txns : List Txn) :
    C03.itemsOf (convStream cache tgt txns) = (pairsOf txns).map (fun tp => convItem cache tgt tp.1 tp.2) := by
  induction txns with
  | nil => rfl
  | cons t ts ih =>
    have : convStream cache tgt (t :: ts) = (t, t.posts.map (convItem cache tgt t)) :: convStream cache tgt ts := rfl
    rw [this, C03.itemsOf_cons, ih]
    simp [pairsOf, List.map_map, Function.comp_def]

/-- **converted_posts**: with conversion on, the posting stream `Balance::balance` sums is the same items, read as
    (account, converted commodity, converted amount) -/
theorem converted_posts (ctx : Ctx) (tgt : String) (hin : ctx.inCommodity = some tgt) :
    ∀ (txns : List Txn) (cps : List BPost), convertedPosts ctx txns = .ok cps →
      cps = (C03.itemsOf (convStream ctx.cache tgt txns)).map itemBPost ∧ AllConvert ctx.cache tgt txns := by
  intro txns cps h
  unfold convertedPosts convertedAll at h
  obtain ⟨cs, hcs, rfl⟩ := (Outcome.map_ok _ _ _).mp h
  obtain ⟨css, hcss, rfl⟩ := (Outcome.map_ok _ _ _).mp hcs
  obtain ⟨rfl, hall⟩ := mapO_eq_map _ (fun t => t.posts.map (convOf ctx.cache tgt t)) txns css
    (fun t cs h => (convertPrices_ok ctx tgt hin t cs h).1) hcss
  refine ⟨?_, fun t ht => ?_⟩
  · rw [itemsOf_convStream]
    simp only [pairsOf, List.flatMap_def, List.map_flatten, List.map_map, Function.comp_def, toBPost_convOf]
  · obtain ⟨cs, hcs⟩ := hall t ht
    exact (convertPrices_ok ctx tgt hin t cs hcs).2

/-! ## 2. converted figures in terms of the applied rates -/

/-- 10²⁸: `Dec.units` counts units of 10⁻²⁸ -/
def E28 : Int := (10:Int)^28

/-- the key a posting is summed under, given the entry applied to it -/
def keyOf (x : Option PriceEntry) (tgt : String) (p : Posting) : AKey :=
  match x with
  | some _ => (tgt, p.acct)
  | none => (p.comm, p.acct)

/-- the converted amount × 10²⁸ (units), given the entry applied -/
def valOf (x : Option PriceEntry) (p : Posting) : Int :=
  match x with
  | some e => p.amount.units * e.rate.units
  | none => p.amount.units * E28

/-- amount × rate if converted and summed under `k` -/
def ratedOf (x : Option PriceEntry) (tgt : String) (p : Posting) (k : AKey) : Int :=
  match x with
  | some e => if (tgt, p.acct) = k then p.amount.units * e.rate.units else 0
  | none => 0

/-- amount if not converted and summed under `k` -/
def plainOf (x : Option PriceEntry) (p : Posting) (k : AKey) : Int :=
  match x with
  | some _ => 0
  | none => if p.acctnKey = k then p.amount.units else 0

/-- the (commodity, account) under which a posting is summed -/
def convKey (cache : Cache) (tgt : String) (tp : Txn × Posting) : AKey :=
  keyOf (C07.appliedEntry cache tgt tp.1 tp.2) tgt tp.2

/-- the converted amount × 10²⁸, in units -/
def val28 (cache : Cache) (tgt : String) (tp : Txn × Posting) : Int :=
  valOf (C07.appliedEntry cache tgt tp.1 tp.2) tp.2

/-- Σ converted amount × 10²⁸ over the pairs summed under `k` -/
def valueSum (cache : Cache) (tgt : String) (l : List (Txn × Posting)) (k : AKey) : Int :=
  (l.map (fun tp => if convKey cache tgt tp = k then val28 cache tgt tp else 0)).sum

/-- Σ amount × rate (units × units) over the converted postings summed under `k` -/
def ratedSum (cache : Cache) (tgt : String) (l : List (Txn × Posting)) (k : AKey) : Int :=
  (l.map (fun tp => ratedOf (C07.appliedEntry cache tgt tp.1 tp.2) tgt tp.2 k)).sum

/-- Σ amount (units) over the unconverted postings summed under `k` -/
def plainSum (cache : Cache) (tgt : String) (l : List (Txn × Posting)) (k : AKey) : Int :=
  (l.map (fun tp => plainOf (C07.appliedEntry cache tgt tp.1 tp.2) tp.2 k)).sum

theorem valOf_split (x : Option PriceEntry) (tgt : String) (p : Posting) (k : AKey) :
    (if keyOf x tgt p = k then valOf x p else 0) = ratedOf x tgt p k + plainOf x p k * E28 := by
  cases x with
  | none =>
    simp only [keyOf, valOf, ratedOf, plainOf, Posting.acctnKey]
    by_cases hk : (p.comm, p.acct) = k <;> simp [hk]
  | some e =>
    simp only [keyOf, valOf, ratedOf, plainOf]
    by_cases hk : (tgt, p.acct) = k <;> simp [hk]

/-- **valueSum_split**: Σ converted amounts = Σ amount × rate over the converted postings + Σ amount over the
    unconverted ones -/
theorem valueSum_split (cache : Cache) (tgt : String) (l : List (Txn × Posting)) (k : AKey) :
    valueSum cache tgt l k = ratedSum cache tgt l k + plainSum cache tgt l k * E28 := by
  unfold valueSum ratedSum plainSum
  rw [← ListSum.sum_map_mul_right, ← ListSum.sum_map_add]
  exact ListSum.sum_map_congr _ _ _ fun tp _ => valOf_split _ tgt tp.2 k

theorem valueSum_append (cache : Cache) (tgt : String) (l₁ l₂ : List (Txn × Posting)) (k : AKey) :
    valueSum cache tgt (l₁ ++ l₂) k = valueSum cache tgt l₁ k + valueSum cache tgt l₂ k := by
  simp [valueSum]

/-- the per-posting rate a register row carries, given the entry applied: only the txn-time cache reports it -/
def rateOf (x : Option PriceEntry) (timed : Bool) : Option Dec :=
  match x with
  | some e => if timed then some e.rate else none
  | none => none

theorem convItem_spec (cache : Cache) (tgt : String) (t : Txn) (p : Posting) (c : Converted)
    (h : convertPosting cache tgt t p = .ok c) (hs : p.amount.scale ≤ 28) :
    (convItem cache tgt t p).key = convKey cache tgt (t, p) ∧
    (convItem cache tgt t p).amount.units * E28 = val28 cache tgt (t, p) ∧
    (convItem cache tgt t p).amount.scale ≤ 28 ∧
    (convItem cache tgt t p).rate = rateOf (C07.appliedEntry cache tgt t p) (C07.isTimed cache) := by
  rw [convItem_eq, ← convOf_eq h]
  rw [C07.convertPosting_eq] at h
  unfold convKey val28
  cases ha : C07.appliedEntry cache tgt t p with
  | none => rw [ha] at h; cases h; exact ⟨rfl, rfl, hs, rfl⟩
  | some e =>
    rw [ha] at h
    obtain ⟨a, hmul, rfl⟩ := (C07.valued_ok _ tgt p e c).mp h
    obtain ⟨hu, hsc⟩ := Dec.mul_units _ _ _ hmul
    exact ⟨rfl, hu, hsc, rfl⟩

theorem keySum_convItems (cache : Cache) (tgt : String) (k : AKey) : ∀ (l : List (Txn × Posting)),
    (∀ tp ∈ l, tp.2.amount.scale ≤ 28 ∧ ∃ c, convertPosting cache tgt tp.1 tp.2 = .ok c) →
    Reg.keySum k (l.map (fun tp => convItem cache tgt tp.1 tp.2)) * E28 = valueSum cache tgt l k := by
  intro l
  induction l with
  | nil => intro _; simp [valueSum]
  | cons tp t ih =>
    intro h
    obtain ⟨hs, c, hc⟩ := h tp List.mem_cons_self
    obtain ⟨hk, hv, _, _⟩ := convItem_spec cache tgt tp.1 tp.2 c hc hs
    rw [List.map_cons, Reg.keySum_cons, Int.add_mul, ih (fun x hx => h x (List.mem_cons_of_mem _ hx)), hk]
    simp only [valueSum, List.map_cons, List.sum_cons]
    split
    · rw [hv]
    · rw [Int.zero_mul]

theorem ownSum_items (k : AKey) (items : List RItem) : C02.ownSum (items.map itemBPost) k = Reg.keySum k items := by
  unfold C02.ownSum Reg.keySum
  rw [List.filter_map, List.map_map]
  rfl

theorem mem_pairsOf (txns : List Txn) (tp : Txn × Posting) : tp ∈ pairsOf txns ↔ tp.1 ∈ txns ∧ tp.2 ∈ tp.1.posts := by
  obtain ⟨t, p⟩ := tp
  simp only [pairsOf, List.mem_flatMap, List.mem_map, Prod.mk.injEq]
  constructor
  · rintro ⟨t', ht', p', hp', rfl, rfl⟩; exact ⟨ht', hp'⟩
  · rintro ⟨ht, hp⟩; exact ⟨t, ht, p, hp, rfl, rfl⟩

theorem pairsOf_convert (cache : Cache) (tgt : String) (txns : List Txn) (hwf : C03.TxnsWF txns)
    (hall : AllConvert cache tgt txns) :
    ∀ tp ∈ pairsOf txns, tp.2.amount.scale ≤ 28 ∧ ∃ c, convertPosting cache tgt tp.1 tp.2 = .ok c := by
  intro tp htp
  obtain ⟨ht, hp⟩ := (mem_pairsOf txns tp).mp htp
  exact ⟨hwf tp.1 ht tp.2 hp, hall tp.1 ht tp.2 hp⟩

/-! ## 3. balance report with conversion -/

theorem mem_postsOf_of_pair (txns : List Txn) (tp : Txn × Posting) (h : tp ∈ pairsOf txns) :
    (⟨tp.2.acct, tp.2.comm, tp.2.amount⟩ : BPost) ∈ postsOf txns := by
  obtain ⟨ht, hp⟩ := (mem_pairsOf txns tp).mp h
  simp only [postsOf, List.mem_flatMap, List.mem_map]
  exact ⟨tp.1, ht, tp.2, hp, rfl⟩

theorem txnsWF_of_postsWF (txns : List Txn) (hwf : C02.PostsWF (postsOf txns)) : C03.TxnsWF txns := by
  intro t ht p hp
  exact hwf.scale _ (mem_postsOf_of_pair txns (t, p) ((mem_pairsOf txns (t, p)).mpr ⟨ht, hp⟩))

/-- **converted_wf**: the representation invariants of the posting stream (`PostsWF`: scales ≤ 28, non-empty
    paths, names determine paths) carry over to the converted stream — conversion keeps every account and an exact
    product has scale ≤ 28.  So every C02 theorem applies to the converted balance without a new hypothesis. -/
theorem converted_wf (cache : Cache) (tgt : String) (txns : List Txn) (hwf : C02.PostsWF (postsOf txns))
    (hall : AllConvert cache tgt txns) :
    C02.PostsWF ((C03.itemsOf (convStream cache tgt txns)).map itemBPost) := by
  rw [itemsOf_convStream, List.map_map]
  have hmem : ∀ x ∈ (pairsOf txns).map (itemBPost ∘ fun tp => convItem cache tgt tp.1 tp.2),
      x.amount.scale ≤ 28 ∧ ∃ y ∈ postsOf txns, y.acct = x.acct := by
    intro x hx
    obtain ⟨tp, htp, rfl⟩ := List.mem_map.mp hx
    have hy := mem_postsOf_of_pair txns tp htp
    obtain ⟨hs, c, hc⟩ := pairsOf_convert cache tgt txns (txnsWF_of_postsWF txns hwf) hall tp htp
    exact ⟨(convItem_spec cache tgt tp.1 tp.2 c hc hs).2.2.1, _, hy, by simp [itemBPost, convItem_post]⟩
  refine ⟨fun x hx => (hmem x hx).1, ?_, ?_⟩
  · intro x hx
    obtain ⟨y, hy, e⟩ := (hmem x hx).2
    rw [← e]; exact hwf.nonempty y hy
  · intro p q ⟨x, hx, hpx⟩ ⟨y, hy, hqy⟩ hn
    obtain ⟨x', hx', ex⟩ := (hmem x hx).2
    obtain ⟨y', hy', ey⟩ := (hmem y hy).2
    exact hwf.namesInj p q ⟨x', hx', by rw [ex]; exact hpx⟩ ⟨y', hy', by rw [ey]; exact hqy⟩ hn

/-- the price cache of the report -/
abbrev rcache (lk : PriceLookup) (tgt : String) (db : List PriceEntry) (txns : List Txn) : Cache :=
  (reportCtx lk (some tgt) db txns).cache

theorem balanceConv_ok (st : Settings) (sel : BalRow → Bool) (db : List PriceEntry) (txns : List Txn) (tgt : String)
    (lk : PriceLookup) (hlk : lk ≠ .none) (b : Balance)
    (h : balanceConv st sel lk (some tgt) db txns = .ok b) :
    ∃ cps, convertedPosts (reportCtx lk (some tgt) db txns) txns = .ok cps ∧
      cps = (C03.itemsOf (convStream (rcache lk tgt db txns) tgt txns)).map itemBPost ∧
      AllConvert (rcache lk tgt db txns) tgt txns ∧ fromIter st sel cps = .ok b := by
  unfold balanceConv balanceOfConv at h
  obtain ⟨cps, hcps, hb⟩ := (Outcome.bind_ok _ _ _).mp h
  obtain ⟨e, hall⟩ := converted_posts _ tgt (C07.makeCtx_in lk txns tgt db hlk) txns cps hcps
  exact ⟨cps, hcps, e, hall, hb⟩

theorem posted_conv_iff (cache : Cache) (tgt : String) (txns : List Txn) (hwf : C03.TxnsWF txns)
    (hall : AllConvert cache tgt txns) (k : AKey) :
    C02.Posted ((C03.itemsOf (convStream cache tgt txns)).map itemBPost) k ↔
      ∃ tp ∈ pairsOf txns, convKey cache tgt tp = k := by
  rw [itemsOf_convStream, List.map_map]
  unfold C02.Posted
  have hkey : ∀ tp ∈ pairsOf txns, (itemBPost (convItem cache tgt tp.1 tp.2)).key = convKey cache tgt tp := by
    intro tp htp
    obtain ⟨hs, c, hc⟩ := pairsOf_convert cache tgt txns hwf hall tp htp
    exact (convItem_spec cache tgt tp.1 tp.2 c hc hs).1
  constructor
  · rintro ⟨x, hx, hk⟩
    obtain ⟨tp, htp, rfl⟩ := List.mem_map.mp hx
    exact ⟨tp, htp, (hkey tp htp).symm.trans hk⟩
  · rintro ⟨tp, htp, hk⟩
    exact ⟨_, List.mem_map.mpr ⟨tp, htp, rfl⟩, (hkey tp htp).trans hk⟩

/-- **balance_conv_own_sum**: with conversion on (any lookup type, any price db), for every listed row of the
    balance report: the own sum is the exact sum of the *converted* amounts of the postings whose *converted* key
    (report commodity if a rate is applied, else the posting's own commodity; account unchanged) is the row's key
    (C02 `own_sum` on the converted stream), and unfolded with C07: own × 10²⁸ = Σ amount × rate over the converted postings + (Σ amount over the unconverted ones) × 10²⁸,
    the rate being that of `appliedEntry` (= the documented `RateAt`, see `applied_rateAt`).
    The tree sum is the same sum over the row's key and everything below it. -/
theorem balance_conv_own_sum (st : Settings) (sel : BalRow → Bool) (db : List PriceEntry) (txns : List Txn)
    (tgt : String) (lk : PriceLookup) (hlk : lk ≠ .none) (hwf : C02.PostsWF (postsOf txns)) (b : Balance)
    (h : balanceConv st sel lk (some tgt) db txns = .ok b) :
    ∃ cps, convertedPosts (reportCtx lk (some tgt) db txns) txns = .ok cps ∧ C02.PostsWF cps ∧
      fromIter st sel cps = .ok b ∧
      ∀ row ∈ b.rows,
        row.own.units = C02.ownSum cps row.key ∧
        row.own.units * E28 = valueSum (rcache lk tgt db txns) tgt (pairsOf txns) row.key ∧
        row.own.units * E28 = ratedSum (rcache lk tgt db txns) tgt (pairsOf txns) row.key
                                + plainSum (rcache lk tgt db txns) tgt (pairsOf txns) row.key * E28 ∧
        row.tree.units = C02.treeSum cps row.key := by
  obtain ⟨cps, hcps, e, hall, hb⟩ := balanceConv_ok st sel db txns tgt lk hlk b h
  have hwf' : C02.PostsWF cps := by rw [e]; exact converted_wf _ tgt txns hwf hall
  refine ⟨cps, hcps, hwf', hb, ?_⟩
  intro row hrow
  obtain ⟨bal, hbal, hrows⟩ := C13.fromIter_rows st sel cps b hb
  have hrow' : row ∈ bal := by rw [hrows] at hrow; exact (List.mem_filter.mp hrow).1
  have hown := C02.own_sum st cps hwf' bal hbal row hrow'
  have hval : row.own.units * E28 = valueSum (rcache lk tgt db txns) tgt (pairsOf txns) row.key := by
    rw [hown, e, ownSum_items, itemsOf_convStream]
    exact keySum_convItems _ tgt row.key (pairsOf txns) (pairsOf_convert _ tgt txns (txnsWF_of_postsWF txns hwf) hall)
  refine ⟨hown, hval, ?_, C02.tree_sum_posts st cps hwf' bal hbal row hrow'⟩
  rw [hval, valueSum_split]

/-- **balance_conv_rows**: the rows of the converted balance are exactly the converted keys of the postings and
    their proper ancestors, each once, sorted by (commodity, account); the listed ones are those the selector
    accepts.  In particular no row is left in a source commodity whose postings were all converted. -/
theorem balance_conv_rows (st : Settings) (sel : BalRow → Bool) (db : List PriceEntry) (txns : List Txn)
    (tgt : String) (lk : PriceLookup) (hlk : lk ≠ .none) (hwf : C02.PostsWF (postsOf txns)) (b : Balance)
    (h : balanceConv st sel lk (some tgt) db txns = .ok b) :
    ∃ cps bal, convertedPosts (reportCtx lk (some tgt) db txns) txns = .ok cps ∧ balance st cps = .ok bal ∧
      b.rows = bal.filter sel ∧
      (bal.map (·.key)).Pairwise (fun x y => keyLt x y = true) ∧
      ∀ k, k ∈ bal.map (·.key) ↔
        (∃ tp ∈ pairsOf txns, convKey (rcache lk tgt db txns) tgt tp = k) ∨ C02.ProperAncestor cps k := by
  obtain ⟨cps, hcps, e, hall, hb⟩ := balanceConv_ok st sel db txns tgt lk hlk b h
  have hwf' : C02.PostsWF cps := by rw [e]; exact converted_wf _ tgt txns hwf hall
  obtain ⟨bal, hbal, hrows⟩ := C13.fromIter_rows st sel cps b hb
  obtain ⟨hs, hk⟩ := C02.rows_exact st cps hwf' bal hbal
  refine ⟨cps, bal, hcps, hbal, hrows, hs, ?_⟩
  intro k
  rw [hk k]
  have := posted_conv_iff (rcache lk tgt db txns) tgt txns (txnsWF_of_postsWF txns hwf) hall k
  rw [← e] at this
  rw [this]

/-- **applied_rateAt**: `C07.appliedEntry_rateAt` for the report's price context: no entry is applied to a posting
    without commodity or already in the report commodity; to any other posting the entry applied is the `RateAt` of
    its commodity under the lookup's time condition (`none` iff there is no such entry). -/
theorem applied_rateAt (es : List PriceEntry) (txns : List Txn) (tgt : String) (lk : PriceLookup) (hlk : lk ≠ .none)
    (t : Txn) (ht : t ∈ txns) (p : Posting) (hp : p ∈ t.posts) :
    ((p.comm = "" ∨ p.comm = tgt) → C07.appliedEntry (rcache lk tgt (loadDb es) txns) tgt t p = none) ∧
    (p.comm ≠ "" → p.comm ≠ tgt →
      C07.RateAt (loadDb es) p.comm tgt (C07.lookupPred lk t.header.ts.ns)
        (C07.appliedEntry (rcache lk tgt (loadDb es) txns) tgt t p)) := by
  exact C07.appliedEntry_rateAt es txns tgt lk t ht p hp

theorem convertedPosts_of_allConvert (ctx : Ctx) (tgt : String) (hin : ctx.inCommodity = some tgt) (txns : List Txn)
    (hall : AllConvert ctx.cache tgt txns) : ∃ cps, convertedPosts ctx txns = .ok cps := by
  have h1 : ∀ t ∈ txns, convertPrices ctx t = .ok (t.posts.map (convOf ctx.cache tgt t)) := fun t ht => by
    unfold convertPrices
    rw [hin]
    exact C07.mapO_map _ _ _ fun p hp => by obtain ⟨c, hc⟩ := hall t ht p hp; rw [hc, ← convOf_eq hc]
  exact ⟨_, by rw [convertedPosts, convertedAll, C07.mapO_map _ _ _ h1]; rfl⟩

/-! ## 4. register report with conversion -/

theorem registerConv_ok (sel : RegRow → Bool) (db : List PriceEntry) (txns : List Txn) (tgt : String)
    (lk : PriceLookup) (hlk : lk ≠ .none) (es : List RegEntry)
    (h : registerConv sel lk (some tgt) db txns = .ok es) :
    AllConvert (rcache lk tgt db txns) tgt txns ∧
      registerEngine sel (convStream (rcache lk tgt db txns) tgt txns) = .ok es := by
  unfold registerConv at h
  obtain ⟨stream, hst, he⟩ := (Outcome.bind_ok _ _ _).mp h
  obtain ⟨e, hall⟩ := converted_stream _ tgt (C07.makeCtx_in lk txns tgt db hlk) txns stream hst
  rw [e] at he
  exact ⟨hall, he⟩

theorem convStream_wf (cache : Cache) (tgt : String) (txns : List Txn) (hwf : C03.TxnsWF txns)
    (hall : AllConvert cache tgt txns) : C03.StreamWF (convStream cache tgt txns) := by
  intro x hx it hit
  simp only [convStream, List.mem_map] at hx
  obtain ⟨t, ht, rfl⟩ := hx
  simp only [List.mem_map] at hit
  obtain ⟨p, hp, rfl⟩ := hit
  obtain ⟨c, hc⟩ := hall t ht p hp
  exact (convItem_spec cache tgt t p c hc (hwf t ht p hp)).2.2.1

/-- **register_conv_running_total**: with conversion on, the register without selector has one entry per
    transaction; entry `i` lists the postings of transaction `i` in the order of their **original**
    (commodity, account) (`C03.sortedPosts`); row `j` shows the posting itself, the **converted** key
    (`convKey`: report commodity iff a rate is applied), the per-posting rate (txn-time only), and as running total
    the exact sum of the converted amounts summed under that converted key: all postings of the transactions before
    `i`, plus those of transaction `i` at in-entry positions `≤ j` (C03 `running_total_stream` on the converted stream). -/
theorem register_conv_running_total (db : List PriceEntry) (txns : List Txn) (tgt : String) (lk : PriceLookup)
    (hlk : lk ≠ .none) (hwf : C03.TxnsWF txns) (es : List RegEntry)
    (h : registerConv selAll lk (some tgt) db txns = .ok es) :
    es.length = txns.length ∧
    ∀ i e, es[i]? = some e → ∃ t, txns[i]? = some t ∧ e.txn = t ∧ e.rows.length = t.posts.length ∧
      ∀ j r, e.rows[j]? = some r → ∃ p, (C03.sortedPosts t)[j]? = some p ∧ r.post = p ∧
        r.key = convKey (rcache lk tgt db txns) tgt (t, p) ∧
        r.rate = rateOf (C07.appliedEntry (rcache lk tgt db txns) tgt t p) (C07.isTimed (rcache lk tgt db txns)) ∧
        r.total.units * E28 =
          valueSum (rcache lk tgt db txns) tgt (pairsOf (txns.take i)) (convKey (rcache lk tgt db txns) tgt (t, p))
          + valueSum (rcache lk tgt db txns) tgt (((C03.sortedPosts t).take (j + 1)).map (fun q => (t, q)))
              (convKey (rcache lk tgt db txns) tgt (t, p)) := by
  obtain ⟨hall, he⟩ := registerConv_ok selAll db txns tgt lk hlk es h
  generalize rcache lk tgt db txns = cache at hall he ⊢
  obtain ⟨hlen, hentries⟩ :=
    C03.running_total_stream (convStream cache tgt txns) es (convStream_wf cache tgt txns hwf hall) he
  refine ⟨hlen.trans (List.length_map _), fun i e hi => ?_⟩
  obtain ⟨t, items, hst, htx, hlen', hrows⟩ := hentries i e hi
  obtain ⟨ht, rfl⟩ : txns[i]? = some t ∧ items = t.posts.map (convItem cache tgt t) := by
    rw [convStream, List.getElem?_map] at hst
    obtain ⟨_, ht, hpair⟩ := Option.map_eq_some_iff.mp hst
    cases hpair; exact ⟨ht, rfl⟩
  have htm : t ∈ txns := List.mem_of_getElem? ht
  have hsub : ∀ q ∈ C03.sortedPosts t, q ∈ t.posts := fun q hq => (C03.sortedPosts_spec t).1.subset hq
  refine ⟨t, ht, htx, hlen'.trans (List.length_map _), fun j r hj => ?_⟩
  obtain ⟨it, hit, hr, htot⟩ := hrows j r hj
  -- the engine's pre-sort is by the *original* account key of the posting, so it commutes with `convItem`
  have hsort : Reg.sortItems (t.posts.map (convItem cache tgt t)) = (C03.sortedPosts t).map (convItem cache tgt t) :=
    (List.map_mergeSort (r := C03.postLe) (s := itemLe) (f := convItem cache tgt t) (l := t.posts)
      fun a _ b _ => by simp [itemLe, C03.postLe, convItem_post]).symm
  rw [hsort] at hit htot
  obtain ⟨p, hp, rfl⟩ : ∃ p, (C03.sortedPosts t)[j]? = some p ∧ convItem cache tgt t p = it := by
    rw [List.getElem?_map] at hit; exact Option.map_eq_some_iff.mp hit
  have hpm := hsub p (List.mem_of_getElem? hp)
  obtain ⟨c, hc⟩ := hall t htm p hpm
  obtain ⟨hkey, _, _, hrate⟩ := convItem_spec cache tgt t p c hc (hwf t htm p hpm)
  refine ⟨p, hp, hr.1.trans (convItem_post cache tgt t p), ?_, hr.2.2.trans hrate, ?_⟩
  · rw [← hkey, RegRow.key, RItem.key, hr.1, hr.2.1]
  · have e1 : C03.itemsOf ((convStream cache tgt txns).take i)
        = (pairsOf (txns.take i)).map (fun tp => convItem cache tgt tp.1 tp.2) := by
      rw [← itemsOf_convStream, convStream, convStream, List.map_take]
    have e2 : ((C03.sortedPosts t).map (convItem cache tgt t)).take (j + 1)
        = (((C03.sortedPosts t).take (j + 1)).map (fun q => (t, q))).map (fun tp => convItem cache tgt tp.1 tp.2) := by
      rw [← List.map_take, List.map_map]; rfl
    rw [htot, Int.add_mul, hkey, e1, e2,
      keySum_convItems cache tgt _ _ (pairsOf_convert cache tgt _ (fun x hx => hwf x (List.mem_of_mem_take hx))
        fun x hx => hall x (List.mem_of_mem_take hx)),
      keySum_convItems cache tgt _ _ fun tp htp => by
        obtain ⟨q, hq, rfl⟩ := List.mem_map.mp htp
        have hqm := hsub q (List.mem_of_mem_take hq)
        exact ⟨hwf t htm q hqm, hall t htm q hqm⟩]

/-- **register_conv_selector_only_hides**: with conversion on, too, the account selector only hides rows: hidden
    postings are converted and accumulated all the same (entry by entry the rows of the unrestricted report that
    the selector accepts) -/
theorem register_conv_selector_only_hides (sel : RegRow → Bool) (lk : PriceLookup) (rc : Option String)
    (db : List PriceEntry) (txns : List Txn) :
    registerConv sel lk rc db txns = (registerConv selAll lk rc db txns).map (fun es => es.map (C03.hide sel)) := by
  unfold registerConv
  cases convertedStream (reportCtx lk rc db txns) txns with
  | ok stream => simp only [Outcome.bind]; exact C03.selector_only_hides_stream sel stream
  | err => rfl
  | undef => rfl

/-- **register_conv_last_total**: the last running total the converted register shows for a (commodity, account)
    is the exact sum of everything converted into it — the own sum the converted balance report shows for that key
    (`balance_conv_own_sum`): the two reports agree with conversion on. -/
theorem register_conv_last_total (db : List PriceEntry) (txns : List Txn) (tgt : String) (lk : PriceLookup)
    (hlk : lk ≠ .none) (hwf : C03.TxnsWF txns) (es : List RegEntry)
    (h : registerConv selAll lk (some tgt) db txns = .ok es) (k : AKey) (r : RegRow)
    (hl : C03.lastRow k (es.flatMap (·.rows)) = some r) :
    (∃ cps, convertedPosts (reportCtx lk (some tgt) db txns) txns = .ok cps ∧ r.total.units = C02.ownSum cps k) ∧
    r.total.units * E28 = valueSum (rcache lk tgt db txns) tgt (pairsOf txns) k := by
  obtain ⟨hall, he⟩ := registerConv_ok selAll db txns tgt lk hlk es h
  have hlast := C03.last_total_stream _ es (convStream_wf _ tgt txns hwf hall) he k r hl
  constructor
  · -- the balance side sums the same items
    obtain ⟨cps, hc⟩ := convertedPosts_of_allConvert _ tgt (C07.makeCtx_in lk txns tgt db hlk) txns hall
    obtain ⟨e, _⟩ := converted_posts _ tgt (C07.makeCtx_in lk txns tgt db hlk) txns cps hc
    refine ⟨cps, hc, ?_⟩
    rw [hlast, e, ownSum_items]
    rfl
  · rw [hlast, itemsOf_convStream]
    exact keySum_convItems _ tgt k (pairsOf txns) (pairsOf_convert _ tgt txns hwf hall)

/-! ## 5. the metadata block shows the rates multiplied in (fixed lookups) -/

/-- the record the metadata block shows for a source commodity -/
def shownFor (records : List PriceRecord) (src : String) : Option PriceRecord :=
  records.find? (fun r => r.source == src)

/-- a price entry as the metadata block prints it -/
def recordOf (tgt : String) (e : PriceEntry) : PriceRecord := ⟨some e.ns, e.base, some e.rate, tgt⟩

/-- the price entry a reader reconstructs from the metadata block for a posting's commodity -/
def shownEntry (records : List PriceRecord) (tgt : String) (p : Posting) : Option PriceEntry :=
  match shownFor records p.comm with
  | some ⟨some ns, src, some rate, _⟩ => some ⟨ns, src, rate, tgt⟩
  | _ => none

theorem find?_eq_mapGet {β} (k : String) : ∀ (l : List (String × β)),
    l.find? (fun kv => kv.1 == k) = (mapGet l k).map (fun v => (k, v)) := by
  intro l
  induction l with
  | nil => rfl
  | cons a t ih =>
    obtain ⟨k', v⟩ := a
    simp only [List.find?_cons, mapGet]
    by_cases h : k' = k
    · subst h; simp
    · have : (k' == k) = false := by simpa using h
      simp [this, ih]

theorem mapGet_sortByKey {β} (m : List (String × β)) (h : (C07.keys m).Nodup) (k : String) :
    mapGet (sortByKey m) k = mapGet m k :=
  Option.ext fun v => by
    rw [← C07.mem_iff_mapGet _ (C07.keys_sortByKey_nodup m h), ← C07.mem_iff_mapGet m h, C07.mem_sortByKey]

theorem shownFor_fixed (m : List (String × (Int × Dec))) (hnd : (C07.keys m).Nodup) (tgt src : String) :
    shownFor (metadata ⟨.fixed m, some tgt⟩) src
      = (mapGet m src).map (fun c => (⟨some c.1, src, some c.2, tgt⟩ : PriceRecord)) := by
  simp only [shownFor, metadata, List.find?_map]
  have : ((fun r : PriceRecord => r.source == src) ∘ fun kv : String × (Int × Dec) =>
      (⟨some kv.2.1, kv.1, some kv.2.2, tgt⟩ : PriceRecord)) = (fun kv => kv.1 == src) := rfl
  rw [this, find?_eq_mapGet, mapGet_sortByKey m hnd]
  cases mapGet m src <;> rfl

/-- **metadata_matches_applied**: under the fixed lookups (`last-price`, `given-time`), in the price context of a
    report (`reportCtx`, the one context the figures are converted with *and* the metadata block is printed from):
    * for every posting of the report's transactions, the entry multiplied into it is exactly the record the
      metadata block shows for the posting's commodity (time, source, rate, report commodity) — and no record for
      that commodity means the posting is not converted;
    * every record is the entry multiplied into some posting of the report; each source commodity appears once, in
      name order.
    Hypothesis: price entries have a non-empty base commodity (price-file grammar). -/
theorem metadata_matches_applied (es : List PriceEntry) (hwf : ∀ e ∈ es, e.base ≠ "") (txns : List Txn)
    (tgt : String) (lk : PriceLookup) (hlk : lk = .lastPrice ∨ ∃ g, lk = .givenTime g) :
    (∀ (t : Txn) (p : Posting),
      (C07.appliedEntry (rcache lk tgt (loadDb es) txns) tgt t p).map (recordOf tgt)
        = shownFor (metadata (reportCtx lk (some tgt) (loadDb es) txns)) p.comm) ∧
    (∀ (t : Txn) (p : Posting),
      C07.appliedEntry (rcache lk tgt (loadDb es) txns) tgt t p
        = shownEntry (metadata (reportCtx lk (some tgt) (loadDb es) txns)) tgt p) ∧
    (∀ r ∈ metadata (reportCtx lk (some tgt) (loadDb es) txns), ∃ e, ∃ t ∈ txns, ∃ p ∈ t.posts,
      C07.appliedEntry (rcache lk tgt (loadDb es) txns) tgt t p = some e ∧ r = recordOf tgt e) ∧
    (metadata (reportCtx lk (some tgt) (loadDb es) txns)).Pairwise (fun a b => a.source < b.source) := by
  obtain ⟨bound, hctx, -⟩ := C07.makeCtx_fixed lk hlk txns tgt (loadDb es)
  have hmt := C07.metadata_true es hwf txns tgt lk hlk
  -- no binding for the empty commodity: it would be the rate of an entry of the price file with empty base
  have h0 : mapGet (fixedCache (usedCommodities txns tgt) tgt bound (loadDb es)) "" = none := by
    cases hg : mapGet (fixedCache (usedCommodities txns tgt) tgt bound (loadDb es)) "" with
    | none => rfl
    | some c =>
      have hr := (C07.fixedCache_some _ (C07.loadDb_sorted es) _ tgt bound "" c hg).2
      exact absurd rfl (hwf _ (C07.loadDb_subset es _ hr.1))
  have hnd := C07.fixedCache_keys_nodup (usedCommodities txns tgt) tgt bound (loadDb es)
  simp only [rcache, reportCtx, hctx] at hmt ⊢
  generalize fixedCache (usedCommodities txns tgt) tgt bound (loadDb es) = m at hmt h0 hnd ⊢
  have h1 : ∀ (t : Txn) (p : Posting), (C07.appliedEntry (.fixed m) tgt t p).map (recordOf tgt)
      = shownFor (metadata ⟨.fixed m, some tgt⟩) p.comm := by
    intro t p
    rw [shownFor_fixed m hnd]
    unfold C07.appliedEntry
    by_cases hc : p.comm = ""
    · rw [if_pos hc, hc, h0]; rfl
    · simp only [hc, if_false, C07.fixedEntry]; cases mapGet m p.comm <;> rfl
  refine ⟨h1, fun t p => ?_, fun r hr => (hmt.1 r).mp hr, hmt.2⟩
  unfold shownEntry
  rw [← h1 t p]
  cases ha : C07.appliedEntry (.fixed m) tgt t p with
  | none => rfl
  | some e =>
    -- an entry of the fixed cache is into the report commodity by construction
    obtain ⟨_, c, _, rfl⟩ := (C07.appliedEntry_fixed_some m tgt t p e).mp ha
    rfl

/-- Σ converted amount × 10²⁸ under `k`, computed from the metadata records alone -/
def shownSum (records : List PriceRecord) (tgt : String) (l : List (Txn × Posting)) (k : AKey) : Int :=
  (l.map (fun tp => if keyOf (shownEntry records tgt tp.2) tgt tp.2 = k
    then valOf (shownEntry records tgt tp.2) tp.2 else 0)).sum

/-- **shown_rates_determine_figures**: under the fixed lookups the key and the value every posting is summed with
    (`convKey`, `val28`, hence `valueSum` in `balance_conv_own_sum` / `register_conv_running_total`) are functions of
    the metadata records of the report alone -/
theorem shown_rates_determine_figures (es : List PriceEntry) (hwf : ∀ e ∈ es, e.base ≠ "") (txns : List Txn)
    (tgt : String) (lk : PriceLookup) (hlk : lk = .lastPrice ∨ ∃ g, lk = .givenTime g) :
    (∀ tp, convKey (rcache lk tgt (loadDb es) txns) tgt tp
        = keyOf (shownEntry (metadata (reportCtx lk (some tgt) (loadDb es) txns)) tgt tp.2) tgt tp.2) ∧
    (∀ tp, val28 (rcache lk tgt (loadDb es) txns) tgt tp
        = valOf (shownEntry (metadata (reportCtx lk (some tgt) (loadDb es) txns)) tgt tp.2) tp.2) ∧
    (∀ l k, valueSum (rcache lk tgt (loadDb es) txns) tgt l k
        = shownSum (metadata (reportCtx lk (some tgt) (loadDb es) txns)) tgt l k) := by
  have h2 := (metadata_matches_applied es hwf txns tgt lk hlk).2.1
  refine ⟨fun tp => ?_, fun tp => ?_, fun l k => ?_⟩
  · unfold convKey; rw [h2 tp.1 tp.2]
  · unfold val28; rw [h2 tp.1 tp.2]
  · unfold valueSum shownSum convKey val28
    simp only [h2]

/-- **balance_report_rates**: the balance report under a fixed lookup: its metadata block and its figures come from
    one context, and every listed own sum is Σ amount × (the rate the block shows for the posting's commodity) over
    the postings with a shown rate + Σ amount over the others, keyed by (report commodity | own commodity, account):
    the rates in the metadata block are exactly the ones multiplied in. -/
theorem balance_report_rates (st : Settings) (sel : BalRow → Bool) (es : List PriceEntry)
    (hes : ∀ e ∈ es, e.base ≠ "") (txns : List Txn) (tgt : String) (lk : PriceLookup)
    (hlk : lk = .lastPrice ∨ ∃ g, lk = .givenTime g) (hwf : C02.PostsWF (postsOf txns)) (rep : PricedBalance)
    (h : balanceReport st sel lk (some tgt) (loadDb es) txns = .ok rep) :
    rep.records = metadata (reportCtx lk (some tgt) (loadDb es) txns) ∧
    balanceConv st sel lk (some tgt) (loadDb es) txns = .ok rep.bal ∧
    ∀ row ∈ rep.bal.rows, row.own.units * E28 = shownSum rep.records tgt (pairsOf txns) row.key := by
  unfold balanceReport at h
  obtain ⟨b, hb, rfl⟩ := (Outcome.map_ok _ _ _).mp h
  refine ⟨rfl, hb, ?_⟩
  intro row hrow
  have hlk' : lk ≠ .none := by rcases hlk with rfl | ⟨g, rfl⟩ <;> simp
  obtain ⟨cps, _, _, _, hrows⟩ := balance_conv_own_sum st sel (loadDb es) txns tgt lk hlk' hwf b hb
  rw [(hrows row hrow).2.1]
  exact (shown_rates_determine_figures es hes txns tgt lk hlk).2.2 _ _

/-- the register and the balance-group reports print the metadata of the same context their figures use -/
theorem report_records (st : Settings) (bsel : BalRow → Bool) (rsel : RegRow → Bool) (g : GroupBy)
    (tz : Time.JournalTz) (lk : PriceLookup) (rc : Option String) (db : List PriceEntry) (txns : List Txn) :
    (∀ rep, registerReport rsel lk rc db txns = .ok rep →
      rep.records = metadata (reportCtx lk rc db txns) ∧ registerConv rsel lk rc db txns = .ok rep.entries) ∧
    (∀ rep, balgrpReport st bsel g tz lk rc db txns = .ok rep →
      rep.records = metadata (reportCtx lk rc db txns) ∧ balgrpConv st bsel g tz lk rc db txns = .ok rep.groups) := by
  constructor
  · intro rep h
    unfold registerReport at h
    obtain ⟨b, hb, rfl⟩ := (Outcome.map_ok _ _ _).mp h
    exact ⟨rfl, hb⟩
  · intro rep h
    unfold balgrpReport at h
    obtain ⟨b, hb, rfl⟩ := (Outcome.map_ok _ _ _).mp h
    exact ⟨rfl, hb⟩

/-! ## 6. no conversion: the reports are the unconverted ones -/

theorem convertPrices_noconv (ctx : Ctx) (hin : ctx.inCommodity = none) (t : Txn) :
    convertPrices ctx t = .ok (t.posts.map unchanged) := by
  unfold convertPrices; rw [hin]

theorem convertedPosts_noconv (ctx : Ctx) (hin : ctx.inCommodity = none) (txns : List Txn) :
    convertedPosts ctx txns = .ok (postsOf txns) := by
  unfold convertedPosts convertedAll
  rw [C07.mapO_map _ _ _ fun t _ => convertPrices_noconv ctx hin t]
  simp only [Outcome.map, postsOf, List.flatMap_def, List.map_flatten, List.map_map, Function.comp_def, toBPost,
    unchanged]

theorem convertedStream_noconv (ctx : Ctx) (hin : ctx.inCommodity = none) (txns : List Txn) :
    convertedStream ctx txns = .ok (plainStream txns) := by
  unfold convertedStream
  rw [C07.mapO_map _ (fun t => (t, noConv t))]
  · rfl
  · intro t _
    rw [convertPrices_noconv ctx hin]
    simp [Outcome.map, zipItems_map, noConv, unchanged]

theorem groupBalancesConv_noconv (st : Settings) (sel : BalRow → Bool) (ctx : Ctx) (hin : ctx.inCommodity = none) :
    ∀ cs : List (String × List Txn), groupBalancesConv st sel ctx cs = groupBalances st sel cs := by
  intro cs
  induction cs with
  | nil => rfl
  | cons c rest ih =>
    obtain ⟨k, g⟩ := c
    simp only [groupBalancesConv, groupBalances, balanceOfConv, convertedPosts_noconv ctx hin, Outcome.bind, ih]
    cases fromIter st sel (postsOf g) with
    | err => rfl
    | undef => rfl
    | ok b => cases groupBalances st sel rest <;> rfl

/-- **no_conversion_reports**: with lookup `none` or without a report commodity the three reports are exactly the
    unconverted ones of C02 / C03 / C13 (same rows, running totals, groups, outcome), and the metadata block is empty -/
theorem no_conversion_reports (st : Settings) (bsel : BalRow → Bool) (rsel : RegRow → Bool) (g : GroupBy)
    (tz : Time.JournalTz) (lk : PriceLookup) (rc : Option String) (db : List PriceEntry) (txns : List Txn)
    (h : lk = .none ∨ rc = none) :
    balanceConv st bsel lk rc db txns = fromIter st bsel (postsOf txns) ∧
    registerConv rsel lk rc db txns = register rsel txns ∧
    balgrpConv st bsel g tz lk rc db txns = balanceGroups st bsel g tz txns ∧
    metadata (reportCtx lk rc db txns) = [] := by
  have hctx : reportCtx lk rc db txns = Ctx.default := by
    rcases h with rfl | rfl
    · cases rc <;> rfl
    · rfl
  have hin : (reportCtx lk rc db txns).inCommodity = none := by rw [hctx]; rfl
  refine ⟨?_, ?_, ?_, ?_⟩
  · simp only [balanceConv, balanceOfConv, convertedPosts_noconv _ hin, Outcome.bind]
  · simp only [registerConv, convertedStream_noconv _ hin, Outcome.bind, register]
  · simp only [balgrpConv, balanceGroups, balgrpConvBy, balanceGroupsBy, groupBalancesConv_noconv st bsel _ hin]
  · rw [hctx]; rfl

/-! ## 7. balance-group report with conversion -/

/-- `groupBalancesConv` is the element-wise `Balance::from_iter` with the one context of the report -/
theorem groupBalancesConv_spec (st : Settings) (sel : BalRow → Bool) (ctx : Ctx) :
    ∀ (cs : List (String × List Txn)) (bs : List BalGroup), groupBalancesConv st sel ctx cs = .ok bs →
      C13.Forall₂ (fun kg b => b.title = kg.1 ∧ balanceOfConv st sel ctx kg.2 = .ok b.bal) cs bs := by
  intro cs
  induction cs with
  | nil => intro bs h; cases h; exact .nil
  | cons c rest ih =>
    intro bs h
    obtain ⟨k, g⟩ := c
    rw [groupBalancesConv] at h
    cases hb : balanceOfConv st sel ctx g with
    | ok b =>
      cases hr : groupBalancesConv st sel ctx rest with
      | ok r => rw [hb, hr] at h; cases h; exact .cons ⟨rfl, hb⟩ (ih r hr)
      | _ => simp [hb, hr] at h
    | _ => simp [hb] at h

theorem mapO_congr {α β} (f g : α → Outcome β) : ∀ (l : List α), (∀ a ∈ l, f a = g a) → mapO f l = mapO g l := by
  intro l
  induction l with
  | nil => intro _; rfl
  | cons a t ih =>
    intro h
    simp only [mapO, h a List.mem_cons_self, ih (fun x hx => h x (List.mem_cons_of_mem _ hx))]

/-- **ctx_of_subset**: the context built from *all* transactions converts a transaction of a sub-set exactly as the
    context built from that sub-set alone would: the cache entry of a commodity does not depend on which other
    commodities are in use (`RateAt` is per source commodity).  So handing every group the report's context — as
    `balance_groups` does — gives the figures a context per group would give (the metadata block, printed once,
    lists the commodities of all groups). -/
theorem ctx_of_subset (es : List PriceEntry) (txns members : List Txn) (hsub : ∀ t ∈ members, t ∈ txns)
    (tgt : String) (lk : PriceLookup) (t : Txn) (ht : t ∈ members) :
    convertPrices (reportCtx lk (some tgt) (loadDb es) txns) t
      = convertPrices (reportCtx lk (some tgt) (loadDb es) members) t := by
  by_cases hlk : lk = .none
  · subst hlk; rfl
  unfold convertPrices reportCtx
  rw [C07.makeCtx_in lk txns tgt _ hlk, C07.makeCtx_in lk members tgt _ hlk]
  simp only
  apply mapO_congr
  intro p hp
  rw [C07.convertPosting_eq, C07.convertPosting_eq]
  have htim : C07.isTimed (makeCtx lk txns (some tgt) (loadDb es)).cache
      = C07.isTimed (makeCtx lk members (some tgt) (loadDb es)).cache := by
    cases lk <;> simp [makeCtx, C07.isTimed, Ctx.default]
  have happ : C07.appliedEntry (makeCtx lk txns (some tgt) (loadDb es)).cache tgt t p
      = C07.appliedEntry (makeCtx lk members (some tgt) (loadDb es)).cache tgt t p := by
    have a1 := applied_rateAt es txns tgt lk hlk t (hsub t ht) p hp
    have a2 := applied_rateAt es members tgt lk hlk t ht p hp
    by_cases hc : p.comm = "" ∨ p.comm = tgt
    · exact (a1.1 hc).trans (a2.1 hc).symm
    · have h1 : p.comm ≠ "" := fun e => hc (.inl e)
      have h2 : p.comm ≠ tgt := fun e => hc (.inr e)
      exact C07.RateAt_unique (loadDb es) (C07.loadDb_sorted es) p.comm tgt _ _ _ (a1.2 h1 h2) (a2.2 h1 h2)
  rw [happ, htim]

theorem balanceOfConv_subset (st : Settings) (sel : BalRow → Bool) (es : List PriceEntry) (txns members : List Txn)
    (hsub : ∀ t ∈ members, t ∈ txns) (tgt : String) (lk : PriceLookup) :
    balanceOfConv st sel (reportCtx lk (some tgt) (loadDb es) txns) members
      = balanceConv st sel lk (some tgt) (loadDb es) members := by
  unfold balanceConv balanceOfConv convertedPosts convertedAll
  rw [mapO_congr _ _ members (fun t ht => ctx_of_subset es txns members hsub tgt lk t ht)]

/-- **balgrp_conv_figures**: with conversion on, the printed groups are the candidates (by period key, C13) that
    have a listed row, titles strictly ascending; the figures of a group are `Balance::from_iter` of its members
    converted with the report's one context — which is the converted *balance report* of the group's transactions
    (`balanceConv` of the members), so `balance_conv_own_sum`, `balance_conv_rows`, … hold for every group. -/
theorem balgrp_conv_figures (st : Settings) (sel : BalRow → Bool) (gb : GroupBy) (tz : Time.JournalTz)
    (es : List PriceEntry) (txns : List Txn) (tgt : String) (lk : PriceLookup) (gs : List BalGroup)
    (h : balgrpConv st sel gb tz lk (some tgt) (loadDb es) txns = .ok gs) :
    (gs.map (·.title)).Pairwise (· < ·) ∧
    ∀ g ∈ gs, ∃ members, (g.title, members) ∈ groupCandidates (groupKey gb tz) txns ∧
      members = txns.filter (fun t => decide (groupKey gb tz t = g.title)) ∧
      balanceOfConv st sel (reportCtx lk (some tgt) (loadDb es) txns) members = .ok g.bal ∧
      balanceConv st sel lk (some tgt) (loadDb es) members = .ok g.bal ∧ g.bal.rows ≠ [] := by
  unfold balgrpConv at h
  split at h
  case isFalse => cases h
  unfold balgrpConvBy at h
  obtain ⟨all, hall, rfl⟩ := (Outcome.map_ok _ _ _).mp h
  have hf := groupBalancesConv_spec st sel _ _ _ hall
  have hcs := C13.candidates_spec (groupKey gb tz) txns
  constructor
  · have ht : all.map (·.title) = (groupCandidates (groupKey gb tz) txns).map (·.1) :=
      C13.forall₂_titles (fun _ _ hr => hr.1) hf
    have hs : (all.map (·.title)).Pairwise (· < ·) := by rw [ht]; exact hcs.strict
    exact hs.sublist (List.filter_sublist.map _)
  · intro g hg
    obtain ⟨hga, hne⟩ := List.mem_filter.mp hg
    obtain ⟨kg, hkg, ht, hb⟩ := C13.forall₂_mem_right hf g hga
    have hmem : kg.2 = txns.filter (fun t => decide (groupKey gb tz t = g.title)) := by rw [ht]; exact hcs.filter kg hkg
    refine ⟨kg.2, by rw [ht]; exact hkg, hmem, hb, ?_, ?_⟩
    · rw [← balanceOfConv_subset st sel es txns kg.2 _ tgt lk]
      · exact hb
      · intro t htm; rw [hmem] at htm; exact (List.mem_filter.mp htm).1
    · simpa [BalGroup.isEmpty] using hne

/-! ## 8. the reports do not depend on the order of the price file -/

/-- corollary of C07 `db_order_free`: for price files with distinct (instant, base, target) keys, the three reports
    (figures and metadata block) are the same for every order of the entries -/
theorem reports_order_free (es es' : List PriceEntry) (hp : es.Perm es') (hd : C07.DistinctKeys es)
    (st : Settings) (bsel : BalRow → Bool) (rsel : RegRow → Bool) (g : GroupBy) (tz : Time.JournalTz)
    (lk : PriceLookup) (rc : Option String) (txns : List Txn) :
    balanceReport st bsel lk rc (loadDb es) txns = balanceReport st bsel lk rc (loadDb es') txns ∧
    registerReport rsel lk rc (loadDb es) txns = registerReport rsel lk rc (loadDb es') txns ∧
    balgrpReport st bsel g tz lk rc (loadDb es) txns = balgrpReport st bsel g tz lk rc (loadDb es') txns := by
  rw [C07.db_order_free es es' hp hd]
  exact ⟨rfl, rfl, rfl⟩

/-! ## 9. non-vacuity: a concrete journal and price file through the three reports

C07's example price file and transactions, plus a transaction `t3` at instant 30 that posts to account `a` both in
USD (converted) and in EUR (the report commodity): the two postings have *different original keys* but the *same
converted key* `(EUR, a)` — the case NOTE-1 in tackler-core/src/kernel/accumulator.rs (`register_engine`) is about. -/
namespace Ex
open C07.Ex

def st0 : Settings := Settings.ofConfig false false true [] [] []
def t3 : Txn := ⟨hdr 30, [post "a" 2 "USD", post "a" 5 "EUR", post "b" (-13) "EUR"]⟩
def txns4 : List Txn := [t0, t1, t2, t3]

theorem usedCommodities_txns4 : usedCommodities txns4 "EUR" = ["", "ACME", "USD"] := by
  simp [usedCommodities, txns4, t0, t1, t2, t3, post, btreeSet, List.mergeSort, List.eraseDups]
  decide

/-! ### balance report, last-price: every USD posting × 4 (the entry at 30), whatever its instant -/

theorem ctx_last : reportCtx .lastPrice (some "EUR") (loadDb file) txns4 = ⟨.fixed [("USD", (30, d 4))], some "EUR"⟩ := by
  simp only [reportCtx, makeCtx, load_file, usedCommodities_txns4]
  rfl

def bp (a c : String) (n : Int) : BPost := ⟨[a], c, d n⟩

def cps4 : List BPost := [bp "a" "EUR" 4, bp "b" "EUR" (-4), bp "a" "EUR" 40, bp "b" "EUR" (-40),
  bp "c" "EUR" 5, bp "e" "ACME" 1, bp "f" "" 1, bp "a" "EUR" 8, bp "a" "EUR" 5, bp "b" "EUR" (-13)]

theorem conv_last : convertedPosts ⟨.fixed [("USD", (30, d 4))], some "EUR"⟩ txns4 = .ok cps4 := by decide

def rows4 : List BalRow := [⟨["f"], "", d 1, d 1⟩, ⟨["e"], "ACME", d 1, d 1⟩, ⟨["a"], "EUR", d 57, d 57⟩,
  ⟨["b"], "EUR", d (-57), d (-57)⟩, ⟨["c"], "EUR", d 5, d 5⟩]

/-- the sorted postings, the account sums and the completed tree are left to unification: each step is an evaluation -/
theorem balance_ok : balance st0 cps4 = .ok rows4 :=
  (C02.balance_ok_iff st0 cps4 rows4).mpr ⟨_, _, _,
    by simp [accountSums, cps4, bp, List.mergeSort, keyLe, BPost.key, acctName]; rfl,
    rfl, rfl, List.mergeSort_of_pairwise (by decide)⟩

theorem meta_last : metadata ⟨.fixed [("USD", (30, d 4))], some "EUR"⟩ = [⟨some 30, "USD", some (d 4), "EUR"⟩] := by
  simp [metadata, sortByKey]

/-- the balance report: `a` = 1×4 + 10×4 + 2×4 + 5 = 57 EUR; ACME (only a chain to EUR) and the empty commodity stay;
    the metadata block shows the one rate multiplied in -/
theorem ex_balance_report : balanceReport st0 (fun _ => true) .lastPrice (some "EUR") (loadDb file) txns4 = .ok
    ⟨[⟨some 30, "USD", some (d 4), "EUR"⟩], ⟨rows4, [("", d 1), ("ACME", d 1), ("EUR", d 5)]⟩⟩ := by
  unfold balanceReport balanceConv balanceOfConv
  rw [ctx_last, conv_last]
  simp only [Outcome.bind, fromIter, balance_ok, meta_last]
  decide

/-- the hypotheses of `balance_conv_own_sum` / `balance_report_rates` are satisfiable -/
theorem ex_postsWF : C02.PostsWF (postsOf txns4) := by
  refine ⟨by decide, by decide, C02.namesInj_of_good _ ?_⟩
  intro x hx c hc
  have : ∀ x ∈ postsOf txns4, ∀ c ∈ x.acct, c ≠ "" ∧ ':' ∉ c.toList := by decide
  exact this x hx c hc

example : ∀ e ∈ file, e.base ≠ "" := by decide

/-- `balance_report_rates` applied: own sum of `a` × 10²⁸ is the sum computed from the metadata records -/
example : (d 57).units * E28 = shownSum [⟨some 30, "USD", some (d 4), "EUR"⟩] "EUR" (pairsOf txns4) ("EUR", ["a"]) :=
  (balance_report_rates st0 (fun _ => true) file (by decide) txns4 "EUR" .lastPrice (Or.inl rfl) ex_postsWF _
    ex_balance_report).2.2 ⟨["a"], "EUR", d 57, d 57⟩ (by simp [rows4])

/-! ### register report, txn-time: rate at or before the transaction's instant; pre-sort by the original key -/

def tc : Cache := .timed [("USD", [⟨10, "USD", d 2, "EUR"⟩, ⟨20, "USD", d 3, "EUR"⟩, ⟨30, "USD", d 4, "EUR"⟩])]

theorem ctx_timed : reportCtx .txnTime (some "EUR") (loadDb file) txns4 = ⟨tc, some "EUR"⟩ := by
  simp [reportCtx, makeCtx, load_file, usedCommodities_txns4, tc, timedCache, commCache, db, List.mergeSort, mapInsert]

def stream4 : List (Txn × List RItem) := [
  (t0, [⟨post "a" 1 "USD", "USD", d 1, none⟩, ⟨post "b" (-1) "USD", "USD", d (-1), none⟩]),
  (t1, [⟨post "a" 10 "USD", "EUR", d 30, some (d 3)⟩, ⟨post "b" (-10) "USD", "EUR", d (-30), some (d 3)⟩]),
  (t2, [⟨post "c" 5 "EUR", "EUR", d 5, none⟩, ⟨post "e" 1 "ACME", "ACME", d 1, none⟩, ⟨post "f" 1 "", "", d 1, none⟩]),
  (t3, [⟨post "a" 2 "USD", "EUR", d 8, some (d 4)⟩, ⟨post "a" 5 "EUR", "EUR", d 5, none⟩,
        ⟨post "b" (-13) "EUR", "EUR", d (-13), none⟩])]

/-- t0 (instant 9) is before the first USD rate (10): unchanged; t1 (20) uses the entry *at* 20; t3 (30) the one at 30 -/
theorem stream_timed : convertedStream ⟨tc, some "EUR"⟩ txns4 = .ok stream4 := by decide

def rrow (a : String) (n : Int) (c : String) (tot : Int) (tcm : String) (r : Option Dec) : RegRow :=
  ⟨post a n c, d tot, tcm, r⟩

/-- entry of `t3`: the EUR posting to `a` (original key `(EUR, a)`) is accumulated and listed *before* the USD posting
    (original key `(USD, a)`), although both are summed under `(EUR, a)`: 30 + 5 = 35, then 35 + 8 = 43 -/
theorem ex_register_engine : registerEngine selAll stream4 = .ok [
    ⟨t0, [rrow "a" 1 "USD" 1 "USD" none, rrow "b" (-1) "USD" (-1) "USD" none]⟩,
    ⟨t1, [rrow "a" 10 "USD" 30 "EUR" (some (d 3)), rrow "b" (-10) "USD" (-30) "EUR" (some (d 3))]⟩,
    ⟨t2, [rrow "f" 1 "" 1 "" none, rrow "e" 1 "ACME" 1 "ACME" none, rrow "c" 5 "EUR" 5 "EUR" none]⟩,
    ⟨t3, [rrow "a" 5 "EUR" 35 "EUR" none, rrow "b" (-13) "EUR" (-43) "EUR" none,
          rrow "a" 2 "USD" 43 "EUR" (some (d 4))]⟩] := by
  simp [registerEngine, stream4, registerLoop, registerTxn, accPostings, accPosting,
    List.mergeSort, List.MergeSort.Internal.splitInTwo, itemLe, rowLe, Posting.acctnKey, keyLe, acctName,
    t0, t1, t2, t3, post, rrow, d, RegMap.set, RegMap.empty, RItem.key, Outcome.ofOption, Dec.add, Dec.ofInt,
    Dec.isZero, sgn, max96]

theorem ex_register_report : (registerReport selAll .txnTime (some "EUR") (loadDb file) txns4).map (·.records)
    = .ok [⟨none, "USD", none, "EUR"⟩] := by
  unfold registerReport registerConv
  rw [ctx_timed, stream_timed]
  simp only [Outcome.bind, ex_register_engine, Outcome.map]
  simp [metadata, sortByKey, tc]

example : C03.TxnsWF txns4 := txnsWF_of_postsWF txns4 ex_postsWF

end Ex

end C07b
end Tackler
