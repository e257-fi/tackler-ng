import TacklerModel.Lemmas.E2Eb
import TacklerModel.Props.E2E
import TacklerModel.Props.C05
import TacklerModel.Props.C07b
import TacklerModel.Props.C08
/-!
# E2Eb — end-to-end theorems, continued (namespace `E2E`): git storage, strict mode, filters, price conversion, equity text

`Props/E2E.lean` establishes `Loaded st ts st'` from `loadText` / `loadFiles` and proves the report theorems from
`Loaded`.  This file adds, in the same style:

| strengthens | theorems |
|---|---|
| C08 | `git_load_iff`, **`loaded_of_git`**, `loaded_of_git_to_txns`, `git_eq_fs_text`, `git_accept_balanced`, `git_balance_exact`, `git_register_exact`, `git_checksum_determines_set` |
| C12 | **`text_strict_iff`**, `text_strict_iff_of_lax`, `files_strict_iff` (from `trees_strict_iff`), **`text_lax_chart_free`** |
| C05 | **`text_filter_partition`** (`loaded_`, `files_`), `text_filter_balance_exact`, `text_filter_register_exact`, `text_filter_checksum_determines_set` |
| C07 | **`text_priced_balance`** (`loaded_`, `files_`), `text_priced_register` (`loaded_`) |
| C10 | `text_wf`, `files_wf`, **`text_equity_text`** (`loaded_`, `files_`), `text_equity_reloads` |

What stays explicit is content (see §5 for the equity text): the journal zone of the source load is a fixed offset of
whole minutes (`C06.CfgOK`, as in C06), the equity account is a valid name, the metadata comment texts are single
lines, the re-load is lax.
-/

namespace Tackler
namespace E2E
open Syntax KeyOrder Select

/-! ## 1. C08 — git storage establishes `Loaded` -/

/-- the model's git load of a commit's tree, with the blobs read as journal texts (`gitText`),
    succeeds exactly when the selection of the files under `dir` with suffix `ext` succeeds and `paths_to_txns`
    (`loadFiles`) of the selected blobs' texts, in traversal order, succeeds — with the same transactions and
    settings. -/
theorem git_load_iff (cfg : Time.TsCfg) (blob : String → List Char) (dir ext : String) (st st' : Settings)
    (tree : List Entry) (ts : List Txn) :
    gitLoad (gitText cfg blob) dir ext st tree = .ok (ts, st') ↔
      ∃ sel, gitSelect dir ext tree = .ok sel ∧ loadFiles cfg st (sel.map (fun e => blob e.oid)) = .ok (ts, st') := by
  rw [C08.load_is_parse]
  refine exists_congr fun sel => ?_
  simp only [parseAll_text, loadFiles, Outcome.map_ok, Prod.exists, Prod.mk.injEq]
  constructor
  · rintro ⟨_, _, hs, ⟨tss, s, hm, rfl, rfl⟩, rfl, rfl⟩
    exact ⟨hs, tss, _, hm, rfl, rfl⟩
  · rintro ⟨hs, tss, s, hm, rfl, rfl⟩
    exact ⟨_, _, hs, ⟨tss, _, hm, rfl, rfl⟩, rfl, rfl⟩

/-- **C08 end to end.**  A successful git load (selection of the commit's files under `dir` with
    suffix `ext`, then the parse of every selected blob's text, settings threaded, sort) establishes `Loaded`: so
    every `loaded_*` theorem of `Props/E2E.lean` holds for git storage. -/
theorem loaded_of_git (cfg : Time.TsCfg) (blob : String → List Char) (dir ext : String) (st st' : Settings)
    (tree : List Entry) (ts : List Txn)
    (h : gitLoad (gitText cfg blob) dir ext st tree = .ok (ts, st')) : Loaded st ts st' := by
  obtain ⟨sel, _, hl⟩ := (git_load_iff cfg blob dir ext st st' tree ts).mp h
  exact loaded_of_files cfg st st' _ ts hl

/-- the same for the whole of `git_to_txns` (selector resolution a parameter): the metadata names the commit whose
    tree was loaded, and the load establishes `Loaded` -/
theorem loaded_of_git_to_txns (resolve : Selector → Outcome Commit) (cfg : Time.TsCfg) (blob : String → List Char)
    (dir ext : String) (sel : Selector) (st st' : Settings) (md : GitMeta) (ts : List Txn)
    (h : gitToTxns resolve (gitText cfg blob) dir ext sel st = .ok ((md, ts), st')) :
    (∃ c, resolve sel = .ok c ∧ md.commit = c.id ∧
      ∃ files, gitSelect dir ext c.tree = .ok files ∧
        loadFiles cfg st (files.map (fun e => blob e.oid)) = .ok (ts, st')) ∧
    Loaded st ts st' := by
  obtain ⟨c, hc, hid, _, _, _, hl⟩ := C08.meta_commit_is_loaded resolve _ dir ext sel st st' md ts h
  exact ⟨⟨c, hc, hid, (git_load_iff cfg blob dir ext st st' c.tree ts).mp hl⟩,
    loaded_of_git cfg blob dir ext st st' c.tree ts hl⟩

/-- `C08.git_eq_fs` at text level: for a commit of regular files, if filesystem storage selects
    the files `fs` on a checkout of the commit, the git load succeeds exactly when `paths_to_txns` of the texts of
    these files does, with the same result. -/
theorem git_eq_fs_text (cfg : Time.TsCfg) (blob : String → List Char) (dir ext : String) (st st' : Settings)
    (tree : List Entry) (fs : List FsEntry) (ts : List Txn) (hl : hasLink tree = false)
    (hfs : fsSelect dir ext (checkout tree) = .ok fs) :
    gitLoad (gitText cfg blob) dir ext st tree = .ok (ts, st') ↔
      loadFiles cfg st (fs.map (fun f => blob f.content)) = .ok (ts, st') := by
  obtain ⟨sel, hs, hfe, _⟩ := C08.git_eq_fs hl hfs
  have e : fs.map (fun f => blob f.content) = sel.map (fun e => blob e.oid) := by
    rw [hfe, List.map_map]
    apply List.map_congr_left
    intro e _
    simp [C08.toFs_content]
  rw [git_load_iff, e]
  constructor
  · rintro ⟨sel', hs', h⟩
    rw [hs] at hs'
    cases hs'
    exact h
  · intro h; exact ⟨sel, hs, h⟩

/-- **C01 for git storage** — every transaction loaded from a commit is balanced in a single transaction commodity -/
theorem git_accept_balanced (cfg : Time.TsCfg) (blob : String → List Char) (dir ext : String) (st st' : Settings)
    (tree : List Entry) (ts : List Txn)
    (h : gitLoad (gitText cfg blob) dir ext st tree = .ok (ts, st')) :
    ∀ t ∈ ts, C01.Balanced t :=
  loaded_accept_balanced st st' ts (loaded_of_git cfg blob dir ext st st' tree ts h)

/-- **C02 for git storage** — the conclusion of `loaded_balance_exact`, for any selection of the transactions loaded
    from a commit -/
theorem git_balance_exact (cfg : Time.TsCfg) (blob : String → List Char) (dir ext : String) (st st' : Settings)
    (tree : List Entry) (ts : List Txn)
    (h : gitLoad (gitText cfg blob) dir ext st tree = .ok (ts, st'))
    (txns : List Txn) (hsel : ∀ t ∈ txns, t ∈ ts)
    (sb : Settings) (bal : List BalRow) (hb : balance sb (postsOf txns) = .ok bal) :
    (bal.map (·.key)).Pairwise (fun a b => keyLt a b = true) ∧
    (∀ k, k ∈ bal.map (·.key) ↔ C02.Posted (postsOf txns) k ∨ C02.ProperAncestor (postsOf txns) k) ∧
    (∀ row ∈ bal, row.own.units = C02.ownSum (postsOf txns) row.key ∧
                  row.tree.units = C02.treeSum (postsOf txns) row.key) :=
  loaded_balance_exact st st' ts (loaded_of_git cfg blob dir ext st st' tree ts h) txns hsel sb bal hb

/-- **C03 for git storage** — the conclusion of `loaded_register_exact`, for any selection of the transactions loaded
    from a commit -/
theorem git_register_exact (cfg : Time.TsCfg) (blob : String → List Char) (dir ext : String) (st st' : Settings)
    (tree : List Entry) (ts : List Txn)
    (h : gitLoad (gitText cfg blob) dir ext st tree = .ok (ts, st'))
    (txns : List Txn) (hsel : ∀ t ∈ txns, t ∈ ts)
    (es : List RegEntry) (hr : register selAll txns = .ok es) :
    es.map (·.txn) = txns ∧
    (∀ i e, es[i]? = some e → ∃ t, txns[i]? = some t ∧ e.txn = t ∧ e.rows.length = t.posts.length ∧
      ∀ j r, e.rows[j]? = some r → ∃ p, (C03.sortedPosts t)[j]? = some p ∧ r.post = p ∧ r.comm = p.comm ∧
        r.total.units = C03.postSum p.acctnKey ((txns.take i).flatMap (·.posts))
                          + C03.postSum p.acctnKey ((C03.sortedPosts t).take (j + 1))) ∧
    (∀ k, (∃ p ∈ postsOf txns, p.key = k) → ∃ r, C03.lastRow k (es.flatMap (·.rows)) = some r) ∧
    (∀ k r, C03.lastRow k (es.flatMap (·.rows)) = some r → r.total.units = C03.ownSpec txns k) :=
  loaded_register_exact st st' ts (loaded_of_git cfg blob dir ext st st' tree ts h) txns hsel es hr

/-- **C09 for git storage** — two selections of transactions of two commits (or of a commit and a text / file load:
    use `loaded_checksum_determines_set` with `loaded_of_git`): equal hashed messages ⇒ equal multisets of uuids -/
theorem git_checksum_determines_set (cfga cfgb : Time.TsCfg) (bloba blobb : String → List Char)
    (dira exta dirb extb : String) (sta sta' stb stb' : Settings) (treea treeb : List Entry) (tsa tsb : List Txn)
    (ha : gitLoad (gitText cfga bloba) dira exta sta treea = .ok (tsa, sta'))
    (hb : gitLoad (gitText cfgb blobb) dirb extb stb treeb = .ok (tsb, stb'))
    (a b : List Txn) (hsa : ∀ t ∈ a, t ∈ tsa) (hsb : ∀ t ∈ b, t ∈ tsb)
    (heq : C09.preimage a = C09.preimage b) : (C09.uuidsOf a).Perm (C09.uuidsOf b) :=
  loaded_checksum_determines_set sta sta' stb stb' tsa tsb (loaded_of_git cfga bloba dira exta sta sta' treea tsa ha)
    (loaded_of_git cfgb blobb dirb extb stb stb' treeb tsb hb) a b hsa hsb heq

/-! ## 2. C12 — strict mode, from text -/

theorem loadTrees_ok_iff (st : Settings) (rss : List (List RawTxn)) (ts : List Txn) :
    (∃ s2, AcceptOrder.loadTrees st rss = .ok (ts, s2)) ↔
      ∃ acc, ts = sortTxns acc ∧ ∃ s2, acceptJournal st rss.flatten = .ok (acc, s2) := by
  rw [AcceptOrder.loadTrees_eq]
  constructor
  · rintro ⟨s2, h⟩
    obtain ⟨⟨acc, s0⟩, ha, he⟩ := (Outcome.map_ok _ _ _).mp h
    cases he
    exact ⟨acc, rfl, s0, ha⟩
  · rintro ⟨acc, rfl, s2, ha⟩
    exact ⟨s2, by rw [ha]; rfl⟩

/-- `C12.strict_iff_config` for the load of parse trees (in one file or several): accept, then sort -/
theorem trees_strict_iff (audit pe : Bool) (accts : List Path) (comms tags : List String)
    (rss : List (List RawTxn)) (ts : List Txn) :
    (∃ s2, AcceptOrder.loadTrees (Settings.ofConfig true audit pe accts comms tags) rss = .ok (ts, s2)) ↔
      ((∀ a ∈ C12.usedAccounts rss.flatten, a ∈ accts) ∧ (∀ c ∈ C12.usedCommodities rss.flatten, c ≠ "" → c ∈ comms) ∧
       (∀ t ∈ C12.usedTags rss.flatten, t ∈ tags)) ∧
      ∃ s2', AcceptOrder.loadTrees (Settings.ofConfig false audit pe accts comms tags) rss = .ok (ts, s2') := by
  rw [loadTrees_ok_iff, loadTrees_ok_iff]
  constructor
  · rintro ⟨acc, hts, h⟩
    obtain ⟨hd, h'⟩ := (C12.strict_iff_config audit pe accts comms tags rss.flatten acc).mp h
    exact ⟨hd, acc, hts, h'⟩
  · rintro ⟨hd, acc, hts, h'⟩
    exact ⟨acc, hts, (C12.strict_iff_config audit pe accts comms tags rss.flatten acc).mpr ⟨hd, h'⟩⟩

/-- **C12 end to end.**  For a text that parses (to the parse trees `rs`): the strict-mode load
    from the configured charts succeeds with transactions `ts` iff every account, commodity (posting, closing
    price) and tag the text uses is declared *and* the lax-mode load with the same switches succeeds with the same
    `ts`.  (`C12.strict_iff_config` has no representation hypothesis; what is discharged here is the step from the
    acceptor on parse trees to `string_to_txns` on text: at least one transaction, sort.) -/
theorem text_strict_iff (cfg : Time.TsCfg) (audit pe : Bool) (accts : List Path) (comms tags : List String)
    (text : List Char) (rs : List RawTxn) (hp : parseJournal cfg text = some rs) (ts : List Txn) :
    (∃ s2, loadText cfg (Settings.ofConfig true audit pe accts comms tags) text = .ok (ts, s2)) ↔
      ((∀ a ∈ C12.usedAccounts rs, a ∈ accts) ∧ (∀ c ∈ C12.usedCommodities rs, c ≠ "" → c ∈ comms) ∧
       (∀ t ∈ C12.usedTags rs, t ∈ tags)) ∧
      ∃ s2', loadText cfg (Settings.ofConfig false audit pe accts comms tags) text = .ok (ts, s2') := by
  have hne := (parseJournal_lex cfg text rs hp).1
  rw [AcceptOrder.loadText_eq cfg text rs _ hp hne, AcceptOrder.loadText_eq cfg text rs _ hp hne]
  have h := trees_strict_iff audit pe accts comms tags [rs] ts
  simp only [List.flatten_cons, List.flatten_nil, List.append_nil] at h
  exact h

/-- for a text that parses and that lax mode loads (to `ts`), strict mode with the same
    charts and switches loads it iff every account, commodity and tag the text uses is declared — and then to the
    same transactions `ts`. -/
theorem text_strict_iff_of_lax (cfg : Time.TsCfg) (audit pe : Bool) (accts : List Path) (comms tags : List String)
    (text : List Char) (rs : List RawTxn) (hp : parseJournal cfg text = some rs) (ts : List Txn) (s2' : Settings)
    (hlax : loadText cfg (Settings.ofConfig false audit pe accts comms tags) text = .ok (ts, s2')) :
    ((∃ ts' s2, loadText cfg (Settings.ofConfig true audit pe accts comms tags) text = .ok (ts', s2)) ↔
      ((∀ a ∈ C12.usedAccounts rs, a ∈ accts) ∧ (∀ c ∈ C12.usedCommodities rs, c ≠ "" → c ∈ comms) ∧
       (∀ t ∈ C12.usedTags rs, t ∈ tags))) ∧
    (∀ ts' s2, loadText cfg (Settings.ofConfig true audit pe accts comms tags) text = .ok (ts', s2) → ts' = ts) := by
  constructor
  · constructor
    · rintro ⟨ts', s2, h⟩
      exact ((text_strict_iff cfg audit pe accts comms tags text rs hp ts').mp ⟨s2, h⟩).1
    · intro hd
      obtain ⟨s2, h⟩ := (text_strict_iff cfg audit pe accts comms tags text rs hp ts).mpr ⟨hd, s2', hlax⟩
      exact ⟨ts, s2, h⟩
  · intro ts' s2 h
    obtain ⟨_, s3, h3⟩ := (text_strict_iff cfg audit pe accts comms tags text rs hp ts').mp ⟨s2, h⟩
    rw [hlax] at h3
    cases h3
    rfl

/-- `text_strict_iff` for `paths_to_txns` — a list of file texts that all parse (to `rss`) is
    loaded by strict mode iff every account, commodity and tag the files use is declared and lax mode with the same
    switches loads it, to the same transactions -/
theorem files_strict_iff (cfg : Time.TsCfg) (audit pe : Bool) (accts : List Path) (comms tags : List String)
    (files : List (List Char)) (rss : List (List RawTxn)) (hp : files.map (parseJournal cfg) = rss.map some)
    (ts : List Txn) :
    (∃ s2, loadFiles cfg (Settings.ofConfig true audit pe accts comms tags) files = .ok (ts, s2)) ↔
      ((∀ a ∈ C12.usedAccounts rss.flatten, a ∈ accts) ∧ (∀ c ∈ C12.usedCommodities rss.flatten, c ≠ "" → c ∈ comms) ∧
       (∀ t ∈ C12.usedTags rss.flatten, t ∈ tags)) ∧
      ∃ s2', loadFiles cfg (Settings.ofConfig false audit pe accts comms tags) files = .ok (ts, s2') := by
  rw [AcceptOrder.loadFiles_eq cfg files rss _ hp, AcceptOrder.loadFiles_eq cfg files rss _ hp]
  exact trees_strict_iff audit pe accts comms tags rss ts

/-- **C12 end to end.**  With strict mode off, the outcome of loading a text (loaded /
    rejected / outside the exact numeric domain) and the loaded transactions — hence every report, which is computed
    from them — do not depend on the configured charts: any two charts give the same. -/
theorem text_lax_chart_free (cfg : Time.TsCfg) (audit pe : Bool) (accts accts' : List Path)
    (comms tags comms' tags' : List String) (text : List Char) :
    (loadText cfg (Settings.ofConfig false audit pe accts comms tags) text).map Prod.fst =
      (loadText cfg (Settings.ofConfig false audit pe accts' comms' tags') text).map Prod.fst := by
  unfold loadText
  cases parseJournal cfg text with
  | none => rfl
  | some rs =>
    cases rs with
    | nil => rfl
    | cons r0 rt =>
      have h := (C12.lax_chart_free_config audit pe accts comms tags (r0 :: rt)).trans
        (C12.lax_chart_free_config audit pe accts' comms' tags' (r0 :: rt)).symm
      simp only [loadJournal]
      generalize acceptJournal (Settings.ofConfig false audit pe accts comms tags) (r0 :: rt) = o at h
      generalize acceptJournal (Settings.ofConfig false audit pe accts' comms' tags') (r0 :: rt) = o' at h
      cases o <;> cases o' <;> simp_all [Outcome.map]

/-! ## 3. C05 — transaction filters on loaded text -/

/-- **C05 end to end.**  For the transactions loaded from text and any filter
    definition `f` (regular-expression matcher `m` a parameter): what `f` keeps and what its negation keeps are
    sublists of the loaded list (order kept, both in canonical order), together a permutation of it; every loaded
    transaction is in exactly one of the two; the kept ones are exactly those satisfying the documented predicate
    `C05.Sat`; and both are selections of the loaded transactions, so every report theorem of `Props/E2E.lean`
    (`hsel`) applies to them. -/
theorem loaded_filter_partition (st st' : Settings) (ts : List Txn) (hl : Loaded st ts st')
    (m : String → String → Bool) (f : Filter) :
    (filterTxns m f ts).Sublist ts ∧ (filterTxns m (.not f) ts).Sublist ts ∧
    (filterTxns m f ts ++ filterTxns m (.not f) ts).Perm ts ∧
    (∀ t ∈ ts, (t ∈ filterTxns m f ts ∧ t ∉ filterTxns m (.not f) ts) ∨
               (t ∉ filterTxns m f ts ∧ t ∈ filterTxns m (.not f) ts)) ∧
    (filterTxns m f ts).length + (filterTxns m (.not f) ts).length = ts.length ∧
    (∀ t, t ∈ filterTxns m f ts ↔ t ∈ ts ∧ C05.Sat m f t) ∧
    (filterTxns m f ts).Pairwise (fun a b => txnLe a b = true) ∧
    (filterTxns m (.not f) ts).Pairwise (fun a b => txnLe a b = true) ∧
    (∀ t ∈ filterTxns m f ts, t ∈ ts) ∧ (∀ t ∈ filterTxns m (.not f) ts, t ∈ ts) := by
  obtain ⟨h1, h2⟩ := C05.partition m f ts
  refine ⟨C05.filter_order m f ts, C05.filter_order m (.not f) ts, ?_, h1, h2, C05.filter_mem m f ts,
    (loaded_sorted st st' ts hl _).2, (loaded_sorted st st' ts hl _).2, sel_filter ts _, sel_filter ts _⟩
  rw [C05.partition_interleave]
  exact List.filter_append_perm _ ts

/-- `loaded_filter_partition` for a journal text -/
theorem text_filter_partition (cfg : Time.TsCfg) (st st' : Settings) (text : List Char) (ts : List Txn)
    (h : loadText cfg st text = .ok (ts, st')) (m : String → String → Bool) (f : Filter) :
    (filterTxns m f ts).Sublist ts ∧ (filterTxns m (.not f) ts).Sublist ts ∧
    (filterTxns m f ts ++ filterTxns m (.not f) ts).Perm ts ∧
    (∀ t ∈ ts, (t ∈ filterTxns m f ts ∧ t ∉ filterTxns m (.not f) ts) ∨
               (t ∉ filterTxns m f ts ∧ t ∈ filterTxns m (.not f) ts)) ∧
    (filterTxns m f ts).length + (filterTxns m (.not f) ts).length = ts.length ∧
    (∀ t, t ∈ filterTxns m f ts ↔ t ∈ ts ∧ C05.Sat m f t) ∧
    (filterTxns m f ts).Pairwise (fun a b => txnLe a b = true) ∧
    (filterTxns m (.not f) ts).Pairwise (fun a b => txnLe a b = true) ∧
    (∀ t ∈ filterTxns m f ts, t ∈ ts) ∧ (∀ t ∈ filterTxns m (.not f) ts, t ∈ ts) :=
  loaded_filter_partition st st' ts (loaded_of_text cfg st st' text ts h) m f

/-- `loaded_filter_partition` for a list of file texts -/
theorem files_filter_partition (cfg : Time.TsCfg) (st st' : Settings) (files : List (List Char)) (ts : List Txn)
    (h : loadFiles cfg st files = .ok (ts, st')) (m : String → String → Bool) (f : Filter) :
    (filterTxns m f ts).Sublist ts ∧ (filterTxns m (.not f) ts).Sublist ts ∧
    (filterTxns m f ts ++ filterTxns m (.not f) ts).Perm ts ∧
    (∀ t ∈ ts, (t ∈ filterTxns m f ts ∧ t ∉ filterTxns m (.not f) ts) ∨
               (t ∉ filterTxns m f ts ∧ t ∈ filterTxns m (.not f) ts)) ∧
    (filterTxns m f ts).length + (filterTxns m (.not f) ts).length = ts.length ∧
    (∀ t, t ∈ filterTxns m f ts ↔ t ∈ ts ∧ C05.Sat m f t) ∧
    (filterTxns m f ts).Pairwise (fun a b => txnLe a b = true) ∧
    (filterTxns m (.not f) ts).Pairwise (fun a b => txnLe a b = true) ∧
    (∀ t ∈ filterTxns m f ts, t ∈ ts) ∧ (∀ t ∈ filterTxns m (.not f) ts, t ∈ ts) :=
  loaded_filter_partition st st' ts (loaded_of_files cfg st st' files ts h) m f

/-- `text_balance_exact` for the filtered selection of a loaded text (what
    `--api-filter-def` leaves for the balance report) -/
theorem text_filter_balance_exact (cfg : Time.TsCfg) (st st' : Settings) (text : List Char) (ts : List Txn)
    (h : loadText cfg st text = .ok (ts, st')) (m : String → String → Bool) (f : Filter)
    (sb : Settings) (bal : List BalRow) (hb : balance sb (postsOf (filterTxns m f ts)) = .ok bal) :
    (bal.map (·.key)).Pairwise (fun a b => keyLt a b = true) ∧
    (∀ k, k ∈ bal.map (·.key) ↔ C02.Posted (postsOf (filterTxns m f ts)) k ∨
                                 C02.ProperAncestor (postsOf (filterTxns m f ts)) k) ∧
    (∀ row ∈ bal, row.own.units = C02.ownSum (postsOf (filterTxns m f ts)) row.key ∧
                  row.tree.units = C02.treeSum (postsOf (filterTxns m f ts)) row.key) :=
  text_balance_exact cfg st st' text ts h (filterTxns m f ts) (sel_filter ts _) sb bal hb

/-- `text_register_exact` for the filtered selection of a loaded text -/
theorem text_filter_register_exact (cfg : Time.TsCfg) (st st' : Settings) (text : List Char) (ts : List Txn)
    (h : loadText cfg st text = .ok (ts, st')) (m : String → String → Bool) (f : Filter)
    (es : List RegEntry) (hr : register selAll (filterTxns m f ts) = .ok es) :
    es.map (·.txn) = filterTxns m f ts ∧
    (∀ i e, es[i]? = some e → ∃ t, (filterTxns m f ts)[i]? = some t ∧ e.txn = t ∧ e.rows.length = t.posts.length ∧
      ∀ j r, e.rows[j]? = some r → ∃ p, (C03.sortedPosts t)[j]? = some p ∧ r.post = p ∧ r.comm = p.comm ∧
        r.total.units = C03.postSum p.acctnKey (((filterTxns m f ts).take i).flatMap (·.posts))
                          + C03.postSum p.acctnKey ((C03.sortedPosts t).take (j + 1))) ∧
    (∀ k, (∃ p ∈ postsOf (filterTxns m f ts), p.key = k) → ∃ r, C03.lastRow k (es.flatMap (·.rows)) = some r) ∧
    (∀ k r, C03.lastRow k (es.flatMap (·.rows)) = some r → r.total.units = C03.ownSpec (filterTxns m f ts) k) :=
  text_register_exact cfg st st' text ts h (filterTxns m f ts) (sel_filter ts _) es hr

/-- two filters on one loaded text with the same hashed message select the
    same multiset of uuids (the checksum reported with a filtered set identifies the filtered set) -/
theorem text_filter_checksum_determines_set (cfg : Time.TsCfg) (st st' : Settings) (text : List Char) (ts : List Txn)
    (h : loadText cfg st text = .ok (ts, st')) (m : String → String → Bool) (f g : Filter)
    (heq : C09.preimage (filterTxns m f ts) = C09.preimage (filterTxns m g ts)) :
    (C09.uuidsOf (filterTxns m f ts)).Perm (C09.uuidsOf (filterTxns m g ts)) :=
  text_checksum_determines_set cfg cfg st st' st st' text text ts ts h h _ _ (sel_filter ts _) (sel_filter ts _) heq

/-! ## 4. C07 — price conversion on loaded text -/

open Tackler.Price Tackler.Priced in
/-- **C07 end to end.**  The balance report with price conversion on (any lookup type,
    report commodity `tgt`, price file `es`) over any selection `txns` of the transactions loaded from text,
    whenever it answers:
    * (figures) every listed own sum is the exact sum of the converted amounts of the postings summed under the
      row's key: own × 10²⁸ = Σ amount × rate over the converted postings + (Σ amount over the unconverted ones) × 10²⁸
      — unconverted postings enter with their own amount, untouched; tree sums are the sums at or below;
    * (rows) the rows are exactly the converted keys of the postings and their proper ancestors, sorted;
    * (rate) the entry applied to a posting is the documented one (`C07.RateAt`: source → report commodity, by the
      lookup type), none for a posting without commodity or already in the report commodity.
    `C02.PostsWF` of C07b's theorems is discharged by `loaded_postsWF_sel`. -/
theorem loaded_priced_balance (st st' : Settings) (ts : List Txn) (hl : Loaded st ts st')
    (txns : List Txn) (hsel : ∀ t ∈ txns, t ∈ ts)
    (sb : Settings) (sel : BalRow → Bool) (es : List PriceEntry) (tgt : String) (lk : PriceLookup) (hlk : lk ≠ .none)
    (b : Balance) (h : balanceConv sb sel lk (some tgt) (loadDb es) txns = .ok b) :
    (∃ cps, convertedPosts (reportCtx lk (some tgt) (loadDb es) txns) txns = .ok cps ∧ C02.PostsWF cps ∧
      fromIter sb sel cps = .ok b ∧
      ∀ row ∈ b.rows,
        row.own.units = C02.ownSum cps row.key ∧
        row.own.units * C07b.E28 = C07b.valueSum (C07b.rcache lk tgt (loadDb es) txns) tgt (C07b.pairsOf txns) row.key ∧
        row.own.units * C07b.E28 = C07b.ratedSum (C07b.rcache lk tgt (loadDb es) txns) tgt (C07b.pairsOf txns) row.key
                          + C07b.plainSum (C07b.rcache lk tgt (loadDb es) txns) tgt (C07b.pairsOf txns) row.key * C07b.E28 ∧
        row.tree.units = C02.treeSum cps row.key) ∧
    (∃ cps bal, convertedPosts (reportCtx lk (some tgt) (loadDb es) txns) txns = .ok cps ∧ balance sb cps = .ok bal ∧
      b.rows = bal.filter sel ∧
      (bal.map (·.key)).Pairwise (fun x y => keyLt x y = true) ∧
      ∀ k, k ∈ bal.map (·.key) ↔
        (∃ tp ∈ C07b.pairsOf txns, C07b.convKey (C07b.rcache lk tgt (loadDb es) txns) tgt tp = k) ∨
          C02.ProperAncestor cps k) ∧
    (∀ t ∈ txns, ∀ p ∈ t.posts,
      ((p.comm = "" ∨ p.comm = tgt) → C07.appliedEntry (C07b.rcache lk tgt (loadDb es) txns) tgt t p = none) ∧
      (p.comm ≠ "" → p.comm ≠ tgt →
        C07.RateAt (loadDb es) p.comm tgt (C07.lookupPred lk t.header.ts.ns)
          (C07.appliedEntry (C07b.rcache lk tgt (loadDb es) txns) tgt t p))) := by
  have hwf := loaded_postsWF_sel st st' ts hl txns hsel
  exact ⟨C07b.balance_conv_own_sum sb sel (loadDb es) txns tgt lk hlk hwf b h,
    C07b.balance_conv_rows sb sel (loadDb es) txns tgt lk hlk hwf b h,
    fun t ht p hp => C07b.applied_rateAt es txns tgt lk hlk t ht p hp⟩

open Tackler.Price Tackler.Priced in
/-- `loaded_priced_balance` for a journal text -/
theorem text_priced_balance (cfg : Time.TsCfg) (st st' : Settings) (text : List Char) (ts : List Txn)
    (hload : loadText cfg st text = .ok (ts, st'))
    (txns : List Txn) (hsel : ∀ t ∈ txns, t ∈ ts)
    (sb : Settings) (sel : BalRow → Bool) (es : List PriceEntry) (tgt : String) (lk : PriceLookup) (hlk : lk ≠ .none)
    (b : Balance) (h : balanceConv sb sel lk (some tgt) (loadDb es) txns = .ok b) :
    (∃ cps, convertedPosts (reportCtx lk (some tgt) (loadDb es) txns) txns = .ok cps ∧ C02.PostsWF cps ∧
      fromIter sb sel cps = .ok b ∧
      ∀ row ∈ b.rows,
        row.own.units = C02.ownSum cps row.key ∧
        row.own.units * C07b.E28 = C07b.valueSum (C07b.rcache lk tgt (loadDb es) txns) tgt (C07b.pairsOf txns) row.key ∧
        row.own.units * C07b.E28 = C07b.ratedSum (C07b.rcache lk tgt (loadDb es) txns) tgt (C07b.pairsOf txns) row.key
                          + C07b.plainSum (C07b.rcache lk tgt (loadDb es) txns) tgt (C07b.pairsOf txns) row.key * C07b.E28 ∧
        row.tree.units = C02.treeSum cps row.key) ∧
    (∃ cps bal, convertedPosts (reportCtx lk (some tgt) (loadDb es) txns) txns = .ok cps ∧ balance sb cps = .ok bal ∧
      b.rows = bal.filter sel ∧
      (bal.map (·.key)).Pairwise (fun x y => keyLt x y = true) ∧
      ∀ k, k ∈ bal.map (·.key) ↔
        (∃ tp ∈ C07b.pairsOf txns, C07b.convKey (C07b.rcache lk tgt (loadDb es) txns) tgt tp = k) ∨
          C02.ProperAncestor cps k) ∧
    (∀ t ∈ txns, ∀ p ∈ t.posts,
      ((p.comm = "" ∨ p.comm = tgt) → C07.appliedEntry (C07b.rcache lk tgt (loadDb es) txns) tgt t p = none) ∧
      (p.comm ≠ "" → p.comm ≠ tgt →
        C07.RateAt (loadDb es) p.comm tgt (C07.lookupPred lk t.header.ts.ns)
          (C07.appliedEntry (C07b.rcache lk tgt (loadDb es) txns) tgt t p))) :=
  loaded_priced_balance st st' ts (loaded_of_text cfg st st' text ts hload) txns hsel sb sel es tgt lk hlk b h

open Tackler.Price Tackler.Priced in
/-- `loaded_priced_balance` for a list of file texts -/
theorem files_priced_balance (cfg : Time.TsCfg) (st st' : Settings) (files : List (List Char)) (ts : List Txn)
    (hload : loadFiles cfg st files = .ok (ts, st'))
    (txns : List Txn) (hsel : ∀ t ∈ txns, t ∈ ts)
    (sb : Settings) (sel : BalRow → Bool) (es : List PriceEntry) (tgt : String) (lk : PriceLookup) (hlk : lk ≠ .none)
    (b : Balance) (h : balanceConv sb sel lk (some tgt) (loadDb es) txns = .ok b) :
    (∃ cps, convertedPosts (reportCtx lk (some tgt) (loadDb es) txns) txns = .ok cps ∧ C02.PostsWF cps ∧
      fromIter sb sel cps = .ok b ∧
      ∀ row ∈ b.rows,
        row.own.units = C02.ownSum cps row.key ∧
        row.own.units * C07b.E28 = C07b.valueSum (C07b.rcache lk tgt (loadDb es) txns) tgt (C07b.pairsOf txns) row.key ∧
        row.own.units * C07b.E28 = C07b.ratedSum (C07b.rcache lk tgt (loadDb es) txns) tgt (C07b.pairsOf txns) row.key
                          + C07b.plainSum (C07b.rcache lk tgt (loadDb es) txns) tgt (C07b.pairsOf txns) row.key * C07b.E28 ∧
        row.tree.units = C02.treeSum cps row.key) ∧
    (∃ cps bal, convertedPosts (reportCtx lk (some tgt) (loadDb es) txns) txns = .ok cps ∧ balance sb cps = .ok bal ∧
      b.rows = bal.filter sel ∧
      (bal.map (·.key)).Pairwise (fun x y => keyLt x y = true) ∧
      ∀ k, k ∈ bal.map (·.key) ↔
        (∃ tp ∈ C07b.pairsOf txns, C07b.convKey (C07b.rcache lk tgt (loadDb es) txns) tgt tp = k) ∨
          C02.ProperAncestor cps k) ∧
    (∀ t ∈ txns, ∀ p ∈ t.posts,
      ((p.comm = "" ∨ p.comm = tgt) → C07.appliedEntry (C07b.rcache lk tgt (loadDb es) txns) tgt t p = none) ∧
      (p.comm ≠ "" → p.comm ≠ tgt →
        C07.RateAt (loadDb es) p.comm tgt (C07.lookupPred lk t.header.ts.ns)
          (C07.appliedEntry (C07b.rcache lk tgt (loadDb es) txns) tgt t p))) :=
  loaded_priced_balance st st' ts (loaded_of_files cfg st st' files ts hload) txns hsel sb sel es tgt lk hlk b h

open Tackler.Price Tackler.Priced in
/-- the register report with price conversion on over any selection of the transactions
    loaded from text: one entry per transaction; row `j` of entry `i` shows the posting, its converted key, the
    per-posting rate, and as running total the exact sum of the converted amounts under that key so far; the last
    total shown for a key is the own sum the converted balance report shows.  `C03.TxnsWF` discharged. -/
theorem loaded_priced_register (st st' : Settings) (ts : List Txn) (hl : Loaded st ts st')
    (txns : List Txn) (hsel : ∀ t ∈ txns, t ∈ ts)
    (db : List PriceEntry) (tgt : String) (lk : PriceLookup) (hlk : lk ≠ .none)
    (es : List RegEntry) (h : registerConv selAll lk (some tgt) db txns = .ok es) :
    (es.length = txns.length ∧
      ∀ i e, es[i]? = some e → ∃ t, txns[i]? = some t ∧ e.txn = t ∧ e.rows.length = t.posts.length ∧
        ∀ j r, e.rows[j]? = some r → ∃ p, (C03.sortedPosts t)[j]? = some p ∧ r.post = p ∧
          r.key = C07b.convKey (C07b.rcache lk tgt db txns) tgt (t, p) ∧
          r.rate = C07b.rateOf (C07.appliedEntry (C07b.rcache lk tgt db txns) tgt t p) (C07.isTimed (C07b.rcache lk tgt db txns)) ∧
          r.total.units * C07b.E28 =
            C07b.valueSum (C07b.rcache lk tgt db txns) tgt (C07b.pairsOf (txns.take i)) (C07b.convKey (C07b.rcache lk tgt db txns) tgt (t, p))
            + C07b.valueSum (C07b.rcache lk tgt db txns) tgt (((C03.sortedPosts t).take (j + 1)).map (fun q => (t, q)))
                (C07b.convKey (C07b.rcache lk tgt db txns) tgt (t, p))) ∧
    (∀ k r, C03.lastRow k (es.flatMap (·.rows)) = some r →
      (∃ cps, convertedPosts (reportCtx lk (some tgt) db txns) txns = .ok cps ∧ r.total.units = C02.ownSum cps k) ∧
      r.total.units * C07b.E28 = C07b.valueSum (C07b.rcache lk tgt db txns) tgt (C07b.pairsOf txns) k) := by
  have hwf := loaded_txnsWF_sel st st' ts hl txns hsel
  exact ⟨C07b.register_conv_running_total db txns tgt lk hlk hwf es h,
    fun k r hr => C07b.register_conv_last_total db txns tgt lk hlk hwf es h k r hr⟩

open Tackler.Price Tackler.Priced in
/-- `loaded_priced_register` for a journal text -/
theorem text_priced_register (cfg : Time.TsCfg) (st st' : Settings) (text : List Char) (ts : List Txn)
    (hload : loadText cfg st text = .ok (ts, st'))
    (txns : List Txn) (hsel : ∀ t ∈ txns, t ∈ ts)
    (db : List PriceEntry) (tgt : String) (lk : PriceLookup) (hlk : lk ≠ .none)
    (es : List RegEntry) (h : registerConv selAll lk (some tgt) db txns = .ok es) :
    (es.length = txns.length ∧
      ∀ i e, es[i]? = some e → ∃ t, txns[i]? = some t ∧ e.txn = t ∧ e.rows.length = t.posts.length ∧
        ∀ j r, e.rows[j]? = some r → ∃ p, (C03.sortedPosts t)[j]? = some p ∧ r.post = p ∧
          r.key = C07b.convKey (C07b.rcache lk tgt db txns) tgt (t, p) ∧
          r.rate = C07b.rateOf (C07.appliedEntry (C07b.rcache lk tgt db txns) tgt t p) (C07.isTimed (C07b.rcache lk tgt db txns)) ∧
          r.total.units * C07b.E28 =
            C07b.valueSum (C07b.rcache lk tgt db txns) tgt (C07b.pairsOf (txns.take i)) (C07b.convKey (C07b.rcache lk tgt db txns) tgt (t, p))
            + C07b.valueSum (C07b.rcache lk tgt db txns) tgt (((C03.sortedPosts t).take (j + 1)).map (fun q => (t, q)))
                (C07b.convKey (C07b.rcache lk tgt db txns) tgt (t, p))) ∧
    (∀ k r, C03.lastRow k (es.flatMap (·.rows)) = some r →
      (∃ cps, convertedPosts (reportCtx lk (some tgt) db txns) txns = .ok cps ∧ r.total.units = C02.ownSum cps k) ∧
      r.total.units * C07b.E28 = C07b.valueSum (C07b.rcache lk tgt db txns) tgt (C07b.pairsOf txns) k) :=
  loaded_priced_register st st' ts (loaded_of_text cfg st st' text ts hload) txns hsel db tgt lk hlk es h

/-! ## 5. C10 — the equity export re-loads as TEXT

`C10.equity_reparse` / `equity_carries` are stated for the parse trees `EqTxn.toRaw` the generated text denotes.
Here they are lifted to the text itself: the text `Tackler.equityText` writes for an export of transactions loaded
from text is accepted by `loadText` (`string_to_txns`), the loaded transactions are the generated ones, and their
balance carries the selected balances of the source.

The print/parse round trip is C06's, line by line (`Lemmas/E2Eb.lean` §2, §3); its well-formedness hypotheses are
discharged for equity transactions (`export_wf`): account and commodity names are those of postings loaded from
text, amounts are own sums of a balance (representable), the description is built from a commodity name and a uuid,
the timestamp is that of a loaded transaction.  What stays explicit:
* `C06.CfgOK cfg` for the *source* load — the journal zone is a fixed offset of whole minutes, as in C06's
  `roundtrip_text`: otherwise a loaded timestamp may carry an offset with seconds, which `rfc_3339` prints but the
  grammar does not read back (finding F13);
* the two configuration parameters that are printed verbatim: the equity account is a valid account name
  (`AcctLex eqa`) and the metadata comment texts `md` (a parameter of the model: hashes, filter descriptions)
  are single lines;
* `C10.Lax` for the settings of the re-load (lax, no audit, empty commodity permitted), as in `C10.equity_reparse`. -/

/-- what is accepted from parse trees satisfying `C06.RawLex` satisfies C06's `WF` (what the export can print
    re-parsably): `C06.accept_wf` -/
theorem accepted_wf (st st' : Settings) (rs : List RawTxn) (acc : List Txn) (hlex : ∀ r ∈ rs, C06.RawLex r)
    (hacc : acceptJournal st rs = .ok (acc, st')) : ∀ t ∈ sortTxns acc, C06.WF div0 t := by
  intro t ht
  obtain ⟨r, hr, s1, s2, hf⟩ := mapMS_ok acceptTxn rs st st' acc hacc t ((mem_sortTxns acc t).mp ht)
  exact C06.accept_wf div0 s1 s2 r t hf (hlex r hr)
    (fun _ _ _ => ⟨by simp [div0, Dec.zero], by simp [div0, Dec.zero], by simp [div0, Dec.zero]⟩)

/-- every transaction loaded from a text under a fixed-offset journal zone satisfies C06's `WF`:
    `C06.parseJournal_rawLex` + `accepted_wf` -/
theorem text_wf (cfg : Time.TsCfg) (hcfg : C06.CfgOK cfg) (st st' : Settings) (text : List Char) (ts : List Txn)
    (h : loadText cfg st text = .ok (ts, st')) : ∀ t ∈ ts, C06.WF div0 t := by
  obtain ⟨rs, acc, hp, _, _, hacc, rfl, _⟩ := load_inv cfg st st' text ts h
  exact accepted_wf st st' rs acc (C06.parseJournal_rawLex cfg hcfg text rs hp).2 hacc

/-- … and so does every transaction loaded from a list of file texts -/
theorem files_wf (cfg : Time.TsCfg) (hcfg : C06.CfgOK cfg) (st st' : Settings) (files : List (List Char)) (ts : List Txn)
    (h : loadFiles cfg st files = .ok (ts, st')) : ∀ t ∈ ts, C06.WF div0 t := by
  obtain ⟨rss, acc, hrss, _, hacc, rfl⟩ := files_inv cfg st st' files ts h
  exact accepted_wf st st' _ acc
    (files_all cfg (fun f rs hf => (C06.parseJournal_rawLex cfg hcfg f rs hf).2) hrss) hacc

/-- a successful load keeps the switches: lax settings stay lax -/
theorem loaded_lax (st st' : Settings) (ts : List Txn) (hl : Loaded st ts st') (hlax : C10.Lax st) : C10.Lax st' := by
  obtain ⟨rs, acc, _, hacc, _⟩ := hl
  have hf := (C12.acceptJournal_grow st rs acc st' hacc).1.flags
  simp only [C12.Flags, Prod.mk.injEq] at hf
  obtain ⟨h1, h2, h3⟩ := hlax
  exact ⟨hf.1.trans h1, hf.2.1.trans h2, hf.2.2.trans h3⟩

theorem ofConfig_lax (accts : List Path) (comms tags : List String) :
    C10.Lax (Settings.ofConfig false false true accts comms tags) := by
  obtain ⟨h1, h2, h3, _⟩ := C12.ofConfig_strict false false true accts comms tags
  exact ⟨h1, h2, h3⟩

/-- **C10 end to end.**  The equity export over any selection `txns` of transactions loaded
    from text (each satisfying `C06.WF`: see `text_wf`), with a valid equity account name and one-line metadata
    comments, whenever the exporter answers with `out`:
    * (text) the exporter's text exists: `equityText out = some s`;
    * (parse) if something was generated, the journal grammar — with any journal zone — maps that text to exactly
      the parse trees `EqTxn.toRaw` of the generated transactions, in order;
    * (re-load) from any lax settings `s1`, `string_to_txns` (`loadText`) accepts the text; the loaded list is the
      sorted list of the generated transactions `C10.toTxn` — a permutation of them, one per generated
      transaction, i.e. one per commodity with a selected non-zero row (`loaded_equity`, shape clause) —, each
      `C01.Balanced`; the settings stay lax;
    * (carries) if the equity account is not itself selected, every selected non-zero (commodity, account) has in
      the re-loaded text the same own sum as in the source, which is the figure its balance row shows. -/
theorem loaded_equity_text (st st' : Settings) (ts : List Txn) (hl : Loaded st ts st')
    (hwf : ∀ t ∈ ts, C06.WF div0 t)
    (txns : List Txn) (hsel : ∀ t ∈ txns, t ∈ ts)
    (sb : Settings) (acc : Option (Path → Bool)) (eqa : Path) (md : List String) (out : List EqTxn)
    (he : equityExport sb acc eqa md txns = .ok out)
    (heqa : AcctLex eqa) (hmd : ∀ c ∈ md, LineText c.toList) :
    ∃ s, equityText out = some s ∧
      (out ≠ [] → ∀ cfg', parseJournal cfg' s.toList = some (out.map EqTxn.toRaw)) ∧
      (out ≠ [] → ∀ cfg' s1, C10.Lax s1 →
        ∃ ts' s2, loadText cfg' s1 s.toList = .ok (ts', s2) ∧ C10.Lax s2 ∧
          ts' = sortTxns (out.map C10.toTxn) ∧ ts'.Perm (out.map C10.toTxn) ∧ ts'.length = out.length ∧
          (∀ t ∈ ts', C01.Balanced t) ∧
          (∀ all, balance sb (postsOf txns) = .ok all → (∀ r ∈ C10.selRows acc all, r.acct ≠ eqa) →
            ∀ r ∈ C10.selRows acc all,
              C10.ownSpec (postsOf ts') r.key = C10.ownSpec (postsOf txns) r.key ∧
              r.own.units = C10.ownSpec (postsOf txns) r.key)) := by
  have hpw := loaded_postsWF_sel st st' ts hl txns hsel
  have hw := export_wf sb acc eqa md txns out (fun t ht => hwf t (hsel t ht)) hpw he heqa hmd
  obtain ⟨s, hs⟩ := equityText_some out (fun t ht => (hw t ht).ts)
  have hchars := equityText_chars out s hs
  obtain ⟨_, haccepts, hcarries⟩ := loaded_equity st st' ts hl txns hsel sb acc eqa md out he
  refine ⟨s, hs, ?_, ?_⟩
  · intro hne cfg'
    rw [hchars]
    exact parseJournal_eqChars cfg' out hne hw
  · intro hne cfg' s1 hl1
    obtain ⟨s2, hload, hl2⟩ := (C10.equity_reparse sb acc eqa md txns out he s1 hl1).2 hne
    have hperm : (sortTxns (out.map C10.toTxn)).Perm (out.map C10.toTxn) := sortTxns_perm _
    refine ⟨_, s2, ?_, hl2, rfl, hperm, by rw [hperm.length_eq, List.length_map], ?_, ?_⟩
    · unfold loadText
      rw [hchars, parseJournal_eqChars cfg' out hne hw]
      exact hload
    · intro t ht
      obtain ⟨e, hem, rfl⟩ := List.mem_map.mp (hperm.mem_iff.mp ht)
      obtain ⟨_, _, _, hb⟩ := haccepts s1 hl1 e hem
      exact hb
    · intro all hall hne' r hr
      exact hcarries all hall hne' s1 s2 _ hl1 hload r hr

/-- `loaded_equity_text` for a journal text -/
theorem text_equity_text (cfg : Time.TsCfg) (hcfg : C06.CfgOK cfg) (st st' : Settings) (text : List Char)
    (ts : List Txn) (h : loadText cfg st text = .ok (ts, st'))
    (txns : List Txn) (hsel : ∀ t ∈ txns, t ∈ ts)
    (sb : Settings) (acc : Option (Path → Bool)) (eqa : Path) (md : List String) (out : List EqTxn)
    (he : equityExport sb acc eqa md txns = .ok out)
    (heqa : AcctLex eqa) (hmd : ∀ c ∈ md, LineText c.toList) :
    ∃ s, equityText out = some s ∧
      (out ≠ [] → ∀ cfg', parseJournal cfg' s.toList = some (out.map EqTxn.toRaw)) ∧
      (out ≠ [] → ∀ cfg' s1, C10.Lax s1 →
        ∃ ts' s2, loadText cfg' s1 s.toList = .ok (ts', s2) ∧ C10.Lax s2 ∧
          ts' = sortTxns (out.map C10.toTxn) ∧ ts'.Perm (out.map C10.toTxn) ∧ ts'.length = out.length ∧
          (∀ t ∈ ts', C01.Balanced t) ∧
          (∀ all, balance sb (postsOf txns) = .ok all → (∀ r ∈ C10.selRows acc all, r.acct ≠ eqa) →
            ∀ r ∈ C10.selRows acc all,
              C10.ownSpec (postsOf ts') r.key = C10.ownSpec (postsOf txns) r.key ∧
              r.own.units = C10.ownSpec (postsOf txns) r.key)) :=
  loaded_equity_text st st' ts (loaded_of_text cfg st st' text ts h) (text_wf cfg hcfg st st' text ts h)
    txns hsel sb acc eqa md out he heqa hmd

/-- `loaded_equity_text` for a list of file texts -/
theorem files_equity_text (cfg : Time.TsCfg) (hcfg : C06.CfgOK cfg) (st st' : Settings) (files : List (List Char))
    (ts : List Txn) (h : loadFiles cfg st files = .ok (ts, st'))
    (txns : List Txn) (hsel : ∀ t ∈ txns, t ∈ ts)
    (sb : Settings) (acc : Option (Path → Bool)) (eqa : Path) (md : List String) (out : List EqTxn)
    (he : equityExport sb acc eqa md txns = .ok out)
    (heqa : AcctLex eqa) (hmd : ∀ c ∈ md, LineText c.toList) :
    ∃ s, equityText out = some s ∧
      (out ≠ [] → ∀ cfg', parseJournal cfg' s.toList = some (out.map EqTxn.toRaw)) ∧
      (out ≠ [] → ∀ cfg' s1, C10.Lax s1 →
        ∃ ts' s2, loadText cfg' s1 s.toList = .ok (ts', s2) ∧ C10.Lax s2 ∧
          ts' = sortTxns (out.map C10.toTxn) ∧ ts'.Perm (out.map C10.toTxn) ∧ ts'.length = out.length ∧
          (∀ t ∈ ts', C01.Balanced t) ∧
          (∀ all, balance sb (postsOf txns) = .ok all → (∀ r ∈ C10.selRows acc all, r.acct ≠ eqa) →
            ∀ r ∈ C10.selRows acc all,
              C10.ownSpec (postsOf ts') r.key = C10.ownSpec (postsOf txns) r.key ∧
              r.own.units = C10.ownSpec (postsOf txns) r.key)) :=
  loaded_equity_text st st' ts (loaded_of_files cfg st st' files ts h) (files_wf cfg hcfg st st' files ts h)
    txns hsel sb acc eqa md out he heqa hmd

/-- the two re-loads the property names — the export text of a lax load is accepted from
    the settings that load left behind (`st'`, appending the export to the running session) and from fresh settings
    of a lax configuration with any charts (a new journal starting from the export), in both cases to the sorted
    generated transactions. -/
theorem text_equity_reloads (cfg : Time.TsCfg) (hcfg : C06.CfgOK cfg) (st st' : Settings) (text : List Char)
    (ts : List Txn) (h : loadText cfg st text = .ok (ts, st')) (hlax : C10.Lax st)
    (txns : List Txn) (hsel : ∀ t ∈ txns, t ∈ ts)
    (sb : Settings) (acc : Option (Path → Bool)) (eqa : Path) (md : List String) (out : List EqTxn)
    (he : equityExport sb acc eqa md txns = .ok out) (hne : out ≠ [])
    (heqa : AcctLex eqa) (hmd : ∀ c ∈ md, LineText c.toList)
    (cfg' : Time.TsCfg) (accts : List Path) (comms tags : List String) :
    ∃ s, equityText out = some s ∧
      (∃ s2, loadText cfg' st' s.toList = .ok (sortTxns (out.map C10.toTxn), s2)) ∧
      (∃ s2, loadText cfg' (Settings.ofConfig false false true accts comms tags) s.toList
                = .ok (sortTxns (out.map C10.toTxn), s2)) := by
  obtain ⟨s, hs, _, hre⟩ := text_equity_text cfg hcfg st st' text ts h txns hsel sb acc eqa md out he heqa hmd
  refine ⟨s, hs, ?_, ?_⟩
  · obtain ⟨ts', s2, hl, _, rfl, _⟩ := hre hne cfg' st' (loaded_lax st st' ts (loaded_of_text cfg st st' text ts h) hlax)
    exact ⟨s2, hl⟩
  · obtain ⟨ts', s2, hl, _, rfl, _⟩ := hre hne cfg' _ (ofConfig_lax accts comms tags)
    exact ⟨s2, hl⟩

/-! ## 6. non-vacuity: the hypotheses of the theorems of this file on concrete texts (`E2E.Ex`: `sample`, `fileA`, `fileB`) -/
namespace Ex
open Tackler.Price Tackler.Priced

/-! ### git storage: a commit with two journal files under `txns/`, a near-miss and a file elsewhere -/

def blob (oid : String) : List Char :=
  match oid.toList with
  | ['A'] => fileA
  | ['B'] => fileB
  | _ => "not a journal".toList

def tree : List Entry := [⟨.tree, "txns", "t"⟩, ⟨.blob, "txns/a.txn", "A"⟩, ⟨.blobExe, "txns/b.txn", "B"⟩,
  ⟨.blob, "txns/readme.txt", "R"⟩, ⟨.blob, "txnsold/c.txn", "C"⟩, ⟨.blob, "other/d.txn", "D"⟩]

theorem tree_selects : gitSelect "txns" "txn" tree = .ok [⟨.blob, "txns/a.txn", "A"⟩, ⟨.blobExe, "txns/b.txn", "B"⟩] := by
  decide +kernel

theorem tree_blobs : ([⟨.blob, "txns/a.txn", "A"⟩, ⟨.blobExe, "txns/b.txn", "B"⟩] : List Entry).map (fun e => blob e.oid)
    = [fileA, fileB] := by
  have hA : "A".toList = ['A'] := String.toList_ofList
  have hB : "B".toList = ['B'] := String.toList_ofList
  simp only [List.map_cons, List.map_nil, blob, hA, hB]

/-- the git load of the commit succeeds (the near-miss `txnsold/c.txn`, `readme.txt` and `other/d.txn` are not
    journals and would fail it, were they selected) … -/
theorem tree_loads : ∃ ts st', gitLoad (gitText utc blob) "txns" "txn" lax0 tree = .ok (ts, st') := by
  obtain ⟨ts, st', h⟩ := files_load
  exact ⟨ts, st', (git_load_iff utc blob "txns" "txn" lax0 st' tree ts).mpr ⟨_, tree_selects, by rw [tree_blobs]; exact h⟩⟩

/-- … establishes `Loaded`, and its transactions are balanced (`git_accept_balanced`) -/
example : ∃ ts st', gitLoad (gitText utc blob) "txns" "txn" lax0 tree = .ok (ts, st') ∧ Loaded lax0 ts st' ∧
    ∀ t ∈ ts, C01.Balanced t := by
  obtain ⟨ts, st', h⟩ := tree_loads
  exact ⟨ts, st', h, loaded_of_git utc blob "txns" "txn" lax0 st' tree ts h,
    git_accept_balanced utc blob "txns" "txn" lax0 st' tree ts h⟩

/-! ### strict mode from text -/

def chart : List Path := [["a", "b"], ["a", "bc"], ["e"], ["f"]]

/-- lax mode with any charts loads the sample to the same transactions as without (`text_lax_chart_free`) -/
theorem sample_loads_lax (accts : List Path) (comms tags : List String) :
    ∃ s2, loadText utc (Settings.ofConfig false false true accts comms tags) sample = .ok ([t1, t2], s2) := by
  have h := text_lax_chart_free utc false true accts [] comms tags [] [] sample
  rw [show loadText utc (Settings.ofConfig false false true [] [] []) sample = .ok ([t1, t2], stAfter) from sample_loads] at h
  cases hl : loadText utc (Settings.ofConfig false false true accts comms tags) sample with
  | ok r => rw [hl] at h; obtain ⟨ts, s2⟩ := r; simp only [Outcome.map, Outcome.ok.injEq] at h; exact ⟨s2, by rw [h]⟩
  | err => rw [hl] at h; cases h
  | undef => rw [hl] at h; cases h

theorem sample_loads_chart : ∃ s2, loadText utc (Settings.ofConfig false false true chart [] []) sample = .ok ([t1, t2], s2) :=
  sample_loads_lax chart [] []

/-- every account the sample uses is declared in `chart` (no commodity, no tag is used): strict mode loads it … -/
example : ∃ s2, loadText utc (Settings.ofConfig true false true chart [] []) sample = .ok ([t1, t2], s2) :=
  (text_strict_iff utc false true chart [] [] sample [r1, r2] sample_parses [t1, t2]).mpr
    ⟨⟨by decide, by decide, by decide⟩, sample_loads_chart⟩

/-- … and without `f` in the chart it does not, although lax mode does (`text_strict_iff_of_lax`) -/
example : ¬ ∃ ts' s2, loadText utc (Settings.ofConfig true false true [["a", "b"], ["a", "bc"], ["e"]] [] []) sample = .ok (ts', s2) := by
  obtain ⟨s2, hl⟩ := sample_loads_lax [["a", "b"], ["a", "bc"], ["e"]] [] []
  intro hs
  have hd := ((text_strict_iff_of_lax utc false true _ [] [] sample [r1, r2] sample_parses _ s2 hl).1.mp hs).1
  exact absurd (hd ["f"] (by decide)) (by decide)

/-! ### filters -/

/-- the filter "code is `c2`" keeps the second transaction of the sample, its negation the first -/
example : filterTxns C05.mEq (.code "c2") [t1, t2] = [t2] ∧ filterTxns C05.mEq (.not (.code "c2")) [t1, t2] = [t1] := by
  decide

example : (filterTxns C05.mEq (.code "c2") [t1, t2] ++ filterTxns C05.mEq (.not (.code "c2")) [t1, t2]).Perm [t1, t2] :=
  (text_filter_partition utc lax0 stAfter sample [t1, t2] sample_loads C05.mEq (.code "c2")).2.2.1

/-! ### the equity export of the sample, as text -/

def eq1 : EqTxn := ⟨⟨1704153600000000000, 0⟩, "Equity", [],
  [⟨["a", "b"], ⟨false, 150, 2⟩, ""⟩, ⟨["f"], ⟨true, 35, 1⟩, ""⟩, ⟨["Equity"], ⟨false, 200, 2⟩, ""⟩]⟩

def eqText : String := "2024-01-02T00:00:00+00:00 'Equity\n   a:b  1.50\n   f  -3.5\n   Equity  2.00\n\n"

/-- the exact text of the export of `sample_equity` -/
theorem sample_equity_text : equityText [eq1] = some eqText := by decide +kernel

theorem acctLex_Equity : AcctLex ["Equity"] :=
  ⟨["Equity".toList], ⟨"Equity".toList, [], rfl, ⟨'E', "quity".toList, by decide, by decide, by decide⟩,
    fun _ h => by cases h⟩, by decide, by decide⟩

/-- `text_equity_text` on it: the export text re-loads from fresh lax settings to the generated transaction … -/
theorem sample_equity_reloads : ∃ s2, loadText utc lax0 eqText.toList = .ok (sortTxns [C10.toTxn eq1], s2) := by
  obtain ⟨s, hs, _, hre⟩ := text_equity_text utc C06.cfgOK_utc lax0 stAfter sample [t1, t2] sample_loads [t1, t2]
    (sel_all _) stAfter eqSel ["Equity"] [] [eq1] sample_equity acctLex_Equity (fun _ h => by cases h)
  rw [sample_equity_text] at hs
  have e := Option.some.inj hs
  subst e
  obtain ⟨ts', s2, hl, _, rfl, _⟩ := hre (by simp) utc lax0 (ofConfig_lax [] [] [])
  exact ⟨s2, hl⟩

set_option maxRecDepth 40000 in
/-- … which the grammar confirms by evaluation (independent of the theorem) -/
example : parseJournal utc eqText.toList = some [eq1.toRaw] := by
  unfold eqText
  rw [String.toList_ofList]
  decide

/-- `text_equity_reloads` on it: the export text is accepted from the settings the first load left behind and from
    fresh settings of a lax configuration with a chart -/
example : ∃ s, equityText [eq1] = some s ∧
    (∃ s2, loadText utc stAfter s.toList = .ok (sortTxns [C10.toTxn eq1], s2)) ∧
    (∃ s2, loadText utc (Settings.ofConfig false false true chart ["EUR"] []) s.toList = .ok (sortTxns [C10.toTxn eq1], s2)) :=
  text_equity_reloads utc C06.cfgOK_utc lax0 stAfter sample [t1, t2] sample_loads (ofConfig_lax [] [] []) [t1, t2]
    (sel_all _) stAfter eqSel ["Equity"] [] [eq1] sample_equity (by simp) acctLex_Equity (fun _ h => by cases h)
    utc chart ["EUR"] []

def eqBad : EqTxn := ⟨⟨1704153600000000000, 0⟩, "Equity", [],
  [⟨["a", "b"], ⟨false, 150, 2⟩, ""⟩, ⟨["f"], ⟨true, 35, 1⟩, ""⟩, ⟨["E q"], ⟨false, 200, 2⟩, ""⟩]⟩

set_option maxRecDepth 40000 in
/-- boundary: the hypothesis `AcctLex eqa` of `text_equity_text` cannot be dropped — lax mode does not validate the
    configured equity account, the export prints it verbatim, and with a blank in it the text is not a journal -/
example : equityText [eqBad] = some "2024-01-02T00:00:00+00:00 'Equity\n   a:b  1.50\n   f  -3.5\n   E q  2.00\n\n" ∧
    parseJournal utc "2024-01-02T00:00:00+00:00 'Equity\n   a:b  1.50\n   f  -3.5\n   E q  2.00\n\n".toList = none := by
  rw [String.toList_ofList]
  decide +kernel

set_option maxRecDepth 40000 in
/-- boundary: nor can "the metadata comment texts are single lines" — a comment text with a newline is printed
    verbatim and the export is not a journal -/
example : (equityText [{ eq1 with comments := ["x\ny"] }]).map (fun s => parseJournal utc s.toList) = some none := by
  have h : equityText [{ eq1 with comments := ["x\ny"] }]
      = some "2024-01-02T00:00:00+00:00 'Equity\n   ; x\ny\n   a:b  1.50\n   f  -3.5\n   Equity  2.00\n\n" := by decide +kernel
  rw [h, Option.map_some, String.toList_ofList]
  decide

/-! ### price conversion on a loaded text: `a 2 USD`, `b` (implicit −2 USD), price file `USD → EUR` at 3 -/

def usdText : List Char := "2024-01-01 'fx\n a 2 USD\n b\n".toList
def hU : Header := ⟨⟨1704067200000000000, 0⟩, none, some "fx", none, none, none, none⟩
def tU : Txn := ⟨hU, [⟨["a"], "USD", ⟨false, 2, 0⟩, ⟨false, 2, 0⟩, false, "USD", none⟩,
  ⟨["b"], "USD", ⟨true, 2, 0⟩, ⟨true, 2, 0⟩, false, "USD", none⟩]⟩
def stU : Settings := ⟨false, false, true, [["a"], ["b"]], [], ["USD"], []⟩
def esU : List PriceEntry := [⟨1, "USD", Dec.ofInt 3, "EUR"⟩]

theorem usd_loads : loadText utc lax0 usdText = .ok ([tU], stU) := by
  have h : acceptText utc lax0 usdText = .ok ([tU], stU) := by
    unfold usdText
    rw [String.toList_ofList]
    decide
  rw [load_of_acceptText utc lax0 stU usdText [tU] h]
  unfold sortTxns
  rw [List.mergeSort_of_pairwise (by decide)]

theorem usd_db : loadDb esU = esU := by
  simp [loadDb, esU, dedup, dedupFrom]

theorem usd_used : usedCommodities [tU] "EUR" = ["USD"] := by
  simp [usedCommodities, tU, btreeSet, List.mergeSort, List.eraseDups]
  decide

theorem usd_ctx : reportCtx .lastPrice (some "EUR") (loadDb esU) [tU] = ⟨.fixed [("USD", (1, Dec.ofInt 3))], some "EUR"⟩ := by
  have hc : fixedCache ["USD"] "EUR" none esU = [("USD", (1, Dec.ofInt 3))] := by decide
  simp only [reportCtx, makeCtx, usd_db, usd_used, hc]

def balU : Balance := ⟨[⟨["a"], "EUR", ⟨false, 6, 0⟩, ⟨false, 6, 0⟩⟩, ⟨["b"], "EUR", ⟨true, 6, 0⟩, ⟨true, 6, 0⟩⟩],
  [("EUR", ⟨false, 0, 0⟩)]⟩

/-- the converted balance of the loaded text is inside the exact domain: 2 USD × 3 = 6 EUR -/
theorem usd_balanceConv : balanceConv stU (fun _ => true) .lastPrice (some "EUR") (loadDb esU) [tU] = .ok balU := by
  have hcv : convertedPosts ⟨.fixed [("USD", (1, Dec.ofInt 3))], some "EUR"⟩ [tU]
      = .ok [⟨["a"], "EUR", ⟨false, 6, 0⟩⟩, ⟨["b"], "EUR", ⟨true, 6, 0⟩⟩] := by decide
  unfold balanceConv balanceOfConv
  rw [usd_ctx, hcv]
  rw [Outcome.bind, fromIter, C02.balance_of_steps (bal := balU.rows) (by decide) rfl rfl rfl (by decide)]
  rfl

/-- `text_priced_balance` on it: the row of `a` shows 6 EUR = 2 × 3, the rate `RateAt` names for USD → EUR -/
example : ∀ row ∈ balU.rows, row.own.units * C07b.E28 =
    C07b.ratedSum (C07b.rcache .lastPrice "EUR" (loadDb esU) [tU]) "EUR" (C07b.pairsOf [tU]) row.key
      + C07b.plainSum (C07b.rcache .lastPrice "EUR" (loadDb esU) [tU]) "EUR" (C07b.pairsOf [tU]) row.key * C07b.E28 := by
  obtain ⟨⟨cps, _, _, _, hrows⟩, _, _⟩ := text_priced_balance utc lax0 stU usdText [tU] usd_loads [tU] (sel_all _) stU
    (fun _ => true) esU "EUR" .lastPrice (by simp) balU usd_balanceConv
  exact fun row hrow => (hrows row hrow).2.2.1

end Ex

end E2E
end Tackler
