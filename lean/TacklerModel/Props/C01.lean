import TacklerModel.Lemmas.Order
import TacklerModel.Lemmas.Accept
/-!
# C01 — accepted transactions are balanced in one commodity; others are rejected

Property theorems over the acceptor of `Model/Accept.lean` (the transliteration of
`handle_posting_value`, `Posting::from`, `parse_txn_postings`, `parse_txn`, `Transaction::from`).
All statements quantify over every settings state, every parse tree, every number.
`RawWF r` is the representation invariant of parsed numbers (`scale ≤ 28`), which
`Dec.ofToken` establishes (`ofToken_wf`).  A result that is not exactly representable is never `.ok` in the
model (`Outcome.inexact`: `.err` where the code reports an overflow, else `.undef`, DESIGN.md F17), so `= .ok`
hypotheses say that the arithmetic was exact.

* `accept_balanced`, `foreign_posting_priced`, `implicit_last` – accepted transactions, through the inversions
  `handlePosting_posting`, `acceptTxn_balanced` (`Lemmas/Accept.lean`) and `acceptPostings_shape`
* `reject_*` (five) – each class of rejection
* `journal_all_or_nothing`, `journal_rejects`, `load_perm` – whole journals
-/

namespace Tackler

namespace C01

/-! ### definitions -/

/-- the property's notion of a balanced transaction -/
def Balanced (t : Txn) : Prop := ∃ c,
  (∀ p ∈ t.posts, p.amount.units ≠ 0 ∧ p.txnComm = c ∧ (p.comm = c → p.txnAmount = p.amount)) ∧
  (t.posts.map (·.txnAmount.units)).sum = 0

/-- a posting not denominated in the transaction commodity carries a closing price into it -/
def Priced (rp : RawPosting) (p : Posting) : Prop :=
  ∃ u, rp.unit = some u ∧ u.comm = p.comm ∧
    ((∃ v, u.closing = some (.unitPrice v) ∧ v.comm = p.txnComm ∧ v.value.isNeg = false ∧
           p.txnAmount.units * (10:Int)^28 = p.amount.units * v.value.units) ∨
     (∃ v, u.closing = some (.total v) ∧ v.comm = p.txnComm ∧ p.txnAmount = v.value ∧ p.isTotal = true))

def valScaleOk : Option Val → Prop
  | some v => v.value.scale ≤ 28
  | none => True

def closingScaleOk : Option Closing → Prop
  | some (.unitPrice v) => v.value.scale ≤ 28
  | some (.total v) => v.value.scale ≤ 28
  | none => True

def RawPostingWF (rp : RawPosting) : Prop :=
  rp.amount.scale ≤ 28 ∧ (match rp.unit with
    | some u => closingScaleOk u.closing
    | none => True)

def RawWF (r : RawTxn) : Prop := ∀ rp ∈ r.posts, RawPostingWF rp

/-! ### parsed numbers are well-formed -/

theorem ofToken_wf (neg : Bool) (ip fp : List Char) (d : Dec) (h : Dec.ofToken neg ip fp = some d) :
    d.WF := by
  unfold Dec.ofToken at h
  simp only at h
  split at h
  · cases h
  · split at h
    · cases h
    · cases h
      constructor
      · simp; omega
      · simp; omega

/-! ### one posting -/

theorem valuePosition_spec (amount : Dec) (unit : Option PostUnit) (vp : VP)
    (h : valuePosition amount unit = .ok vp) :
    vp.postAmount = amount ∧
    ((vp.postComm = vp.txnComm ∧ vp.txnAmount = amount) ∨
     (vp.postComm ≠ vp.txnComm ∧ ∃ u, unit = some u ∧ u.comm = vp.postComm ∧
       ((∃ v, u.closing = some (.unitPrice v) ∧ v.comm = vp.txnComm ∧ v.value.isNeg = false ∧
           Dec.mul amount v.value = some vp.txnAmount) ∨
        (∃ v, u.closing = some (.total v) ∧ v.comm = vp.txnComm ∧ vp.txnAmount = v.value ∧ vp.isTotal = true)))) := by
  unfold valuePosition at h
  split at h
  · cases h; simp
  · rename_i u
    split at h
    · split at h
      · cases h
      · cases h; simp
    · rename_i v hcl
      split at h
      · cases h
      · rename_i hne
        split at h
        · cases h
        · split at h
          · cases h
          · cases h
            refine ⟨rfl, .inr ⟨hne, u, rfl, rfl, .inr ⟨v, hcl, rfl, rfl, rfl⟩⟩⟩
    · rename_i v hcl
      split at h
      · cases h
      · rename_i hne
        split at h
        · cases h
        · split at h
          · cases h
          · rename_i hneg
            split at h
            · rename_i t ht
              cases h
              refine ⟨rfl, .inr ⟨hne, u, rfl, rfl, .inl ⟨v, hcl, rfl, by simpa using hneg, ht⟩⟩⟩
            · exact absurd h (Outcome.inexact_ne_ok _ _)   -- `checked_mul` / `checked_add`

theorem valuePosition_scale (amount : Dec) (unit : Option PostUnit) (vp : VP)
    (ha : amount.scale ≤ 28)
    (hu : match unit with | some u => closingScaleOk u.closing | none => True)
    (h : valuePosition amount unit = .ok vp) : vp.txnAmount.scale ≤ 28 := by
  have hs := valuePosition_spec amount unit vp h
  rcases hs.2 with ⟨_, he⟩ | ⟨_, u, hu', _, hcase⟩
  · rw [he]; exact ha
  · subst hu'
    rcases hcase with ⟨v, hcl, _, _, hm⟩ | ⟨v, hcl, _, he, _⟩
    · exact (Dec.mul_units _ _ _ hm).2
    · rw [he]; simp only [hcl, closingScaleOk] at hu; exact hu

/-- what `handlePosting` yields for one value-carrying posting -/
structure GoodPosting (rp : RawPosting) (p : Posting) : Prop where
  acct : p.acct = rp.acct
  amount : p.amount = rp.amount
  nonzero : p.amount.units ≠ 0
  value : (p.comm = p.txnComm ∧ p.txnAmount = p.amount) ∨ (p.comm ≠ p.txnComm ∧ Priced rp p)
  comment : p.comment = rp.comment

theorem handlePosting_good (st st' : Settings) (rp : RawPosting) (p : Posting)
    (h : handlePosting st rp = .ok (p, st')) : GoodPosting rp p := by
  obtain ⟨vp, hvp, hnz, rfl⟩ := handlePosting_posting st st' rp p h
  have hs := valuePosition_spec _ _ _ hvp
  refine ⟨rfl, hs.1, hnz, ?_, rfl⟩
  rcases hs.2 with ⟨hc, he⟩ | ⟨hne, u, hu, huc, hcase⟩
  · exact .inl ⟨hc, by simp [he, hs.1]⟩
  · refine .inr ⟨hne, u, hu, huc, ?_⟩
    rcases hcase with ⟨v, hcl, hvc, hneg, hm⟩ | ⟨v, hcl, hvc, he, ht⟩
    · exact .inl ⟨v, hcl, hvc, hneg, by simpa [hs.1] using (Dec.mul_units _ _ _ hm).1⟩
    · exact .inr ⟨v, hcl, hvc, he, ht⟩

theorem handlePosting_scale (st st' : Settings) (rp : RawPosting) (p : Posting) (hwf : RawPostingWF rp)
    (h : handlePosting st rp = .ok (p, st')) : p.txnAmount.scale ≤ 28 := by
  obtain ⟨vp, hvp, _, rfl⟩ := handlePosting_posting st st' rp p h
  exact valuePosition_scale _ _ _ hwf.1 hwf.2 hvp

/-! ### the postings of a transaction -/

theorem txnSum_units (ps : List Posting) (s : Dec) (hwf : ∀ p ∈ ps, p.txnAmount.scale ≤ 28)
    (h : txnSum ps = some s) : s.units = (ps.map (·.txnAmount.units)).sum ∧ s.scale ≤ 28 := by
  unfold txnSum at h
  have := Dec.sum_units (ps.map (·.txnAmount)) s (by
    intro d hd
    obtain ⟨p, hp, rfl⟩ := List.mem_map.mp hd
    exact hwf p hp) h
  simpa [List.map_map, Function.comp_def] using this

/-- shape of the accepted posting list: the value-carrying postings in order, then (if written) the
    implicit last posting with the negated sum in the first posting's transaction commodity -/
theorem acceptPostings_shape (st st' : Settings) (r : RawTxn) (hwf : RawWF r) (all : List Posting)
    (h : acceptPostings st r.posts r.last = .ok (all, st')) :
    ∃ p0 rest, (∀ q ∈ p0 :: rest, (∃ rp ∈ r.posts, GoodPosting rp q) ∧ q.txnAmount.scale ≤ 28) ∧
      (p0 :: rest).length = r.posts.length ∧
      ((r.last = none ∧ all = p0 :: rest) ∨
       (∃ a cmt l, r.last = some (a, cmt) ∧ all = (p0 :: rest) ++ [l] ∧ l.acct = a ∧ l.comment = cmt ∧
          l.comm = p0.txnComm ∧ l.txnComm = p0.txnComm ∧ l.txnAmount = l.amount ∧ l.isTotal = false ∧
          l.amount.units = - ((p0 :: rest).map (·.txnAmount.units)).sum ∧ l.amount.units ≠ 0 ∧
          l.amount.scale ≤ 28)) := by
  obtain ⟨p0, rest, st1, hps, hcase⟩ := (acceptPostings_ok ..).mp h
  have hgood : ∀ q ∈ p0 :: rest, (∃ rp ∈ r.posts, GoodPosting rp q) ∧ q.txnAmount.scale ≤ 28 := by
    intro q hq
    obtain ⟨rp, hrp, s1, s2, hf⟩ := mapMS_ok handlePosting r.posts st st1 _ hps q hq
    exact ⟨⟨rp, hrp, handlePosting_good _ _ _ _ hf⟩, handlePosting_scale _ _ _ _ (hwf rp hrp) hf⟩
  refine ⟨p0, rest, hgood, mapMS_length handlePosting r.posts st st1 _ hps, ?_⟩
  rcases hcase with ⟨hl, rfl, _⟩ | ⟨a, cmt, s, a', l, hl, hs, hacct, hq, rfl⟩
  · exact .inl ⟨hl, rfl⟩
  · obtain ⟨rfl, hnz⟩ := mkPosting_ok _ _ hq
    have hsum := txnSum_units (p0 :: rest) s (fun q hq => (hgood q hq).2) hs
    refine .inr ⟨a, cmt, _, hl, rfl, gocta_acct _ _ _ _ _ hacct, rfl, rfl, rfl, rfl, rfl, ?_, hnz, ?_⟩
    · simp only [Dec.negate_units]; rw [hsum.1]
    · simpa using hsum.2

/-! ### property theorems -/

/-- **C01, main theorem.** Every accepted transaction is balanced in a single transaction
    commodity: non-zero postings, one transaction commodity, own-commodity postings valued at their
    amount, values summing to exactly zero. -/
theorem accept_balanced (st st' : Settings) (r : RawTxn) (t : Txn) (hwf : RawWF r)
    (h : acceptTxn st r = .ok (t, st')) : Balanced t := by
  obtain ⟨st1, s, _, hps, hcomm, hs, hz⟩ := acceptTxn_balanced st st' r t h
  obtain ⟨p0, rest, hgood, _, hshape⟩ := acceptPostings_shape st1 st' r hwf t.posts hps
  -- every posting is non-zero, consistent and has a bounded scale
  have hmain : ∀ q ∈ p0 :: rest, q.amount.units ≠ 0 ∧ (q.comm = q.txnComm → q.txnAmount = q.amount) ∧
      q.txnAmount.scale ≤ 28 := by
    intro q hq
    obtain ⟨⟨rp, _, hg⟩, hsc⟩ := hgood q hq
    refine ⟨hg.nonzero, ?_, hsc⟩
    intro hc
    rcases hg.value with ⟨_, he⟩ | ⟨hne, _⟩
    · exact he
    · exact absurd hc hne
  have hall : ∀ q ∈ t.posts, q.amount.units ≠ 0 ∧ (q.comm = q.txnComm → q.txnAmount = q.amount) ∧
      q.txnAmount.scale ≤ 28 := by
    intro q hq
    rcases hshape with ⟨_, hps'⟩ | ⟨a, cmt, l, _, hps', _, _, hlc, hltc, hla, _, _, hlnz, hlsc⟩
    · exact hmain q (hps' ▸ hq)
    · rw [hps'] at hq
      rcases List.mem_append.mp hq with hq | hq
      · exact hmain q hq
      · simp at hq; subst hq
        exact ⟨hlnz, fun _ => hla, by rw [hla]; exact hlsc⟩
  obtain ⟨q0, hq0⟩ : ∃ q0, q0 ∈ t.posts := by
    rcases hshape with ⟨_, hps'⟩ | ⟨_, _, _, _, hps', _⟩ <;> exact ⟨p0, by simp [hps']⟩
  refine ⟨q0.txnComm, fun p hp => ⟨(hall p hp).1, hcomm p hp q0 hq0, fun hpc => ?_⟩, ?_⟩
  · exact (hall p hp).2.1 (hpc.trans (hcomm p hp q0 hq0).symm)
  · rw [← (txnSum_units t.posts s (fun q hq => (hall q hq).2.2) hs).1]
    exact Dec.units_zero s hz

/-- **C01.** A posting that is not denominated in the transaction commodity carries a closing
    price (`@` unit price, never negative, or `=` total) into it, and is valued by that price. -/
theorem foreign_posting_priced (st st' : Settings) (r : RawTxn) (t : Txn) (hwf : RawWF r)
    (h : acceptTxn st r = .ok (t, st')) :
    ∀ p ∈ t.posts, p.comm ≠ p.txnComm → ∃ rp ∈ r.posts, rp.acct = p.acct ∧ rp.amount = p.amount ∧ Priced rp p := by
  obtain ⟨st1, _, _, hps, _⟩ := acceptTxn_balanced st st' r t h
  obtain ⟨p0, rest, hgood, _, hshape⟩ := acceptPostings_shape st1 st' r hwf t.posts hps
  intro p hp hne
  have hmain : ∀ q ∈ p0 :: rest, q.comm ≠ q.txnComm →
      ∃ rp ∈ r.posts, rp.acct = q.acct ∧ rp.amount = q.amount ∧ Priced rp q := by
    intro q hq hne
    obtain ⟨⟨rp, hrp, hg⟩, _⟩ := hgood q hq
    rcases hg.value with ⟨hc, _⟩ | ⟨_, hpr⟩
    · exact absurd hc hne
    · exact ⟨rp, hrp, hg.acct.symm, hg.amount.symm, hpr⟩
  rcases hshape with ⟨_, hps'⟩ | ⟨a, cmt, l, _, hps', _, _, hlc, hltc, _⟩
  · exact hmain p (hps' ▸ hp) hne
  · rw [hps'] at hp
    rcases List.mem_append.mp hp with hp | hp
    · exact hmain p hp hne
    · simp at hp; subst hp
      exact absurd (hlc.trans hltc.symm) hne

/-- **C01.** An amount-less last posting receives exactly the negated sum of the others, in the
    transaction commodity, and that amount is not zero. -/
theorem implicit_last (st st' : Settings) (r : RawTxn) (t : Txn) (hwf : RawWF r) (a : Path) (cmt : Option String)
    (hl : r.last = some (a, cmt)) (h : acceptTxn st r = .ok (t, st')) :
    ∃ others l, t.posts = others ++ [l] ∧ others.length = r.posts.length ∧ l.acct = a ∧
      l.comm = l.txnComm ∧ (∀ p ∈ others, p.txnComm = l.txnComm) ∧
      l.amount.units = - (others.map (·.txnAmount.units)).sum ∧ l.amount.units ≠ 0 := by
  obtain ⟨st1, _, _, hps, hcomm, _⟩ := acceptTxn_balanced st st' r t h
  obtain ⟨p0, rest, _, hlen, hshape⟩ := acceptPostings_shape st1 st' r hwf t.posts hps
  rcases hshape with ⟨hn, _⟩ | ⟨a', cmt', l, hl', hall, hla, _, hlc, hltc, _, _, hsum, hnz, _⟩
  · rw [hl] at hn; cases hn
  · rw [hl] at hl'; cases hl'
    refine ⟨p0 :: rest, l, hall, hlen, hla, hlc.trans hltc.symm, fun p hp => ?_, hsum, hnz⟩
    exact hcomm p (by rw [hall]; exact List.mem_append_left _ hp) l (by rw [hall]; simp)

/-! ### rejections (each class of the property statement) -/

/-- an element that `f` never accepts keeps `mapMS f` from succeeding -/
theorem mapMS_not_ok_of_mem {σ α β} (f : σ → α → Outcome (β × σ)) :
    ∀ (l : List α) (s : σ) (a : α), a ∈ l → (∀ s', f s' a = .err ∨ f s' a = .undef) →
      mapMS f s l = .err ∨ mapMS f s l = .undef := by
  intro l
  induction l with
  | nil => intro s a h; cases h
  | cons x t ih =>
    intro s a ha hf
    simp only [mapMS]
    rcases List.mem_cons.mp ha with rfl | ha'
    · rcases hf s with h | h <;> simp [h]
    · split
      · rename_i b s' _
        rcases ih s' a ha' hf with h | h <;> simp [h]
      · exact .inl rfl
      · exact .inr rfl

theorem acceptTxn_not_ok_of_posting (st : Settings) (r : RawTxn) (rp : RawPosting) (hrp : rp ∈ r.posts)
    (hbad : ∀ s, handlePosting s rp = .err ∨ handlePosting s rp = .undef) :
    ∀ t st', acceptTxn st r ≠ .ok (t, st') := by
  intro t st' h
  unfold acceptTxn at h
  split at h
  · cases h
  · cases h
  · rename_i st1 _
    have hm := mapMS_not_ok_of_mem handlePosting r.posts st1 rp hrp hbad
    unfold acceptPostings at h
    rcases hm with hm | hm <;> simp [hm] at h

theorem handlePosting_bad_of_value (rp : RawPosting)
    (hv : valuePosition rp.amount rp.unit = .err) :
    ∀ s, handlePosting s rp = .err ∨ handlePosting s rp = .undef := by
  intro s
  unfold handlePosting
  split
  · exact .inl rfl
  · exact .inr rfl
  · simp [hv]

/-- a zero-amount posting (written `0`, `0.00`, `-0`, …) is rejected -/
theorem reject_zero_posting (st : Settings) (r : RawTxn) (rp : RawPosting) (hrp : rp ∈ r.posts)
    (hz : rp.amount.isZero = true) : ∀ t st', acceptTxn st r ≠ .ok (t, st') := by
  apply acceptTxn_not_ok_of_posting st r rp hrp
  intro s
  unfold handlePosting
  split
  · exact .inl rfl
  · exact .inr rfl
  · split
    · exact .inl rfl
    · exact .inr rfl
    · rename_i vp hvp
      have := (valuePosition_spec _ _ _ hvp).1
      split
      · exact .inl rfl
      · exact .inr rfl
      · simp [mkPosting, this, hz, Outcome.map]

theorem reject_price_same_commodity (st : Settings) (r : RawTxn) (rp : RawPosting) (hrp : rp ∈ r.posts)
    (u : PostUnit) (cl : Closing) (hu : rp.unit = some u) (hcl : u.closing = some cl)
    (hsame : (match cl with | .unitPrice v => v.comm | .total v => v.comm) = u.comm) :
    ∀ t st', acceptTxn st r ≠ .ok (t, st') := by
  apply acceptTxn_not_ok_of_posting st r rp hrp
  apply handlePosting_bad_of_value
  unfold valuePosition
  rw [hu]
  cases cl <;> simp_all

theorem reject_negative_unit_price (st : Settings) (r : RawTxn) (rp : RawPosting) (hrp : rp ∈ r.posts)
    (u : PostUnit) (v : Val) (hu : rp.unit = some u) (hcl : u.closing = some (.unitPrice v))
    (hneg : v.value.isNeg = true) : ∀ t st', acceptTxn st r ≠ .ok (t, st') := by
  apply acceptTxn_not_ok_of_posting st r rp hrp
  apply handlePosting_bad_of_value
  unfold valuePosition
  rw [hu]
  simp only [hcl]
  split <;> simp_all

theorem reject_total_price_sign (st : Settings) (r : RawTxn) (rp : RawPosting) (hrp : rp ∈ r.posts)
    (u : PostUnit) (v : Val) (hu : rp.unit = some u) (hcl : u.closing = some (.total v))
    (hsign : v.value.isNeg ≠ rp.amount.isNeg) : ∀ t st', acceptTxn st r ≠ .ok (t, st') := by
  apply acceptTxn_not_ok_of_posting st r rp hrp
  apply handlePosting_bad_of_value
  unfold valuePosition
  rw [hu]
  simp only [hcl]
  have : (v.value.isNeg && rp.amount.isPos || rp.amount.isNeg && v.value.isPos) = true := by
    simp only [Dec.isPos, Dec.isNeg] at *
    cases h1 : v.value.neg <;> cases h2 : rp.amount.neg <;> simp_all
  split <;> simp_all

/-- postings whose transaction commodities differ (no closing price between them) are rejected,
    and so is a transaction whose values do not sum to zero: contrapositive form of `accept_balanced`
    stated on the accepted posting list -/
theorem reject_unbalanced_or_mixed (st st' : Settings) (r : RawTxn) (hwf : RawWF r) (ps : List Posting)
    (hps : acceptPostings st r.posts r.last = .ok (ps, st'))
    (hbad : (∃ p ∈ ps, ∃ q ∈ ps, p.txnComm ≠ q.txnComm) ∨ (ps.map (·.txnAmount.units)).sum ≠ 0)
    (hhdr : acceptHeader st0 r.header = .ok st) :
    ∀ t st'', acceptTxn st0 r ≠ .ok (t, st'') := by
  intro t st'' h
  obtain ⟨c, hc, hsum⟩ := accept_balanced st0 st'' r t hwf h
  obtain ⟨st1, _, hhdr', hps', _⟩ := acceptTxn_balanced st0 st'' r t h
  rw [hhdr] at hhdr'; cases hhdr'
  rw [hps] at hps'; cases hps'
  rcases hbad with ⟨p, hp, q, hq, hne⟩ | hne
  · exact hne (((hc p hp).2.1).trans ((hc q hq).2.1).symm)
  · exact hne hsum

/-! ### whole journals: every transaction or nothing -/

theorem journal_all_or_nothing (st st' : Settings) (rs : List RawTxn) (ts : List Txn)
    (hwf : ∀ r ∈ rs, RawWF r) (h : acceptJournal st rs = .ok (ts, st')) :
    ts.length = rs.length ∧ ∀ t ∈ ts, Balanced t := by
  unfold acceptJournal at h
  refine ⟨mapMS_length _ _ _ _ _ h, ?_⟩
  intro t ht
  obtain ⟨r, hr, s1, s2, hf⟩ := mapMS_ok acceptTxn rs st st' ts h t ht
  exact accept_balanced s1 s2 r t (hwf r hr) hf

/-- one transaction that cannot be accepted (in whatever settings state it is reached) rejects the
    whole journal: nothing is loaded -/
theorem journal_rejects (st : Settings) (rs : List RawTxn) (r : RawTxn) (hr : r ∈ rs)
    (hbad : ∀ s, acceptTxn s r = .err ∨ acceptTxn s r = .undef) :
    ∀ ts st', acceptJournal st rs ≠ .ok (ts, st') := by
  intro ts st' h
  unfold acceptJournal at h
  rcases mapMS_not_ok_of_mem acceptTxn rs st r hr hbad with hm | hm <;> simp [hm] at h

theorem load_perm (st st' : Settings) (rs : List RawTxn) (ts : List Txn)
    (h : loadJournal st rs = .ok (ts, st')) :
    ∃ ts0, acceptJournal st rs = .ok (ts0, st') ∧ ts.Perm ts0 := by
  obtain ⟨ts0, h0, rfl⟩ := loadJournal_some h
  exact ⟨ts0, h0, sortTxns_perm ts0⟩

/-! ### non-vacuity: concrete journals meeting the hypotheses -/

def d (n : Int) : Dec := Dec.ofInt n

def lax : Settings := Settings.ofConfig false false true [] [] []

def hdr0 : Header := ⟨⟨0, 0⟩, none, none, none, none, none, none⟩

/-- ` a 2 ACME @ 3 EUR / b` is accepted with implicit `b -6 EUR` -/
example : ∃ t st', acceptTxn lax ⟨hdr0, [⟨["a"], d 2, some ⟨"ACME", none, some (.unitPrice ⟨d 3, "EUR"⟩)⟩, none⟩],
      some (["b"], none)⟩ = .ok (t, st') ∧
    t.posts.map (fun p => (p.acct, p.amount, p.txnComm)) = [(["a"], d 2, "EUR"), (["b"], d (-6), "EUR")] := by
  refine ⟨_, _, rfl, ?_⟩; decide

/-- witnesses of F1 and F2: both are rejected -/
example : acceptTxn lax ⟨hdr0, [⟨["a"], d 1, none, none⟩, ⟨["b"], d (-1), none, none⟩], some (["c"], none)⟩ = .err := by
  decide

example : acceptTxn lax ⟨hdr0, [⟨["a"], d 1, some ⟨"ACME", some ⟨d 120, "EUR"⟩, none⟩, none⟩,
    ⟨["b"], d (-1), none, none⟩], none⟩ = .err := by decide

example : RawWF ⟨hdr0, [⟨["a"], d 1, none, none⟩], none⟩ := by
  intro rp h; simp at h; subst h; simp [RawPostingWF, d, Dec.ofInt]

end C01

end Tackler
