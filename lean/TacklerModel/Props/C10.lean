import TacklerModel.Model.Equity
import TacklerModel.Props.C01
import TacklerModel.Lemmas.Equity
/-!
# C10 — equity export carries every selected balance forward exactly

Property theorems over `equityExport` of `Model/Equity.lean` (the transliteration of
`EquityExporter::write_export`).  All statements quantify over every settings state, every accepted
transaction list (the selected set, in `TxnSet` order), every account pattern predicate, every equity
account and every metadata comment text.  The exact numeric domain is "the model returned `.ok`"
(an unrepresentable sum is never `.ok`).  `TxnsWF` is the representation invariant of parsed numbers
(`scale ≤ 28`, established by `Dec.ofToken`, `C01.ofToken_wf`).

* `equity_shape` – one transaction per commodity with a selected non-zero row: those rows, then the balancing posting
* `equity_accepts`, `equity_reparse` – the generated parse trees are accepted, balanced, and load to the generated postings
* `equity_carries` – own sums survive export and re-load, unless the equity account is itself selected
* `equity_empty`, `equity_no_txns`, `last_exists` – nothing is written iff no row is selected
* `export_j1_sel`, `export_j1_all` – two concrete exports (balancing posting; WARNING block)
-/
namespace Tackler
namespace C10

open EqL

/-! ### definitions -/

/-- representation invariant of accepted amounts -/
def TxnsWF (txns : List Txn) : Prop := ∀ t ∈ txns, ∀ p ∈ t.posts, p.amount.scale ≤ 28

/-- lax, non-audit settings that permit the empty commodity (how an equity export is read back) -/
def Lax (st : Settings) : Prop := st.strict = false ∧ st.audit = false ∧ st.permitEmpty = true

/-- the rows the export is about: selected by the account patterns, own sum not zero -/
def selRows (acc : Option (Path → Bool)) (all : List BalRow) : List BalRow := all.filter (nonZeroSel acc)

/-- plain specification of an own sum: Σ of the amounts of the postings of (commodity, account) -/
def ownSpec (posts : List BPost) (k : AKey) : Int :=
  ((posts.filter (fun p => decide (p.key = k))).map (·.amount.units)).sum

/-- the accepted posting a generated posting line denotes -/
def toPosting (p : EqPosting) : Posting := ⟨p.acct, p.comm, p.amount, p.amount, false, p.comm, none⟩

/-- the accepted transaction a generated transaction denotes -/
def toTxn (t : EqTxn) : Txn := ⟨t.toRaw.header, t.posts.map toPosting⟩

inductive Forall2 {α β} (R : α → β → Prop) : List α → List β → Prop
  | nil : Forall2 R [] []
  | cons {a b as bs} : R a b → Forall2 R as bs → Forall2 R (a :: as) (b :: bs)

/-- the equity transaction the property prescribes for commodity `c` over the selected rows `rows` -/
structure IsEquityTxn (eqa : Path) (last : Header) (md : List String) (rows : List BalRow) (c : String)
    (t : EqTxn) : Prop where
  ts : t.ts = last.ts
  desc : t.desc = eqDesc c last.uuid
  body : ∃ dsum : Dec,
    dsum.units = ((rows.filter (fun r => decide (r.comm = c))).map (·.own.units)).sum ∧
    t.comments = md ++ (if dsum.units = 0 then warningLines else []) ∧
    t.posts = (rows.filter (fun r => decide (r.comm = c))).map (fun r => ⟨r.acct, r.own, c⟩)
              ++ (if dsum.units = 0 then [] else [⟨eqa, dsum.negate, c⟩])

/-- what makes a generated transaction acceptable -/
structure GoodEq (t : EqTxn) : Prop where
  nonempty : t.posts ≠ []
  nonzero : ∀ p ∈ t.posts, p.amount.isZero = false
  comm : ∃ c, ∀ p ∈ t.posts, p.comm = c
  sum : ∃ z, Dec.sum (t.posts.map (·.amount)) = some z ∧ z.isZero = true

/-! ### reading a generated transaction back: `acceptTxn` under lax settings -/

theorem gocc_lax (st : Settings) (hl : Lax st) (c : String) :
    ∃ st', st.getOrCreateCommodity (some c) = .ok (c, st') ∧ Lax st' ∧ st'.accounts = st.accounts := by
  obtain ⟨h1, h2, h3⟩ := hl
  unfold Settings.getOrCreateCommodity
  by_cases hc : c = ""
  · subst hc
    simp only [if_true, h3]
    exact ⟨_, rfl, by simp [Lax, h1, h2], rfl⟩
  · simp only [hc, if_false, h1]
    by_cases hm : c ∈ st.commodities
    · simp only [hm, if_true]; exact ⟨_, rfl, ⟨h1, h2, h3⟩, rfl⟩
    · simp only [hm, if_false, Bool.false_eq_true]; exact ⟨_, rfl, by simp [Lax, h2, h3], rfl⟩

theorem gocta_lax (st : Settings) (hl : Lax st) (a : Path) (c : String) :
    ∃ st', st.getOrCreateTxnAccount a c = .ok (a, st') ∧ Lax st' := by
  obtain ⟨st1, h1, hl1, _⟩ := gocc_lax st hl c
  unfold Settings.getOrCreateTxnAccount
  rw [h1]
  obtain ⟨s1, s2, s3⟩ := hl1
  by_cases hm : a ∈ st1.accounts
  · simp only [hm, if_true, s1, Bool.false_eq_true, if_false]; exact ⟨_, rfl, by simp [Lax, s2, s3]⟩
  · simp only [hm, if_false, s1, Bool.false_eq_true]; exact ⟨_, rfl, by simp [Lax, s2, s3]⟩

theorem handlePosting_eq (st : Settings) (hl : Lax st) (p : EqPosting) (hnz : p.amount.isZero = false) :
    ∃ st', handlePosting st p.toRaw = .ok (toPosting p, st') ∧ Lax st' := by
  unfold handlePosting EqPosting.toRaw
  by_cases hc : p.comm = ""
  · simp only [hc, if_true, registerUnit, valuePosition]
    obtain ⟨st2, h2, hl2⟩ := gocta_lax st hl p.acct ""
    rw [h2]
    simp only [mkPosting, hnz, Bool.false_eq_true, if_false, Outcome.map]
    exact ⟨st2, by simp [toPosting, hc], hl2⟩
  · simp only [hc, if_false, registerUnit, valuePosition, openingNeg]
    obtain ⟨st1, h1, hl1, _⟩ := gocc_lax st hl p.comm
    rw [h1]
    simp only [Bool.false_eq_true, if_false]
    obtain ⟨st2, h2, hl2⟩ := gocta_lax st1 hl1 p.acct p.comm
    rw [h2]
    simp only [mkPosting, hnz, Bool.false_eq_true, if_false, Outcome.map]
    exact ⟨st2, by simp [toPosting], hl2⟩

theorem mapMS_handle : ∀ (posts : List EqPosting) (st : Settings), Lax st →
    (∀ p ∈ posts, p.amount.isZero = false) →
    ∃ st', mapMS handlePosting st (posts.map EqPosting.toRaw) = .ok (posts.map toPosting, st') ∧ Lax st' := by
  intro posts
  induction posts with
  | nil => intro st hl _; exact ⟨st, rfl, hl⟩
  | cons p rest ih =>
    intro st hl hnz
    obtain ⟨st1, h1, hl1⟩ := handlePosting_eq st hl p (hnz p List.mem_cons_self)
    obtain ⟨st2, h2, hl2⟩ := ih st1 hl1 (fun q hq => hnz q (List.mem_cons_of_mem _ hq))
    refine ⟨st2, ?_, hl2⟩
    simp only [List.map_cons, mapMS, h1, h2]

theorem acceptHeader_eq (st : Settings) (hl : Lax st) (t : EqTxn) : acceptHeader st t.toRaw.header = .ok st := by
  simp [acceptHeader, EqTxn.toRaw, hl.2.1]

theorem any_txnComm (ps : List EqPosting) (c c0 : String) (h : ∀ p ∈ ps, p.comm = c) (h0 : c0 = c) :
    (ps.map toPosting).any (fun p => p.txnComm != c0) = false := by
  simp only [List.any_eq_false, List.mem_map]
  rintro q ⟨p, hp, rfl⟩
  simp [toPosting, h p hp, h0]

theorem accept_good (st : Settings) (hl : Lax st) (t : EqTxn) (hg : GoodEq t) :
    ∃ st', acceptTxn st t.toRaw = .ok (toTxn t, st') ∧ Lax st' := by
  obtain ⟨hne, hnz, ⟨c, hc⟩, ⟨z, hz, hzz⟩⟩ := hg
  obtain ⟨st1, h1, hl1⟩ := mapMS_handle t.posts st hl hnz
  unfold acceptTxn
  rw [acceptHeader_eq st hl t]
  have hposts : t.toRaw.posts = t.posts.map EqPosting.toRaw := rfl
  have hlast : t.toRaw.last = none := rfl
  obtain ⟨p0, rest, hp⟩ := List.exists_cons_of_ne_nil hne
  have hps : t.posts.map toPosting = toPosting p0 :: rest.map toPosting := by rw [hp]; rfl
  have hacc : acceptPostings st t.toRaw.posts t.toRaw.last = .ok (t.posts.map toPosting, st1) := by
    unfold acceptPostings
    rw [hposts, hlast, h1, hps]
  simp only [hacc]
  rw [hps]
  simp only
  have hany : (toPosting p0 :: rest.map toPosting).any (fun p => p.txnComm != (toPosting p0).txnComm) = false := by
    rw [← hps]
    exact any_txnComm t.posts c _ hc (by simp [toPosting, hc p0 (by rw [hp]; exact List.mem_cons_self)])
  rw [hany]
  have hsum : txnSum (toPosting p0 :: rest.map toPosting) = some z := by
    rw [← hps]
    unfold txnSum
    rw [List.map_map]
    exact hz
  simp only [Bool.false_eq_true, if_false, hsum, hzz, if_true]
  exact ⟨st1, by simp [toTxn, hps], hl1⟩

/-! ### what `equityExport` returned -/

theorem postsOf_wf (txns : List Txn) (hwf : TxnsWF txns) : ∀ p ∈ postsOf txns, p.amount.scale ≤ 28 := by
  intro p hp
  simp only [postsOf, List.mem_flatMap, List.mem_map] at hp
  obtain ⟨t, ht, q, hq, rfl⟩ := hp
  exact hwf t ht q hq

theorem nonZeroSel_nonzero (acc : Option (Path → Bool)) (r : BalRow) (h : nonZeroSel acc r = true) :
    r.own.isZero = false := by
  unfold nonZeroSel at h
  split at h
  · simpa using h
  · simp only [Bool.and_eq_true, Bool.not_eq_true'] at h; exact h.1

/-- inversion of `write_export`: the balance of the set exists; nothing is written when no row is selected,
    otherwise the last transaction exists and every commodity chunk of the selected rows yields its transaction -/
theorem export_inv (st : Settings) (acc : Option (Path → Bool)) (eqa : Path) (md : List String) (txns : List Txn)
    (out : List EqTxn) (h : equityExport st acc eqa md txns = .ok out) :
    ∃ all, balance st (postsOf txns) = .ok all ∧
      ((selRows acc all = [] ∧ out = []) ∨
       (selRows acc all ≠ [] ∧ ∃ last, txns.getLast? = some last ∧
          eqTxns eqa last.header md (chunkBy (·.comm) (selRows acc all)) = some out)) := by
  unfold equityExport at h
  split at h
  · cases h
  · cases h
  · rename_i bal hb
    obtain ⟨all, _, hall, _, rfl⟩ := (C02.fromIter_ok _ _ _ _).mp hb
    refine ⟨all, hall, ?_⟩
    simp only at h
    split at h
    · rename_i he
      cases h
      exact .inl ⟨by simpa [selRows] using he, rfl⟩
    · rename_i he
      split at h
      · cases h
      · rename_i last hlast
        split at h
        · cases h
        · rename_i out' hout
          cases h
          exact .inr ⟨by simpa [selRows] using he, last, hlast, hout⟩

/-- the `None` arm of `last_txn` ("Internal logic error") is unreachable: a selected row implies a transaction -/
theorem last_exists (st : Settings) (acc : Option (Path → Bool)) (txns : List Txn) (all : List BalRow)
    (hall : balance st (postsOf txns) = .ok all) (hne : selRows acc all ≠ []) :
    ∃ last, txns.getLast? = some last := by
  cases hl : txns.getLast? with
  | some last => exact ⟨last, rfl⟩
  | none =>
    have : txns = [] := List.getLast?_eq_none_iff.mp hl
    subst this
    rw [show postsOf [] = [] from rfl, C02.balance_nil] at hall
    cases hall
    exact absurd rfl hne

theorem eqTxn_spec (eqa : Path) (last : Header) (md : List String) (c : String) (rows : List BalRow) (t : EqTxn)
    (h : eqTxn eqa last md c rows = some t) :
    ∃ dsum, Dec.sum (rows.map (·.own)) = some dsum ∧
      t = ⟨last.ts, eqDesc c last.uuid, md ++ warning dsum,
           rows.map (fun b => ⟨b.acct, b.own, b.comm⟩) ++ balancing eqa c dsum⟩ := by
  unfold eqTxn at h
  split at h
  · cases h
  · rename_i dsum hd
    cases h
    exact ⟨dsum, hd, rfl⟩

theorem eqTxns_cons_some {eqa : Path} {last : Header} {md : List String} {c : String} {g : List BalRow}
    {rest : List (String × List BalRow)} {out : List EqTxn} (h : eqTxns eqa last md ((c, g) :: rest) = some out) :
    ∃ t ts, eqTxn eqa last md c g = some t ∧ eqTxns eqa last md rest = some ts ∧ out = t :: ts := by
  simp only [eqTxns] at h
  split at h
  · cases h
  · rename_i t ht
    split at h
    · cases h
    · rename_i ts hts
      cases h
      exact ⟨t, ts, ht, hts, rfl⟩

theorem eqTxns_forall2 (eqa : Path) (last : Header) (md : List String) (R : String → EqTxn → Prop) :
    ∀ (gs : List (String × List BalRow)),
      (∀ kg ∈ gs, ∀ t, eqTxn eqa last md kg.1 kg.2 = some t → R kg.1 t) →
      ∀ out, eqTxns eqa last md gs = some out → Forall2 R (gs.map (·.1)) out := by
  intro gs
  induction gs with
  | nil => intro _ out h; simp [eqTxns] at h; subst h; exact .nil
  | cons kg rest ih =>
    intro hstep out h
    obtain ⟨t, ts, ht, hts, rfl⟩ := eqTxns_cons_some h
    exact .cons (hstep kg List.mem_cons_self t ht) (ih (fun kg hkg => hstep kg (List.mem_cons_of_mem _ hkg)) ts hts)

theorem eqTxns_mem (eqa : Path) (last : Header) (md : List String) :
    ∀ (gs : List (String × List BalRow)) (out : List EqTxn), eqTxns eqa last md gs = some out →
      ∀ t ∈ out, ∃ kg ∈ gs, eqTxn eqa last md kg.1 kg.2 = some t := by
  intro gs
  induction gs with
  | nil => intro out h t ht; simp [eqTxns] at h; subst h; cases ht
  | cons kg rest ih =>
    intro out h t ht
    obtain ⟨t0, ts, ht0, hts, rfl⟩ := eqTxns_cons_some h
    rcases List.mem_cons.mp ht with rfl | ht'
    · exact ⟨kg, List.mem_cons_self, ht0⟩
    · obtain ⟨kg', hkg, hk⟩ := ih ts hts t ht'
      exact ⟨kg', List.mem_cons_of_mem _ hkg, hk⟩

theorem mem_balancing {eqa : Path} {c : String} {dsum : Dec} {p : EqPosting} (h : p ∈ balancing eqa c dsum) :
    dsum.isZero = false ∧ p = ⟨eqa, dsum.negate, c⟩ := by
  unfold balancing at h
  split at h
  · cases h
  · exact ⟨by simpa using ‹¬ dsum.isZero = true›, List.mem_singleton.mp h⟩

theorem eqTxn_good (eqa : Path) (last : Header) (md : List String) (c : String) (rows : List BalRow) (t : EqTxn)
    (hne : rows ≠ []) (hnz : ∀ r ∈ rows, r.own.isZero = false) (hc : ∀ r ∈ rows, r.comm = c)
    (h : eqTxn eqa last md c rows = some t) : GoodEq t := by
  obtain ⟨dsum, hd, rfl⟩ := eqTxn_spec eqa last md c rows t h
  refine ⟨?_, ?_, ⟨c, ?_⟩, ?_⟩
  · simp [hne]
  · intro p hp
    simp only [List.mem_append, List.mem_map] at hp
    rcases hp with ⟨r, hr, rfl⟩ | hp
    · exact hnz r hr
    · obtain ⟨hz, rfl⟩ := mem_balancing hp
      simpa using hz
  · intro p hp
    simp only [List.mem_append, List.mem_map] at hp
    rcases hp with ⟨r, hr, rfl⟩ | hp
    · exact hc r hr
    · rw [(mem_balancing hp).2]
  · simp only [List.map_append, List.map_map]
    have e : (rows.map ((fun p : EqPosting => p.amount) ∘ fun b => (⟨b.acct, b.own, b.comm⟩ : EqPosting)))
        = rows.map (·.own) := by
      apply List.map_congr_left; intro r _; rfl
    rw [e]
    unfold balancing
    by_cases hz : dsum.isZero = true
    · simp only [hz, if_true, List.map_nil, List.append_nil]
      exact ⟨dsum, hd, hz⟩
    · have hz' : dsum.isZero = false := by simpa using hz
      simp only [hz', Bool.false_eq_true, if_false, List.map_cons, List.map_nil]
      unfold Dec.sum at hd ⊢
      rw [Dec.sumFrom_append, hd]
      exact Dec.add_negate dsum hz'

theorem mem_chunk_selRows {acc : Option (Path → Bool)} {all : List BalRow} {kg : String × List BalRow}
    (hkg : kg ∈ chunkBy (fun r : BalRow => r.comm) (selRows acc all)) {r : BalRow} (hr : r ∈ kg.2) :
    r ∈ all ∧ nonZeroSel acc r = true ∧ r.comm = kg.1 :=
  have h := List.mem_filter.mp (ChunkBy.chunk_subset _ _ kg hkg r hr)
  ⟨h.1, h.2, (ChunkBy.chunkBy_keys _ _ kg hkg).2 r hr⟩

theorem export_good (st : Settings) (acc : Option (Path → Bool)) (eqa : Path) (md : List String) (txns : List Txn)
    (out : List EqTxn) (h : equityExport st acc eqa md txns = .ok out) : ∀ t ∈ out, GoodEq t := by
  obtain ⟨all, _, hcase⟩ := export_inv st acc eqa md txns out h
  rcases hcase with ⟨_, rfl⟩ | ⟨_, last, _, hout⟩
  · intro t ht; cases ht
  · intro t ht
    obtain ⟨kg, hkg, hk⟩ := eqTxns_mem eqa last.header md _ out hout t ht
    exact eqTxn_good eqa last.header md kg.1 kg.2 t (ChunkBy.chunkBy_keys _ _ kg hkg).1
      (fun r hr => nonZeroSel_nonzero acc r (mem_chunk_selRows hkg hr).2.1) (fun r hr => (mem_chunk_selRows hkg hr).2.2) hk

/-! ### `equity_accepts` -/

theorem good_rawWF (t : EqTxn) (hs : ∀ p ∈ t.posts, p.amount.scale ≤ 28) : C01.RawWF t.toRaw := by
  intro rp hrp
  simp only [EqTxn.toRaw, List.mem_map] at hrp
  obtain ⟨p, hp, rfl⟩ := hrp
  refine ⟨hs p hp, ?_⟩
  unfold EqPosting.toRaw
  by_cases hc : p.comm = "" <;> simp [hc, C01.closingScaleOk]

theorem export_scale (st : Settings) (acc : Option (Path → Bool)) (eqa : Path) (md : List String) (txns : List Txn)
    (out : List EqTxn) (hwf : TxnsWF txns) (h : equityExport st acc eqa md txns = .ok out) :
    ∀ t ∈ out, ∀ p ∈ t.posts, p.amount.scale ≤ 28 := by
  obtain ⟨all, hall, hcase⟩ := export_inv st acc eqa md txns out h
  have hscale := balance_own_scale st (postsOf txns) all (postsOf_wf txns hwf) hall
  rcases hcase with ⟨_, rfl⟩ | ⟨_, last, _, hout⟩
  · intro t ht; cases ht
  · intro t ht p hp
    obtain ⟨kg, hkg, hk⟩ := eqTxns_mem eqa last.header md _ out hout t ht
    have hrows : ∀ r ∈ kg.2, r.own.scale ≤ 28 := fun r hr => hscale r (mem_chunk_selRows hkg hr).1
    obtain ⟨dsum, hd, rfl⟩ := eqTxn_spec eqa last.header md kg.1 kg.2 t hk
    simp only [List.mem_append, List.mem_map] at hp
    rcases hp with ⟨r, hr, rfl⟩ | hp
    · exact hrows r hr
    · rw [(mem_balancing hp).2]
      have := (Dec.sum_units _ dsum (by
        intro d hd'; simp only [List.mem_map] at hd'; obtain ⟨r, hr, rfl⟩ := hd'; exact hrows r hr) hd).2
      simpa using this

/-- **equity_accepts**: every generated transaction, fed as a parse tree to `acceptTxn` under lax non-audit
    settings, is accepted with exactly its postings, and the accepted transaction is `Balanced`
    (no zero posting, one commodity, sum zero) -/
theorem equity_accepts (st : Settings) (acc : Option (Path → Bool)) (eqa : Path) (md : List String)
    (txns : List Txn) (out : List EqTxn) (hwf : TxnsWF txns)
    (h : equityExport st acc eqa md txns = .ok out) (st' : Settings) (hl : Lax st') :
    ∀ t ∈ out, ∃ st'', acceptTxn st' t.toRaw = .ok (toTxn t, st'') ∧ Lax st'' ∧ C01.Balanced (toTxn t) := by
  intro t ht
  obtain ⟨st'', hacc, hl''⟩ := accept_good st' hl t (export_good st acc eqa md txns out h t ht)
  exact ⟨st'', hacc, hl'', C01.accept_balanced st' st'' t.toRaw (toTxn t)
    (good_rawWF t (export_scale st acc eqa md txns out hwf h t ht)) hacc⟩

/-! ### `equity_reparse` (parse-tree level) -/

theorem acceptJournal_good : ∀ (out : List EqTxn) (st : Settings), Lax st → (∀ t ∈ out, GoodEq t) →
    ∃ st', acceptJournal st (out.map EqTxn.toRaw) = .ok (out.map toTxn, st') ∧ Lax st' := by
  intro out
  induction out with
  | nil => intro st hl _; exact ⟨st, rfl, hl⟩
  | cons t rest ih =>
    intro st hl hg
    obtain ⟨st1, h1, hl1⟩ := accept_good st hl t (hg t List.mem_cons_self)
    obtain ⟨st2, h2, hl2⟩ := ih st1 hl1 (fun q hq => hg q (List.mem_cons_of_mem _ hq))
    refine ⟨st2, ?_, hl2⟩
    unfold acceptJournal at h2 ⊢
    simp only [List.map_cons, mapMS, h1, h2]

/-- **equity_reparse**: the parse trees of a non-empty export load as a journal (accept every transaction, sort)
    to exactly the generated transactions; an empty export is not a journal (`string_to_txns` needs one
    transaction) -/
theorem equity_reparse (st : Settings) (acc : Option (Path → Bool)) (eqa : Path) (md : List String)
    (txns : List Txn) (out : List EqTxn) (h : equityExport st acc eqa md txns = .ok out)
    (st' : Settings) (hl : Lax st') :
    (out = [] → loadJournal st' (out.map EqTxn.toRaw) = .err) ∧
    (out ≠ [] → ∃ st'', loadJournal st' (out.map EqTxn.toRaw) = .ok (sortTxns (out.map toTxn), st'') ∧ Lax st'') := by
  constructor
  · intro he; subst he; rfl
  · intro hne
    obtain ⟨st'', hacc, hl''⟩ := acceptJournal_good out st' hl (export_good st acc eqa md txns out h)
    refine ⟨st'', ?_, hl''⟩
    obtain ⟨t0, rest, rfl⟩ := List.exists_cons_of_ne_nil hne
    simp only [List.map_cons, loadJournal] at hacc ⊢
    rw [hacc]
    rfl

/-! ### `equity_shape` -/

theorem warning_units (dsum : Dec) : warning dsum = if dsum.units = 0 then warningLines else [] := by
  simp only [warning, Dec.isZero_iff_units]

theorem balancing_units (eqa : Path) (c : String) (dsum : Dec) :
    balancing eqa c dsum = if dsum.units = 0 then [] else [⟨eqa, dsum.negate, c⟩] := by
  simp only [balancing, Dec.isZero_iff_units]

/-- **equity_shape**: the export consists of one transaction per commodity that has a selected non-zero row, in
    strictly increasing commodity order (`cs`); the transaction of commodity `c` is dated at the last selected
    transaction, is described by `eqDesc c`, and its postings are exactly the selected rows of `c` (in row order)
    with amount = the row's own sum, followed by the balancing posting (equity account, −Σ, `c`) iff Σ ≠ 0 —
    and the WARNING comment block iff Σ = 0. -/
theorem equity_shape (st : Settings) (acc : Option (Path → Bool)) (eqa : Path) (md : List String)
    (txns : List Txn) (out : List EqTxn) (hwf : TxnsWF txns)
    (h : equityExport st acc eqa md txns = .ok out) :
    ∃ all cs, balance st (postsOf txns) = .ok all ∧
      cs.Pairwise (· < ·) ∧ (∀ c, c ∈ cs ↔ ∃ r ∈ selRows acc all, r.comm = c) ∧
      Forall2 (fun c t => ∃ last, txns.getLast? = some last ∧
                 IsEquityTxn eqa last.header md (selRows acc all) c t) cs out := by
  obtain ⟨all, hall, hcase⟩ := export_inv st acc eqa md txns out h
  have hscale := balance_own_scale st (postsOf txns) all (postsOf_wf txns hwf) hall
  rcases hcase with ⟨hrows, rfl⟩ | ⟨_, last, hlast, hout⟩
  · refine ⟨all, [], hall, List.Pairwise.nil, ?_, .nil⟩
    intro c
    simp [hrows]
  · let rows := selRows acc all
    obtain ⟨hstrict, hkeys, hfil⟩ := C02.comm_chunks rows ((C02.balance_sorted hall).filter (nonZeroSel acc))
    refine ⟨all, (chunkBy (fun r : BalRow => r.comm) rows).map (·.1), hall, hstrict, hkeys, ?_⟩
    refine eqTxns_forall2 eqa last.header md _ _ ?_ out hout
    intro kg hkg t ht
    refine ⟨last, hlast, ?_⟩
    obtain ⟨dsum, hd, rfl⟩ := eqTxn_spec eqa last.header md kg.1 kg.2 t ht
    have hfil := hfil kg hkg
    have hrows : ∀ d ∈ kg.2.map (·.own), d.scale ≤ 28 := by
      intro d hd'
      obtain ⟨r, hr, rfl⟩ := List.mem_map.mp hd'
      exact hscale r (mem_chunk_selRows hkg hr).1
    refine ⟨rfl, rfl, dsum, ?_, ?_, ?_⟩
    · rw [(Dec.sum_units _ dsum hrows hd).1, ← hfil, List.map_map]; rfl
    · exact congrArg (md ++ ·) (warning_units dsum)
    · simp only
      rw [balancing_units, ← hfil]
      congr 1
      apply List.map_congr_left
      intro r hr
      rw [(mem_chunk_selRows hkg hr).2.2]

/-! ### `equity_carries` -/

theorem ownSpec_perm (ts1 ts2 : List Txn) (h : ts1.Perm ts2) (k : AKey) :
    ownSpec (postsOf ts1) k = ownSpec (postsOf ts2) k := by
  unfold ownSpec postsOf
  exact ListSum.perm_sum (((h.flatMap_right _).filter _).map _)

def ownSpecE (ps : List EqPosting) (k : AKey) : Int :=
  ((ps.filter (fun p => decide ((p.comm, p.acct) = k))).map (·.amount.units)).sum

theorem ownSpecE_append (a b : List EqPosting) (k : AKey) :
    ownSpecE (a ++ b) k = ownSpecE a k + ownSpecE b k := by
  simp [ownSpecE, List.filter_append, List.sum_append]

theorem ownSpec_toTxn (out : List EqTxn) (k : AKey) :
    ownSpec (postsOf (out.map toTxn)) k = ownSpecE (out.flatMap (·.posts)) k := by
  induction out with
  | nil => rfl
  | cons t rest ih =>
    have e1 : postsOf ((t :: rest).map toTxn)
        = (t.posts.map (fun p => (⟨p.acct, p.comm, p.amount⟩ : BPost))) ++ postsOf (rest.map toTxn) := by
      simp [postsOf, toTxn, toPosting, List.map_map, Function.comp_def]
    have e2 : ownSpec ((t.posts.map (fun p => (⟨p.acct, p.comm, p.amount⟩ : BPost))) ++ postsOf (rest.map toTxn)) k
        = ownSpecE t.posts k + ownSpec (postsOf (rest.map toTxn)) k := by
      simp only [ownSpec, ownSpecE, List.filter_append, List.map_append, List.sum_append, List.filter_map,
        List.map_map]
      rfl
    rw [e1, e2, ih, List.flatMap_cons, ownSpecE_append]

theorem ownSpecE_rows (g : List BalRow) (k : AKey) :
    ownSpecE (g.map (fun b => (⟨b.acct, b.own, b.comm⟩ : EqPosting))) k
      = ((g.filter (fun r => decide (r.key = k))).map (·.own.units)).sum := by
  simp only [ownSpecE, List.filter_map, List.map_map]
  rfl

theorem ownSpecE_balancing (eqa : Path) (c : String) (dsum : Dec) (k : AKey) (hk : k.2 ≠ eqa) :
    ownSpecE (balancing eqa c dsum) k = 0 := by
  unfold balancing
  split
  · rfl
  · have : ¬ ((c, eqa) = k) := by intro e; apply hk; rw [← e]
    simp [ownSpecE, this]

theorem eqTxns_sum (eqa : Path) (last : Header) (md : List String) (k : AKey) (hk : k.2 ≠ eqa) :
    ∀ (gs : List (String × List BalRow)) (out : List EqTxn), eqTxns eqa last md gs = some out →
      ownSpecE (out.flatMap (·.posts)) k
        = (((gs.map (·.2)).flatten.filter (fun r => decide (r.key = k))).map (·.own.units)).sum := by
  intro gs
  induction gs with
  | nil => intro out h; simp [eqTxns] at h; subst h; rfl
  | cons kg rest ih =>
    intro out h
    obtain ⟨c, g⟩ := kg
    obtain ⟨t, ts, ht, hts, rfl⟩ := eqTxns_cons_some h
    obtain ⟨dsum, _, rfl⟩ := eqTxn_spec eqa last md c g t ht
    simp only [List.flatMap_cons, List.map_cons, List.flatten_cons, List.filter_append, List.map_append,
      List.sum_append]
    rw [ownSpecE_append, ownSpecE_append, ih ts hts, ownSpecE_rows, ownSpecE_balancing eqa c dsum k hk]
    omega

theorem filter_key_unique : ∀ (l : List BalRow), (l.map BalRow.key).Nodup → ∀ r ∈ l,
    l.filter (fun x => decide (x.key = r.key)) = [r] := by
  intro l
  induction l with
  | nil => intro _ r hr; cases hr
  | cons a t ih =>
    intro hnd r hr
    simp only [List.map_cons, List.nodup_cons, List.mem_map, not_exists, not_and] at hnd
    rcases List.mem_cons.mp hr with rfl | hr'
    · have : t.filter (fun x => decide (x.key = r.key)) = [] := by
        simp only [List.filter_eq_nil_iff, decide_eq_true_eq]
        exact fun x hx => hnd.1 x hx
      simp [this]
    · have hne : ¬ a.key = r.key := fun e => hnd.1 r hr' e.symm
      simp [hne, ih hnd.2 r hr']

/-- **equity_carries**: if the equity account is not among the selected accounts, then for every selected
    (commodity, account) with non-zero balance the own sum computed from the re-loaded export (plain spec: Σ of the
    amounts of its postings) equals the own sum of the source (the same plain spec).
    `own_sum` and `rows_nodup` are facts of the balance kernel proved for C02 (`C02.own_sum`: a row's own sum is the
    plain sum of the postings of its key; `C02.rows_nodup`: one row per key); they are hypotheses here and are
    discharged by those theorems. -/
theorem equity_carries (st : Settings) (acc : Option (Path → Bool)) (eqa : Path) (md : List String)
    (txns : List Txn) (out : List EqTxn) (h : equityExport st acc eqa md txns = .ok out)
    (all : List BalRow) (hall : balance st (postsOf txns) = .ok all)
    (own_sum : ∀ r ∈ all, r.own.units = ownSpec (postsOf txns) r.key)
    (rows_nodup : (all.map BalRow.key).Nodup)
    (heqa : ∀ r ∈ selRows acc all, r.acct ≠ eqa)
    (st' st'' : Settings) (hl : Lax st') (ts' : List Txn)
    (hre : loadJournal st' (out.map EqTxn.toRaw) = .ok (ts', st'')) :
    ∀ r ∈ selRows acc all, ownSpec (postsOf ts') r.key = ownSpec (postsOf txns) r.key := by
  intro r hr
  have hrall : r ∈ all := (List.mem_filter.mp hr).1
  obtain ⟨hempty, hnonempty⟩ := equity_reparse st acc eqa md txns out h st' hl
  by_cases hout : out = []
  · rw [hempty hout] at hre; cases hre
  · obtain ⟨st3, hload, _⟩ := hnonempty hout
    rw [hload] at hre
    cases hre
    obtain ⟨all', hall', hcase⟩ := export_inv st acc eqa md txns out h
    rw [hall] at hall'
    cases hall'
    rcases hcase with ⟨_, he⟩ | ⟨_, last, _, houts⟩
    · exact absurd he hout
    · rw [ownSpec_perm (sortTxns (out.map toTxn)) (out.map toTxn) (List.mergeSort_perm _ _) r.key, ownSpec_toTxn,
        eqTxns_sum eqa last.header md r.key (heqa r hr) _ out houts, ChunkBy.chunkBy_flatten]
      have hnd : ((selRows acc all).map BalRow.key).Nodup :=
        rows_nodup.sublist ((List.filter_sublist (l := all)).map BalRow.key)
      rw [filter_key_unique _ hnd r hr]
      simp [own_sum r hrall]

/-- **equity_empty**: with no selected non-zero row nothing is written (`if bal.is_empty() { return Ok(()) }`);
    in particular for an empty selection of transactions -/
theorem equity_empty (st : Settings) (acc : Option (Path → Bool)) (eqa : Path) (md : List String)
    (txns : List Txn) (out : List EqTxn) (h : equityExport st acc eqa md txns = .ok out)
    (all : List BalRow) (hall : balance st (postsOf txns) = .ok all) :
    out = [] ↔ selRows acc all = [] := by
  obtain ⟨all', hall', hcase⟩ := export_inv st acc eqa md txns out h
  rw [hall] at hall'
  cases hall'
  rcases hcase with ⟨h1, h2⟩ | ⟨h1, last, _, hout⟩
  · exact ⟨fun _ => h1, fun _ => h2⟩
  · constructor
    · intro he
      subst he
      cases hc : chunkBy (fun r : BalRow => r.comm) (selRows acc all) with
      | nil =>
        have := ChunkBy.chunkBy_flatten (fun r : BalRow => r.comm) (selRows acc all)
        rw [hc] at this
        exact absurd this.symm h1
      | cons kg rest =>
        rw [hc] at hout
        obtain ⟨_, _, _, _, h⟩ := eqTxns_cons_some hout
        cases h
    · intro he; exact absurd he h1

theorem equity_no_txns (st : Settings) (acc : Option (Path → Bool)) (eqa : Path) (md : List String) :
    equityExport st acc eqa md [] = .ok [] := by
  unfold equityExport fromIter
  rw [show postsOf [] = [] from rfl, C02.balance_nil]
  rfl

/-! ### non-vacuity: concrete exports, boundary witnesses -/

def d (n : Int) : Dec := Dec.ofInt n
def hdr (ns : Int) (u : Option String) : Header := ⟨⟨ns, 0⟩, none, none, u, none, none, none⟩
def post (a : Path) (n : Int) (c : String) : Posting := ⟨a, c, d n, d n, false, c, none⟩

/-- settings after loading `j1` (lax, no audit) -/
def st1 : Settings := ⟨false, false, true, [["a"], ["b"], ["c"], ["e"]], [], ["", "EUR"], []⟩

/-- `1970-01-01T00:00:00.000000001Z / a 3 / b -3` and `…002Z # uuid: u2 / a 5 EUR / c 2 EUR / e -7 EUR` -/
def j1 : List Txn := [
  ⟨hdr 1 none, [post ["a"] 3 "", post ["b"] (-3) ""]⟩,
  ⟨hdr 2 (some "u2"), [post ["a"] 5 "EUR", post ["c"] 2 "EUR", post ["e"] (-7) "EUR"]⟩]

def rows1 : List BalRow := [
  ⟨["a"], "", d 3, d 3⟩, ⟨["b"], "", d (-3), d (-3)⟩,
  ⟨["a"], "EUR", d 5, d 5⟩, ⟨["c"], "EUR", d 2, d 2⟩, ⟨["e"], "EUR", d (-7), d (-7)⟩]

theorem balance_j1 : balance st1 (postsOf j1) = .ok rows1 :=
  C02.balance_of_steps (by decide) rfl rfl rfl (by decide)

/-- selector `a|c`, equity account `Eq`: two commodities, each with its balancing posting -/
theorem export_j1_sel : equityExport st1 (some (fun p => p == ["a"] || p == ["c"])) ["Eq"] [] j1 = .ok [
   ⟨⟨2, 0⟩, "Equity: last txn (uuid): u2", [], [⟨["a"], d 3, ""⟩, ⟨["Eq"], d (-3), ""⟩]⟩,
   ⟨⟨2, 0⟩, "Equity for EUR: last txn (uuid): u2", [],
    [⟨["a"], d 5, "EUR"⟩, ⟨["c"], d 2, "EUR"⟩, ⟨["Eq"], d (-7), "EUR"⟩]⟩] := by
  rw [equityExport, C02.fromIter_of_balance _ balance_j1]
  rfl

/-- no selector: the selected sums of both commodities cancel — WARNING block, no balancing posting -/
theorem export_j1_all : equityExport st1 none ["Eq"] ["md"] j1 = .ok [
   ⟨⟨2, 0⟩, "Equity: last txn (uuid): u2", "md" :: warningLines, [⟨["a"], d 3, ""⟩, ⟨["b"], d (-3), ""⟩]⟩,
   ⟨⟨2, 0⟩, "Equity for EUR: last txn (uuid): u2", "md" :: warningLines,
    [⟨["a"], d 5, "EUR"⟩, ⟨["c"], d 2, "EUR"⟩, ⟨["e"], d (-7), "EUR"⟩]⟩] := by
  rw [equityExport, C02.fromIter_of_balance _ balance_j1]
  rfl

/-- a selector matching nothing: empty export -/
example : equityExport st1 (some (fun p => p == ["nomatch"])) ["Eq"] [] j1 = .ok [] := by
  rw [equityExport, C02.fromIter_of_balance _ balance_j1]
  rfl

/-- the hypotheses of the theorems are satisfiable by these inputs -/
example : TxnsWF j1 := by
  intro t ht p hp
  simp only [j1, List.mem_cons, List.not_mem_nil, or_false] at ht
  rcases ht with rfl | rfl <;> simp only [List.mem_cons, List.not_mem_nil, or_false] at hp <;>
    rcases hp with rfl | rfl | rfl <;> decide
example : Lax st1 := ⟨rfl, rfl, rfl⟩

set_option maxRecDepth 8000 in
/-- exact text of a generated transaction -/
example : equityText [⟨⟨1500000000, 7200⟩, "Equity for EUR", ["c"], [⟨["a", "b"], ⟨true, 150, 2⟩, "EUR"⟩, ⟨["Eq"], ⟨false, 150, 2⟩, "EUR"⟩]⟩] =
    some "1970-01-01T02:00:01.5+02:00 'Equity for EUR\n   ; c\n   a:b  -1.50 EUR\n   Eq  1.50 EUR\n\n" := by decide +kernel

/-- boundary: the equity account equal to a selected account — the export is still accepted and balanced
    (`equity_accepts` has no side condition), but that account's own sum is not carried: here `a` re-loads with
    3 + (−3) = 0 instead of 3, so the hypothesis `heqa` of `equity_carries` cannot be dropped -/
example : equityExport st1 (some (fun p => p == ["a"])) ["a"] [] j1 = .ok [
   ⟨⟨2, 0⟩, "Equity: last txn (uuid): u2", [], [⟨["a"], d 3, ""⟩, ⟨["a"], d (-3), ""⟩]⟩,
   ⟨⟨2, 0⟩, "Equity for EUR: last txn (uuid): u2", [], [⟨["a"], d 5, "EUR"⟩, ⟨["a"], d (-5), "EUR"⟩]⟩] := by
  rw [equityExport, C02.fromIter_of_balance _ balance_j1]
  rfl
example : ownSpecE [⟨["a"], d 3, ""⟩, ⟨["a"], d (-3), ""⟩] ("", ["a"]) = 0 ∧ (d 3).units ≠ 0 := by decide

end C10
end Tackler
