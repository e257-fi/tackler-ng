import TacklerModel.Model.Price
import TacklerModel.Lemmas.Dec
/-!
# C07 — price conversion applies the documented rate, and only that rate

Specification: `RateAt db src tgt P r` — `r` is the entry `src → tgt` of the price db with the greatest instant among
those whose instant satisfies `P`; `lookupPred`: `(· ≤ txn instant)` (txn-time), `(· < given)` (given-time), `True`
(last-price).  `RateAt_unique`: on a loaded db it determines `r`.

Interface for C07b: `appliedEntry` (the entry `convert_prices_inner` applies to a posting), `valued`, and
`convertPosting_eq` (`convertPosting` in these terms); `appliedEntry_rateAt` says which entry is applied.

Theorems (arbitrary price file `es`, `db = loadDb es`, arbitrary transactions):
* `loadDb_sorted`, `loadDb_subset`, `loadDb_perm_of_distinct`, `db_order_free`, `result_order_free`
* `fixed_rate`, `timed_rate` – the caches of `make_ctx` yield `RateAt`; `searchIdx_spec` – the binary search of
  `core::slice::binary_search_by` finds the latest entry at or before the key
* `convert_value`, `convert_value_units`, `convert_never_err`, `no_conversion`, `convertPrices_pointwise`
* `no_invented` – a changed posting was valued with a rate literally in the price file for its pair
* `metadata_true`, `metadata_rateAt` (fixed lookups), `metadata_timed` (txn-time)
-/
namespace Tackler
namespace C07
open Tackler.Price

/-! ## 1. the order of price entries -/

theorem entryLe_total (a b : PriceEntry) : (entryLe a b || entryLe b a) = true := by
  unfold entryLe; grind

theorem entryLe_trans (a b c : PriceEntry) : entryLe a b = true → entryLe b c = true → entryLe a c = true := by
  unfold entryLe; grind

theorem entryEq_iff (a b : PriceEntry) :
    entryEq a b = true ↔ a.ns = b.ns ∧ a.base = b.base ∧ a.target = b.target := by
  unfold entryEq; grind

theorem entryEq_symm (a b : PriceEntry) : entryEq a b = entryEq b a := by
  unfold entryEq; grind

theorem entryLe_antisymm (a b : PriceEntry) : entryLe a b = true → entryLe b a = true → entryEq a b = true := by
  unfold entryLe entryEq; grind

/-- strictly smaller key (instant, base, target) -/
def keyLt (a b : PriceEntry) : Prop := entryLe a b = true ∧ entryEq a b = false

theorem keyLt_asymm (a b : PriceEntry) : keyLt a b → keyLt b a → False := by
  unfold keyLt; intro h1 h2
  have := entryLe_antisymm a b h1.1 h2.1
  simp [h1.2] at this

theorem keyLt_ns_le (a b : PriceEntry) : keyLt a b → a.ns ≤ b.ns := by
  unfold keyLt entryLe; grind

theorem keyLt_same_pair (a b : PriceEntry) (hb : a.base = b.base) (ht : a.target = b.target) :
    keyLt a b → a.ns < b.ns := by
  unfold keyLt entryLe entryEq; grind

theorem entryLe_of_entryEq (a b : PriceEntry) : entryEq a b = true → entryLe a b = true := by
  unfold entryLe entryEq; grind

theorem keyLt_of_le_of_lt (a b c : PriceEntry) : entryLe a b = true → keyLt b c → keyLt a c := by
  intro hab hbc
  refine ⟨entryLe_trans a b c hab hbc.1, ?_⟩
  cases hq : entryEq a c with
  | false => rfl
  | true =>
    have hcb := entryLe_trans c a b (entryLe_of_entryEq c a (entryEq_symm a c ▸ hq)) hab
    exact absurd (entryLe_antisymm b c hbc.1 hcb) (by simp [hbc.2])

theorem keyLt_of_lt_of_le (a b c : PriceEntry) : keyLt a b → entryLe b c = true → keyLt a c := by
  intro hab hbc
  refine ⟨entryLe_trans a b c hab.1 hbc, ?_⟩
  cases hq : entryEq a c with
  | false => rfl
  | true =>
    have hba := entryLe_trans b c a hbc (entryLe_of_entryEq c a (entryEq_symm a c ▸ hq))
    exact absurd (entryLe_antisymm a b hab.1 hba) (by simp [hab.2])

def DistinctKeys (es : List PriceEntry) : Prop := es.Pairwise (fun a b => entryEq a b = false)

/-! ## 2. `loadDb`: sorted, one entry per key, nothing invented, independent of the file order -/

theorem dedupFrom_sublist (a : PriceEntry) (l : List PriceEntry) : (dedupFrom a l).Sublist (a :: l) := by
  fun_induction dedupFrom a l with
  | case1 => simp
  | case2 a b t _ ih => exact ih.trans (List.Sublist.cons_cons a (List.sublist_cons_self b t))
  | case3 a b t _ ih => exact List.Sublist.cons_cons a ih

theorem dedup_sublist : ∀ l : List PriceEntry, (dedup l).Sublist l
  | [] => List.Sublist.slnil
  | a :: t => dedupFrom_sublist a t

theorem dedupFrom_sorted (a : PriceEntry) (l : List PriceEntry)
    (h : (a :: l).Pairwise (fun x y => entryLe x y = true)) : (dedupFrom a l).Pairwise keyLt := by
  fun_induction dedupFrom a l with
  | case1 => simp
  | case2 a b t _ ih => exact ih (h.sublist (List.Sublist.cons_cons a (List.sublist_cons_self b t)))
  | case3 a b t hne ih =>
    -- `a < b`, and `b ≤` everything kept after it
    obtain ⟨ha, hbt⟩ := List.pairwise_cons.mp h
    have hab : keyLt a b := ⟨ha b List.mem_cons_self, by simpa using hne⟩
    refine List.pairwise_cons.mpr ⟨fun x hx => ?_, ih hbt⟩
    rcases List.mem_cons.mp ((dedupFrom_sublist b t).subset hx) with rfl | hxt
    · exact hab
    · exact keyLt_of_lt_of_le a b x hab ((List.pairwise_cons.mp hbt).1 x hxt)

theorem dedup_sorted : ∀ l : List PriceEntry, l.Pairwise (fun x y => entryLe x y = true) → (dedup l).Pairwise keyLt
  | [], _ => List.Pairwise.nil
  | a :: t, h => dedupFrom_sorted a t h

theorem dedupFrom_id (a : PriceEntry) (l : List PriceEntry) (h : (a :: l).Pairwise keyLt) :
    dedupFrom a l = a :: l := by
  fun_induction dedupFrom a l with
  | case1 => rfl
  | case2 a b t he _ => simp [((List.pairwise_cons.mp h).1 b List.mem_cons_self).2] at he
  | case3 a b t _ ih => rw [ih (List.pairwise_cons.mp h).2]

theorem dedup_id : ∀ l : List PriceEntry, l.Pairwise keyLt → dedup l = l
  | [], _ => rfl
  | a :: t, h => dedupFrom_id a t h

theorem mergeSort_entryLe_sorted (es : List PriceEntry) :
    (es.mergeSort entryLe).Pairwise (fun x y => entryLe x y = true) :=
  List.pairwise_mergeSort entryLe_trans entryLe_total es

/-- the loaded db is strictly increasing in (instant, base, target): sorted, one entry per key -/
theorem loadDb_sorted (es : List PriceEntry) : (loadDb es).Pairwise keyLt :=
  dedup_sorted _ (mergeSort_entryLe_sorted es)

theorem loadDb_subset (es : List PriceEntry) (e : PriceEntry) (h : e ∈ loadDb es) : e ∈ es :=
  List.mem_mergeSort.mp ((dedup_sublist _).subset h)

/-- uniqueness of sorted lists up to permutation (strict order: asymmetry suffices) -/
theorem sorted_perm_eq {α} (lt : α → α → Prop) (asymm : ∀ a b, lt a b → lt b a → False) :
    ∀ (l₁ l₂ : List α), l₁.Perm l₂ → l₁.Pairwise lt → l₂.Pairwise lt → l₁ = l₂ :=
  fun _ _ p s1 s2 => p.eq_of_pairwise (fun a b _ _ h1 h2 => (asymm a b h1 h2).elim) s1 s2

theorem mergeSort_strict (es : List PriceEntry) (hd : DistinctKeys es) : (es.mergeSort entryLe).Pairwise keyLt := by
  have hs := mergeSort_entryLe_sorted es
  have hd' : DistinctKeys (es.mergeSort entryLe) :=
    (List.Perm.pairwise_iff (fun {a b} (h : entryEq a b = false) => by rw [entryEq_symm]; exact h)
      (List.mergeSort_perm es entryLe)).mpr hd
  exact List.Pairwise.and hs hd' |>.imp (fun h => h)

/-- with distinct keys nothing is dropped: the loaded db is a permutation of the price file -/
theorem loadDb_perm_of_distinct (es : List PriceEntry) (hd : DistinctKeys es) : (loadDb es).Perm es := by
  unfold loadDb
  rw [dedup_id _ (mergeSort_strict es hd)]
  exact List.mergeSort_perm es entryLe

/-- **db_order_free**: the loaded db does not depend on the order of the entries in the price file -/
theorem db_order_free (es es' : List PriceEntry) (hp : es.Perm es') (hd : DistinctKeys es) :
    loadDb es = loadDb es' := by
  have hd' : DistinctKeys es' :=
    (List.Perm.pairwise_iff (fun {a b} (h : entryEq a b = false) => by rw [entryEq_symm]; exact h) hp).mp hd
  have h1 := mergeSort_strict es hd
  have h2 := mergeSort_strict es' hd'
  have hperm : (es.mergeSort entryLe).Perm (es'.mergeSort entryLe) :=
    (List.mergeSort_perm es entryLe).trans (hp.trans (List.mergeSort_perm es' entryLe).symm)
  unfold loadDb
  rw [sorted_perm_eq keyLt keyLt_asymm _ _ hperm h1 h2]

/-! ## 3. the specification -/

/-- `RateAt db src tgt P r`: `r` is the entry `src → tgt` of `db` with the greatest instant among those whose
    instant satisfies `P` (`none`: there is no such entry) -/
def RateAt (db : List PriceEntry) (src tgt : String) (P : Int → Prop) : Option PriceEntry → Prop
  | some e => e ∈ db ∧ e.base = src ∧ e.target = tgt ∧ P e.ns ∧
      ∀ e' ∈ db, e'.base = src → e'.target = tgt → P e'.ns → e'.ns ≤ e.ns
  | none => ∀ e' ∈ db, e'.base = src → e'.target = tgt → ¬ P e'.ns

/-- the time condition of each lookup type (`txnNs`: instant of the transaction being converted) -/
def lookupPred (lk : PriceLookup) (txnNs : Int) : Int → Prop :=
  match lk with
  | .none => fun _ => False
  | .txnTime => fun n => n ≤ txnNs
  | .lastPrice => fun _ => True
  | .givenTime g => fun n => n < g

theorem eq_of_entryEq_of_mem (db : List PriceEntry) (hs : db.Pairwise keyLt) (a b : PriceEntry)
    (ha : a ∈ db) (hb : b ∈ db) : entryEq a b = true → a = b := by
  have key : ∀ x y, keyLt x y → entryEq x y = true → x = y := fun x y h hk => absurd hk (by simp [h.2])
  exact List.Pairwise.forall_of_forall_of_flip (R := fun x y => entryEq x y = true → x = y) (fun _ _ _ => rfl)
    (hs.imp (key _ _)) (hs.imp fun {x y} h (hk : entryEq y x = true) => (key x y h (entryEq_symm x y ▸ hk)).symm) ha hb

/-- on a loaded db the specification determines the rate -/
theorem RateAt_unique (db : List PriceEntry) (hs : db.Pairwise keyLt) (src tgt : String) (P : Int → Prop)
    (r₁ r₂ : Option PriceEntry) (h₁ : RateAt db src tgt P r₁) (h₂ : RateAt db src tgt P r₂) : r₁ = r₂ :=
  match r₁, r₂, h₁, h₂ with
  | none, none, _, _ => rfl
  | none, some e, h₁, h₂ => absurd h₂.2.2.2.1 (h₁ e h₂.1 h₂.2.1 h₂.2.2.1)
  | some e, none, h₁, h₂ => absurd h₁.2.2.2.1 (h₂ e h₁.1 h₁.2.1 h₁.2.2.1)
  | some e₁, some e₂, ⟨m1, b1, t1, p1, x1⟩, ⟨m2, b2, t2, p2, x2⟩ =>
    congrArg some (eq_of_entryEq_of_mem db hs e₁ e₂ m1 m2 ((entryEq_iff e₁ e₂).mpr
      ⟨Int.le_antisymm (x2 e₁ m1 b1 t1 p1) (x1 e₂ m2 b2 t2 p2), b1.trans b2.symm, t1.trans t2.symm⟩))

/-- a list, in db order, of exactly the entries `src → tgt` of the db that satisfy `P`: its last entry is the rate -/
theorem rateAt_getLast? (db l : List PriceEntry) (hs : l.Pairwise keyLt) (src tgt : String) (P : Int → Prop)
    (hl : ∀ e, e ∈ l ↔ e ∈ db ∧ e.base = src ∧ e.target = tgt ∧ P e.ns) : RateAt db src tgt P l.getLast? := by
  cases h : l.getLast? with
  | none =>
    rw [List.getLast?_eq_none_iff.mp h] at hl
    exact fun e he hb ht hp => nomatch (hl e).mpr ⟨he, hb, ht, hp⟩
  | some e =>
    obtain ⟨ys, rfl⟩ := List.getLast?_eq_some_iff.mp h
    obtain ⟨hm, hb, ht, hp⟩ := (hl e).mp (List.mem_append_right _ (List.mem_singleton_self e))
    refine ⟨hm, hb, ht, hp, fun e' he' hb' ht' hp' => ?_⟩
    rcases List.mem_append.mp ((hl e').mpr ⟨he', hb', ht', hp'⟩) with h' | h'
    · exact keyLt_ns_le e' e ((List.pairwise_append.mp hs).2.2 e' h' e (List.mem_singleton_self e))
    · rw [List.mem_singleton.mp h']; exact Int.le_refl _

/-! ## 4. containers -/

theorem mapGet_insert {β} (m : List (String × β)) (k k' : String) (v : β) :
    mapGet (mapInsert m k v) k' = if k' = k then some v else mapGet m k' := by
  have hf : mapGet (m.filter (fun kv => kv.1 != k)) k' = if k' = k then none else mapGet m k' := by
    induction m with
    | nil => simp [mapGet]
    | cons kv t ih => simp only [List.filter_cons, mapGet]; grind [mapGet]
  simp only [mapInsert, mapGet, hf]; grind

/-- keys of the list model of a map -/
def keys {β} (m : List (String × β)) : List String := m.map (·.1)

theorem keys_insert_nodup {β} (m : List (String × β)) (k : String) (v : β) (h : (keys m).Nodup) :
    (keys (mapInsert m k v)).Nodup := by
  unfold mapInsert keys
  simp only [List.map_cons, List.nodup_cons]
  refine ⟨?_, ?_⟩
  · intro hm
    obtain ⟨kv, hkv, hk⟩ := List.mem_map.mp hm
    have := (List.mem_filter.mp hkv).2
    simp [hk] at this
  · exact (List.filter_sublist.map _).nodup h

theorem mem_iff_mapGet {β} (m : List (String × β)) (h : (keys m).Nodup) (k : String) (v : β) :
    (k, v) ∈ m ↔ mapGet m k = some v := by
  induction m with
  | nil => simp [mapGet]
  | cons kv t ih =>
    simp only [keys, List.map_cons, List.nodup_cons, List.mem_map] at h
    have ih := ih h.2
    simp only [mapGet, List.mem_cons]
    grind

theorem mem_btreeSet (l : List String) (c : String) : c ∈ btreeSet l ↔ c ∈ l := by
  unfold btreeSet
  rw [List.mem_eraseDups, List.mem_mergeSort]

theorem mem_usedCommodities (txns : List Txn) (tgt c : String) :
    c ∈ usedCommodities txns tgt ↔ c ≠ tgt ∧ ∃ t ∈ txns, ∃ p ∈ t.posts, p.comm = c := by
  unfold usedCommodities
  rw [mem_btreeSet, List.mem_filter, List.mem_map]
  constructor
  · rintro ⟨⟨p, hp, rfl⟩, hne⟩
    obtain ⟨t, ht, hpt⟩ := List.mem_flatMap.mp hp
    exact ⟨by simpa using hne, t, ht, p, hpt, rfl⟩
  · rintro ⟨hne, t, ht, p, hp, rfl⟩
    exact ⟨⟨p, List.mem_flatMap.mpr ⟨t, ht, hp⟩, rfl⟩, by simpa using hne⟩

/-! ## 5. fixed lookups (`last-price`, `given-time`) -/

/-- `collect()` into the hash map: the binding of `k` is the last entry of base `k` -/
theorem mapGet_foldl_insert : ∀ (l : List PriceEntry) (m : List (String × (Int × Dec))) (k : String),
    mapGet (l.foldl (fun m e => mapInsert m e.base (e.ns, e.rate)) m) k =
      match (l.filter (fun e => e.base == k)).getLast? with
      | some e => some (e.ns, e.rate)
      | none => mapGet m k := by
  intro l
  induction l with
  | nil => intro m k; simp
  | cons a t ih =>
    intro m k
    simp only [List.foldl_cons, ih, List.filter_cons]
    by_cases hak : a.base = k
    · subst hak
      simp only [beq_self_eq_true, if_true, List.getLast?_cons, mapGet_insert]
      cases (List.filter (fun e => e.base == a.base) t).getLast? <;> simp
    · have : (a.base == k) = false := by simpa using hak
      simp only [this, Bool.false_eq_true, if_false, mapGet_insert]
      have hk : ¬ k = a.base := fun h => hak h.symm
      cases (List.filter (fun e => e.base == k) t).getLast? <;> simp [hk]

theorem keys_foldl_nodup : ∀ (l : List PriceEntry) (m : List (String × (Int × Dec))), (keys m).Nodup →
    (keys (l.foldl (fun m e => mapInsert m e.base (e.ns, e.rate)) m)).Nodup := by
  intro l
  induction l with
  | nil => intro m h; simpa using h
  | cons a t ih => intro m h; exact ih _ (keys_insert_nodup m _ _ h)

/-- the rate the fixed cache holds for a commodity, as a price entry -/
def fixedEntry (m : List (String × (Int × Dec))) (src tgt : String) : Option PriceEntry :=
  (mapGet m src).map (fun c => ⟨c.1, src, c.2, tgt⟩)

def boundPred (bound : Option Int) : Int → Prop :=
  match bound with
  | some b => fun n => n < b
  | none => fun _ => True

theorem beforeBound_iff (bound : Option Int) (n : Int) : beforeBound bound n = true ↔ boundPred bound n := by
  cases bound <;> simp [beforeBound, boundPred]

theorem fixedCache_spec (db : List PriceEntry) (hs : db.Pairwise keyLt) (used : List String) (tgt : String)
    (bound : Option Int) (src : String) (hu : src ∈ used) :
    RateAt db src tgt (boundPred bound) (fixedEntry (fixedCache used tgt bound db) src tgt) := by
  unfold fixedEntry fixedCache
  rw [mapGet_foldl_insert, List.filter_filter]
  generalize hG : db.filter _ = G
  have hmem : ∀ e, e ∈ G ↔ e ∈ db ∧ e.base = src ∧ e.target = tgt ∧ boundPred bound e.ns := by
    intro e
    rw [← hG, List.mem_filter]
    simp only [Bool.and_eq_true, beq_iff_eq, List.contains_iff_mem, beforeBound_iff]
    constructor
    · rintro ⟨hm, hb, ⟨_, ht⟩, hp⟩; exact ⟨hm, hb, ht, hp⟩
    · rintro ⟨hm, hb, ht, hp⟩; exact ⟨hm, hb, ⟨hb ▸ hu, ht⟩, hp⟩
  have hr := rateAt_getLast? db G (hG ▸ hs.sublist List.filter_sublist) src tgt _ hmem
  cases hl : G.getLast? with
  | none => rw [hl] at hr; exact hr
  | some e =>
    rw [hl] at hr
    obtain ⟨ns, base, rate, target⟩ := e
    obtain ⟨rfl, rfl⟩ : base = src ∧ target = tgt := ⟨hr.2.1, hr.2.2.1⟩
    exact hr

theorem fixedCache_unused (db : List PriceEntry) (used : List String) (tgt : String) (bound : Option Int)
    (src : String) (hu : src ∉ used) : mapGet (fixedCache used tgt bound db) src = none := by
  unfold fixedCache
  rw [mapGet_foldl_insert, List.filter_filter, List.filter_eq_nil_iff.mpr]
  · rfl
  · intro e _ h
    simp only [Bool.and_eq_true, beq_iff_eq, List.contains_iff_mem] at h
    exact hu (h.1 ▸ h.2.1.1)

/-- the entry of the context's fixed cache for a commodity -/
def ctxFixedEntry (ctx : Ctx) (src tgt : String) : Option PriceEntry :=
  match ctx.cache with
  | .fixed m => fixedEntry m src tgt
  | .timed _ => none

theorem makeCtx_fixed (lk : PriceLookup) (hlk : lk = .lastPrice ∨ ∃ g, lk = .givenTime g) (txns : List Txn)
    (tgt : String) (db : List PriceEntry) :
    ∃ bound, makeCtx lk txns (some tgt) db = ⟨.fixed (fixedCache (usedCommodities txns tgt) tgt bound db), some tgt⟩ ∧
      ∀ n, lookupPred lk n = boundPred bound := by
  rcases hlk with rfl | ⟨g, rfl⟩
  · exact ⟨none, rfl, fun _ => rfl⟩
  · exact ⟨some g, rfl, fun _ => rfl⟩

/-- **fixed_rate**: under `last-price` and `given-time` the context holds `RateAt` for every used commodity
    (`anyNs`: the time condition of these lookups does not depend on the transaction's instant) -/
theorem fixed_rate (es : List PriceEntry) (txns : List Txn) (tgt : String) (lk : PriceLookup)
    (hlk : lk = .lastPrice ∨ ∃ g, lk = .givenTime g) (src : String) (hsrc : src ∈ usedCommodities txns tgt)
    (anyNs : Int) :
    RateAt (loadDb es) src tgt (lookupPred lk anyNs)
      (ctxFixedEntry (makeCtx lk txns (some tgt) (loadDb es)) src tgt) := by
  obtain ⟨bound, hctx, hpred⟩ := makeCtx_fixed lk hlk txns tgt (loadDb es)
  rw [hctx, hpred]
  exact fixedCache_spec (loadDb es) (loadDb_sorted es) _ tgt bound src hsrc

/-! ## 6. txn-time lookup: the real binary search -/

/-- inside the cache of one commodity the comparator of `binary_search_by_key` compares instants -/
theorem cmpKey_same (e : PriceEntry) (k : Int) (comm : String) (h : e.base = comm) :
    (cmpKey e k comm = .gt ↔ k < e.ns) ∧ (cmpKey e k comm = .eq ↔ e.ns = k) ∧
      (cmpKey e k comm = .lt ↔ e.ns < k) := by
  subst h
  unfold cmpKey
  have := String.lt_irrefl e.base
  grind

theorem half_bounds (size : Nat) (h : ¬ size ≤ 1) : 0 < size / 2 ∧ size / 2 < size ∧ size / 2 ≤ size - size / 2 := by
  omega

/-- loop invariant of `binary_search_by` for the window `[base, base + size)`: `l[base] ≤ k` unless `base` is
    still 0, and everything from `base + size` on is `> k` -/
def bsInv (l : List PriceEntry) (k : Int) (base size : Nat) : Prop :=
  base + size ≤ l.length ∧ (0 < base → l[base]!.ns ≤ k) ∧ ∀ j, base + size ≤ j → j < l.length → k < l[j]!.ns

theorem bsLoop_spec (l : List PriceEntry) (k : Int) (comm : String)
    (hs : ∀ i j, i ≤ j → j < l.length → l[i]!.ns ≤ l[j]!.ns)
    (hb : ∀ i, i < l.length → l[i]!.base = comm) :
    ∀ fuel base size, size ≤ fuel → 0 < size → bsInv l k base size →
      bsInv l k (bsLoop l k comm fuel base size) 1 := by
  intro fuel
  induction fuel with
  | zero => intro base size h1 h2; exact absurd (Nat.le_trans h2 h1) (Nat.not_succ_le_zero 0)
  | succ fuel ih =>
    intro base size hf hpos ⟨hbd, hlo, hhi⟩
    unfold bsLoop
    split
    · next h1 => exact Nat.le_antisymm h1 hpos ▸ ⟨hbd, hlo, hhi⟩
    · next h1 =>
      obtain ⟨hpos', hlt, hhalf⟩ := half_bounds size h1
      generalize size / 2 = half at hpos' hlt hhalf ⊢
      -- the probe `base + half` lies inside the window; either half is a smaller, non-empty window
      have hmid : base + half < l.length := Nat.lt_of_lt_of_le (Nat.add_lt_add_left hlt base) hbd
      have hf' : size - half ≤ fuel := Nat.le_of_lt_succ (Nat.lt_of_lt_of_le (Nat.sub_lt hpos hpos') hf)
      have hsum : base + half + (size - half) = base + size := by
        rw [Nat.add_assoc, Nat.add_sub_of_le (Nat.le_of_lt hlt)]
      have hgt := (cmpKey_same l[base + half]! k comm (hb _ hmid)).1
      split
      · next h =>
        exact ih base (size - half) hf' (Nat.sub_pos_of_lt hlt)
          ⟨Nat.le_trans (Nat.add_le_add_left (Nat.sub_le size half) base) hbd, hlo, fun j hj hjl =>
            Int.lt_of_lt_of_le (hgt.mp h) (hs _ j (Nat.le_trans (Nat.add_le_add_left hhalf base) hj) hjl)⟩
      · next h =>
        exact ih (base + half) (size - half) hf' (Nat.sub_pos_of_lt hlt)
          ⟨hsum ▸ hbd, fun _ => Int.not_lt.mp fun hlt => h (hgt.mpr hlt), fun j hj => hhi j (hsum ▸ hj)⟩

/-- the index used by `convert_prices_inner` (`Ok(i) => Some(i)`, `Err(i) => i.checked_sub(1)`) is the
    latest entry at or before `k`; `None` iff every entry is later -/
theorem searchIdx_spec (l : List PriceEntry) (k : Int) (comm : String)
    (hs : ∀ i j, i < j → j < l.length → l[i]!.ns < l[j]!.ns)
    (hb : ∀ i, i < l.length → l[i]!.base = comm) :
    match searchIdx l k comm with
    | some i => i < l.length ∧ l[i]!.ns ≤ k ∧ ∀ j, i < j → j < l.length → k < l[j]!.ns
    | none => ∀ j, j < l.length → k < l[j]!.ns := by
  unfold searchIdx binarySearch
  by_cases h0 : l.length = 0
  · rw [if_pos h0]; exact fun j hj => absurd hj (by omega)
  have hmono : ∀ i j, i ≤ j → j < l.length → l[i]!.ns ≤ l[j]!.ns := fun i j hij hj =>
    (Nat.eq_or_lt_of_le hij).elim (fun e => e ▸ Int.le_refl _) fun h => Int.le_of_lt (hs i j h hj)
  obtain ⟨hbl, hlo, hhi⟩ := bsLoop_spec l k comm hmono hb l.length 0 l.length (Nat.le_refl _) (by omega)
    ⟨by omega, fun h => absurd h (Nat.lt_irrefl 0), fun j hj hjl => absurd hjl (by omega)⟩
  rw [if_neg h0]
  generalize bsLoop l k comm l.length 0 l.length = b at hbl hlo hhi ⊢
  obtain ⟨-, heq, hlt⟩ := cmpKey_same l[b]! k comm (hb b hbl)
  by_cases h1 : cmpKey l[b]! k comm = .eq
  · rw [if_pos h1]; exact ⟨hbl, Int.le_of_eq (heq.mp h1), hhi⟩
  rw [if_neg h1]
  by_cases h2 : cmpKey l[b]! k comm = .lt
  · rw [if_pos h2]; exact ⟨hbl, Int.le_of_lt (hlt.mp h2), hhi⟩
  rw [if_neg h2]
  -- `l[b]` is later than `k`, which the loop leaves only at index 0: `Err(0)`
  have hk : k < l[b]!.ns := by
    have := mt heq.mpr h1; have := mt hlt.mpr h2; omega
  have hb0 : b = 0 := Nat.eq_zero_of_not_pos fun h => absurd (hlo h) (by omega)
  subst hb0
  intro j hj
  exact (Nat.eq_zero_or_pos j).elim (fun e => e ▸ hk) fun h => hhi j h hj

theorem rateAt_searchIdx (db l : List PriceEntry) (src tgt : String) (hs : l.Pairwise (fun a b => a.ns < b.ns))
    (hl : ∀ e, e ∈ l ↔ e ∈ db ∧ e.base = src ∧ e.target = tgt) (k : Int) :
    RateAt db src tgt (· ≤ k) ((searchIdx l k src).map (l[·]!)) := by
  have hidx : ∀ i j, i < j → j < l.length → l[i]!.ns < l[j]!.ns := fun i j hij hj => by
    rw [getElem!_pos l i (by omega), getElem!_pos l j hj]
    exact List.pairwise_iff_getElem.mp hs i j _ hj hij
  have hmem : ∀ i, i < l.length → l[i]! ∈ l := fun i hi => by
    rw [getElem!_pos l i hi]; exact List.getElem_mem hi
  have hsp := searchIdx_spec l k src hidx fun i hi => ((hl _).mp (hmem i hi)).2.1
  cases hsi : searchIdx l k src with
  | none =>
    rw [hsi] at hsp
    intro e' he' hb ht hp
    obtain ⟨j, hj, rfl⟩ := List.mem_iff_getElem.mp ((hl e').mpr ⟨he', hb, ht⟩)
    rw [← getElem!_pos l j hj] at hp
    exact absurd (hsp j hj) (by omega)
  | some i =>
    rw [hsi] at hsp
    obtain ⟨hi, hle, hright⟩ := hsp
    obtain ⟨hm, hb, ht⟩ := (hl _).mp (hmem i hi)
    refine ⟨hm, hb, ht, hle, fun e' he' hb' ht' hp => ?_⟩
    obtain ⟨j, hj, rfl⟩ := List.mem_iff_getElem.mp ((hl e').mpr ⟨he', hb', ht'⟩)
    rw [← getElem!_pos l j hj] at hp ⊢
    rcases Nat.lt_trichotomy j i with h | rfl | h
    · exact Int.le_of_lt (hidx j i h hi)
    · exact Int.le_refl _
    · exact absurd (hright j h hj) (by omega)

theorem mem_commCache (comm tgt : String) (db : List PriceEntry) (e : PriceEntry) :
    e ∈ commCache comm tgt db ↔ e ∈ db ∧ e.base = comm ∧ e.target = tgt := by
  unfold commCache
  rw [List.mem_mergeSort, List.mem_filter]
  simp only [Bool.and_eq_true, beq_iff_eq]
  exact ⟨fun ⟨h, hb, ht⟩ => ⟨h, hb.symm, ht⟩, fun ⟨h, hb, ht⟩ => ⟨h, hb.symm, ht⟩⟩

/-- on a loaded db the stable re-sort by time of one pair's entries changes nothing -/
theorem commCache_eq (db : List PriceEntry) (hs : db.Pairwise keyLt) (comm tgt : String) :
    commCache comm tgt db = db.filter (fun e => comm == e.base && e.target == tgt) := by
  unfold commCache
  apply List.mergeSort_of_pairwise
  have := hs.sublist (List.filter_sublist (p := fun e => comm == e.base && e.target == tgt))
  exact this.imp (fun {a b} h => by simpa using keyLt_ns_le a b h)

theorem mapGet_foldl_timed (tgt : String) (db : List PriceEntry) :
    ∀ (used : List String) (m : List (String × List PriceEntry)) (k : String),
    mapGet (used.foldl (fun m comm => if (commCache comm tgt db).isEmpty then m
        else mapInsert m comm (commCache comm tgt db)) m) k =
      if k ∈ used ∧ (commCache k tgt db).isEmpty = false then some (commCache k tgt db) else mapGet m k := by
  intro used
  induction used with
  | nil => intro m k; simp
  | cons a t ih =>
    intro m k
    simp only [List.foldl_cons, ih, List.mem_cons]
    grind [mapGet_insert]

/-- the timed cache's entry for a commodity at instant `ns`: cache hit, then binary search -/
def timedEntry (m : List (String × List PriceEntry)) (ns : Int) (src : String) : Option PriceEntry :=
  match mapGet m src with
  | some cc =>
    match searchIdx cc ns src with
    | some i => some cc[i]!
    | none => none
  | none => none

theorem timedCache_spec (db : List PriceEntry) (hs : db.Pairwise keyLt) (used : List String) (tgt : String)
    (src : String) (hu : src ∈ used) (ns : Int) :
    RateAt db src tgt (fun n => n ≤ ns) (timedEntry (timedCache used tgt db) ns src) := by
  have hr : RateAt db src tgt (· ≤ ns) ((searchIdx (commCache src tgt db) ns src).map ((commCache src tgt db)[·]!)) := by
    refine rateAt_searchIdx db _ src tgt ?_ (mem_commCache src tgt db) ns
    rw [commCache_eq db hs]
    refine (hs.sublist List.filter_sublist).imp_of_mem fun {a b} ha hb => ?_
    simp only [List.mem_filter, Bool.and_eq_true, beq_iff_eq] at ha hb
    exact keyLt_same_pair a b (ha.2.1.symm.trans hb.2.1) (ha.2.2.trans hb.2.2.symm)
  unfold timedEntry timedCache
  rw [mapGet_foldl_timed]
  cases he : (commCache src tgt db).isEmpty with
  | false =>
    rw [if_pos ⟨hu, rfl⟩]
    cases h : searchIdx (commCache src tgt db) ns src <;> simpa [h] using hr
  | true =>
    rw [List.isEmpty_iff.mp he] at hr
    simpa [mapGet, searchIdx, binarySearch] using hr

theorem timedCache_unused (db : List PriceEntry) (used : List String) (tgt : String) (src : String)
    (hu : src ∉ used) : mapGet (timedCache used tgt db) src = none := by
  unfold timedCache
  rw [mapGet_foldl_timed]
  simp [hu, mapGet]

def ctxTimedEntry (ctx : Ctx) (ns : Int) (src : String) : Option PriceEntry :=
  match ctx.cache with
  | .timed m => timedEntry m ns src
  | .fixed _ => none

/-- **timed_rate**: under `txn-time` the binary search of `convert_prices_inner` finds `RateAt … (· ≤ ns)` -/
theorem timed_rate (es : List PriceEntry) (txns : List Txn) (tgt : String) (src : String)
    (hsrc : src ∈ usedCommodities txns tgt) (ns : Int) :
    RateAt (loadDb es) src tgt (lookupPred .txnTime ns)
      (ctxTimedEntry (makeCtx .txnTime txns (some tgt) (loadDb es)) ns src) :=
  timedCache_spec (loadDb es) (loadDb_sorted es) _ tgt src hsrc ns

/-! ## 7. what `convert_prices` returns -/

/-- the price entry `convert_prices_inner` applies to posting `p` of transaction `t` (`none`: posting unchanged):
    empty commodity ⇒ none; otherwise cache lookup by the posting's commodity (+ binary search by the
    transaction's instant under txn-time) -/
def appliedEntry (cache : Cache) (tgt : String) (t : Txn) (p : Posting) : Option PriceEntry :=
  if p.comm = "" then none else
  match cache with
  | .fixed m => fixedEntry m p.comm tgt
  | .timed m => timedEntry m t.header.ts.ns p.comm

def isTimed : Cache → Bool
  | .timed _ => true
  | .fixed _ => false

/-- the value computed for a posting to which entry `e` is applied: amount × rate in the report commodity;
    the rate is reported per posting only by the timed cache -/
def valued (timed : Bool) (tgt : String) (p : Posting) (e : PriceEntry) : Outcome Converted :=
  (Outcome.ofOption (Dec.mul p.amount e.rate)).map (fun a => ⟨p.acct, tgt, a, if timed then some e.rate else none⟩)

/-- `appliedEntry` in the context's terms: `ctxFixedEntry` and `ctxTimedEntry` (of `fixed_rate`, `timed_rate`) are its
    two branches, and only the one of the context's cache kind can be `some` -/
theorem appliedEntry_eq_ctx (ctx : Ctx) (tgt : String) (t : Txn) (p : Posting) (hc : p.comm ≠ "") :
    appliedEntry ctx.cache tgt t p = (ctxFixedEntry ctx p.comm tgt).or (ctxTimedEntry ctx t.header.ts.ns p.comm) := by
  obtain ⟨c, _⟩ := ctx
  cases c <;> simp [appliedEntry, ctxFixedEntry, ctxTimedEntry, hc]

theorem convertPosting_eq (cache : Cache) (tgt : String) (t : Txn) (p : Posting) :
    convertPosting cache tgt t p =
      match appliedEntry cache tgt t p with
      | some e => valued (isTimed cache) tgt p e
      | none => .ok (unchanged p) := by
  unfold convertPosting appliedEntry valued
  by_cases hc : p.comm = ""
  · simp [hc]
  · have hc' : (p.comm == "") = false := by simpa using hc
    simp only [hc', Bool.false_eq_true, if_false, hc]
    cases cache with
    | fixed m =>
      simp only [fixedEntry, isTimed]
      cases mapGet m p.comm <;> simp
    | timed m =>
      simp only [timedEntry, isTimed]
      cases mapGet m p.comm with
      | none => simp
      | some cc =>
        simp only []
        cases hsi : searchIdx cc t.header.ts.ns p.comm <;> simp

theorem valued_ok (timed : Bool) (tgt : String) (p : Posting) (e : PriceEntry) (c : Converted) :
    valued timed tgt p e = .ok c ↔
      ∃ a, Dec.mul p.amount e.rate = some a ∧ c = ⟨p.acct, tgt, a, if timed then some e.rate else none⟩ := by
  unfold valued
  cases Dec.mul p.amount e.rate <;> simp [Outcome.ofOption, Outcome.map, eq_comm]

theorem appliedEntry_fixed_some (m : List (String × (Int × Dec))) (tgt : String) (t : Txn) (p : Posting)
    (e : PriceEntry) : appliedEntry (.fixed m) tgt t p = some e ↔
      p.comm ≠ "" ∧ ∃ c, mapGet m p.comm = some c ∧ e = ⟨c.1, p.comm, c.2, tgt⟩ := by
  unfold appliedEntry fixedEntry
  by_cases hc : p.comm = ""
  · simp [hc]
  · rw [if_neg hc, Option.map_eq_some_iff]
    exact ⟨fun ⟨c, h, he⟩ => ⟨hc, c, h, he.symm⟩, fun ⟨_, c, h, he⟩ => ⟨c, h, he.symm⟩⟩

/-- the entry applied satisfies the specification, under every lookup type (under `none` the cache is empty and no
    instant qualifies) -/
theorem appliedEntry_spec (es : List PriceEntry) (txns : List Txn) (tgt : String) (lk : PriceLookup)
    (t : Txn) (p : Posting) (hc : p.comm ≠ "") (hu : p.comm ∈ usedCommodities txns tgt) :
    RateAt (loadDb es) p.comm tgt (lookupPred lk t.header.ts.ns)
      (appliedEntry (makeCtx lk txns (some tgt) (loadDb es)).cache tgt t p) := by
  unfold appliedEntry
  rw [if_neg hc]
  cases lk with
  | none => exact fun _ _ _ _ h => h
  | txnTime => exact timedCache_spec (loadDb es) (loadDb_sorted es) _ tgt p.comm hu _
  | lastPrice => exact fixedCache_spec (loadDb es) (loadDb_sorted es) _ tgt none p.comm hu
  | givenTime g => exact fixedCache_spec (loadDb es) (loadDb_sorted es) _ tgt (some g) p.comm hu

theorem appliedEntry_unused (db : List PriceEntry) (txns : List Txn) (tgt : String) (lk : PriceLookup)
    (t : Txn) (p : Posting) (hu : p.comm ∉ usedCommodities txns tgt) :
    appliedEntry (makeCtx lk txns (some tgt) db).cache tgt t p = none := by
  unfold appliedEntry
  split
  · rfl
  · cases lk <;> simp [makeCtx, Ctx.default, fixedEntry, timedEntry, mapGet, timedCache_unused _ _ _ _ hu,
      fixedCache_unused _ _ _ _ _ hu]

theorem appliedEntry_rateAt (es : List PriceEntry) (txns : List Txn) (tgt : String) (lk : PriceLookup)
    (t : Txn) (ht : t ∈ txns) (p : Posting) (hp : p ∈ t.posts) :
    ((p.comm = "" ∨ p.comm = tgt) → appliedEntry (makeCtx lk txns (some tgt) (loadDb es)).cache tgt t p = none) ∧
    (p.comm ≠ "" → p.comm ≠ tgt →
      RateAt (loadDb es) p.comm tgt (lookupPred lk t.header.ts.ns)
        (appliedEntry (makeCtx lk txns (some tgt) (loadDb es)).cache tgt t p)) := by
  constructor
  · rintro (hc | hc)
    · simp [appliedEntry, hc]
    · exact appliedEntry_unused _ txns tgt lk t p fun hm => ((mem_usedCommodities txns tgt p.comm).mp hm).1 hc
  · intro h1 h2
    exact appliedEntry_spec es txns tgt lk t p h1 ((mem_usedCommodities txns tgt p.comm).mpr ⟨h2, t, ht, p, hp, rfl⟩)

/-- **convert_value**: a posting without commodity or already in the report commodity stays unchanged; any other
    posting of the set is valued `amount × rate` in the report commodity, `rate` that of the `RateAt` entry, and
    stays unchanged when there is no such entry -/
theorem convert_value (es : List PriceEntry) (txns : List Txn) (tgt : String) (lk : PriceLookup)
    (hlk : lk ≠ .none) (t : Txn) (ht : t ∈ txns) (p : Posting) (hp : p ∈ t.posts) :
    ((p.comm = "" ∨ p.comm = tgt) →
        convertPosting (makeCtx lk txns (some tgt) (loadDb es)).cache tgt t p = .ok (unchanged p)) ∧
    (p.comm ≠ "" → p.comm ≠ tgt →
      ∃ r, RateAt (loadDb es) p.comm tgt (lookupPred lk t.header.ts.ns) r ∧
        convertPosting (makeCtx lk txns (some tgt) (loadDb es)).cache tgt t p =
          match r with
          | some e => valued (decide (lk = .txnTime)) tgt p e
          | none => .ok (unchanged p)) := by
  obtain ⟨h0, h1⟩ := appliedEntry_rateAt es txns tgt lk t ht p hp
  have htimed : isTimed (makeCtx lk txns (some tgt) (loadDb es)).cache = decide (lk = .txnTime) := by
    cases lk <;> rfl
  exact ⟨fun h => by rw [convertPosting_eq, h0 h],
    fun hc hne => ⟨_, h1 hc hne, by rw [convertPosting_eq, htimed]⟩⟩

/-- value layer of `valued`: the converted amount is exactly amount × rate -/
theorem convert_value_units (timed : Bool) (tgt : String) (p : Posting) (e : PriceEntry) (c : Converted)
    (h : valued timed tgt p e = .ok c) :
    c.amount.units * (10:Int)^28 = p.amount.units * e.rate.units ∧ c.comm = tgt ∧ c.acct = p.acct := by
  obtain ⟨a, hm, rfl⟩ := (valued_ok timed tgt p e c).mp h
  exact ⟨(Dec.mul_units _ _ _ hm).1, rfl, rfl⟩

/-- conversion never fails with an error; it leaves the modelled domain only when amount × rate is not
    exactly representable -/
theorem convert_never_err (cache : Cache) (tgt : String) (t : Txn) (p : Posting) :
    convertPosting cache tgt t p ≠ .err := by
  rw [convertPosting_eq]
  cases appliedEntry cache tgt t p with
  | none => simp
  | some e =>
    unfold valued
    cases hm : Dec.mul p.amount e.rate <;> simp [hm, Outcome.ofOption, Outcome.map]

/-- **no_invented**: whenever conversion changes a posting, the result is in the report commodity and its amount is
    `amount × rate` for a rate *literally in the price file* for the pair (posting's commodity → report commodity):
    no inverse rate, no chain through a third commodity, no rate of another pair -/
theorem no_invented (es : List PriceEntry) (txns : List Txn) (tgt : String) (lk : PriceLookup)
    (t : Txn) (p : Posting) (c : Converted)
    (h : convertPosting (makeCtx lk txns (some tgt) (loadDb es)).cache tgt t p = .ok c) (hch : c ≠ unchanged p) :
    ∃ e ∈ es, e.base = p.comm ∧ e.target = tgt ∧ Dec.mul p.amount e.rate = some c.amount ∧
      c.comm = tgt ∧ c.acct = p.acct ∧ p.comm ≠ "" ∧ p.comm ≠ tgt := by
  rw [convertPosting_eq] at h
  cases ha : appliedEntry (makeCtx lk txns (some tgt) (loadDb es)).cache tgt t p with
  | none => rw [ha] at h; exact absurd (Outcome.ok.inj h).symm hch
  | some e =>
    have hc : p.comm ≠ "" := fun hc => by simp [appliedEntry, hc] at ha
    have hu : p.comm ∈ usedCommodities txns tgt := Classical.byContradiction fun hu => by
      rw [appliedEntry_unused _ _ _ _ _ _ hu] at ha; cases ha
    have hspec := appliedEntry_spec es txns tgt lk t p hc hu
    rw [ha] at h hspec
    obtain ⟨a, hmul, rfl⟩ := (valued_ok _ tgt p e c).mp h
    exact ⟨e, loadDb_subset es e hspec.1, hspec.2.1, hspec.2.2.1, hmul, rfl, rfl, hc,
      ((mem_usedCommodities txns tgt p.comm).mp hu).1⟩

/-- without a report commodity or with lookup `none` nothing is converted -/
theorem no_conversion (txns : List Txn) (db : List PriceEntry) (t : Txn) :
    (∀ lk, convertPrices (makeCtx lk txns none db) t = .ok (t.posts.map unchanged)) ∧
    (∀ rc, convertPrices (makeCtx .none txns rc db) t = .ok (t.posts.map unchanged)) := by
  constructor
  · intro lk; simp [makeCtx, Ctx.default, convertPrices]
  · intro rc; cases rc <;> simp [makeCtx, Ctx.default, convertPrices]

/-- `mapO` answers `.ok bs` exactly when `f` answers `.ok` on every element, with these values -/
theorem mapO_ok_iff {α β} (f : α → Outcome β) : ∀ (l : List α) (bs : List β),
    mapO f l = .ok bs ↔ l.map f = bs.map .ok
  | [], bs => by cases bs <;> simp [mapO]
  | a :: t, [] => by rw [mapO]; cases f a <;> cases mapO f t <;> simp
  | a :: t, b :: bs => by
    have ih := mapO_ok_iff f t bs
    rw [mapO]
    cases hfa : f a <;> cases hm : mapO f t <;> simp_all

theorem mapO_map {α β} (f : α → Outcome β) (g : α → β) (l : List α) (h : ∀ a ∈ l, f a = .ok (g a)) :
    mapO f l = .ok (l.map g) :=
  (mapO_ok_iff f l _).mpr (by rw [List.map_map]; exact List.map_congr_left h)

theorem mapO_ok {α β} (f : α → Outcome β) (l : List α) (bs : List β) (h : mapO f l = .ok bs) :
    bs.length = l.length ∧ ∀ ab ∈ l.zip bs, f ab.1 = .ok ab.2 := by
  rw [mapO_ok_iff] at h
  have hl : bs.length = l.length := by simpa using (congrArg List.length h).symm
  refine ⟨hl, fun ab hab => ?_⟩
  obtain ⟨i, hi, rfl⟩ := List.mem_iff_getElem.mp hab
  simp only [List.length_zip, hl, Nat.min_self] at hi
  have := congrArg (·[i]?) h
  simp only [List.getElem?_map, List.getElem?_eq_getElem hi, List.getElem?_eq_getElem (hl ▸ hi), Option.map_some] at this
  simpa using this

theorem makeCtx_in (lk : PriceLookup) (txns : List Txn) (tgt : String) (db : List PriceEntry) (hlk : lk ≠ .none) :
    (makeCtx lk txns (some tgt) db).inCommodity = some tgt := by
  cases lk <;> first | rfl | exact absurd rfl hlk

/-- `convert_prices` converts posting by posting, in order, same number of postings -/
theorem convertPrices_pointwise (lk : PriceLookup) (txns : List Txn) (tgt : String) (db : List PriceEntry)
    (t : Txn) (cs : List Converted) (hlk : lk ≠ .none)
    (h : convertPrices (makeCtx lk txns (some tgt) db) t = .ok cs) :
    cs.length = t.posts.length ∧
      ∀ pc ∈ t.posts.zip cs, convertPosting (makeCtx lk txns (some tgt) db).cache tgt t pc.1 = .ok pc.2 := by
  unfold convertPrices at h
  rw [makeCtx_in lk txns tgt db hlk] at h
  exact mapO_ok _ _ _ h

/-! ## 8. metadata -/

theorem mem_sortByKey {β} (m : List (String × β)) (x : String × β) : x ∈ sortByKey m ↔ x ∈ m := by
  unfold sortByKey; exact List.mem_mergeSort

theorem keys_sortByKey_nodup {β} (m : List (String × β)) (h : (keys m).Nodup) : (keys (sortByKey m)).Nodup :=
  ((List.mergeSort_perm m _).map _).nodup_iff.mpr h

theorem sortByKey_strict {β} (m : List (String × β)) (h : (keys m).Nodup) :
    (sortByKey m).Pairwise (fun a b => a.1 < b.1) := by
  have hle : (sortByKey m).Pairwise (fun a b => decide (a.1 ≤ b.1) = true) := by
    unfold sortByKey
    apply List.pairwise_mergeSort
    · intro a b c h1 h2
      simp only [decide_eq_true_eq] at h1 h2 ⊢
      exact String.le_trans h1 h2
    · intro a b
      simp only [Bool.or_eq_true, decide_eq_true_eq]
      exact String.le_total a.1 b.1
  have hne : (sortByKey m).Pairwise (fun a b => a.1 ≠ b.1) :=
    List.pairwise_map.mp (keys_sortByKey_nodup m h)
  refine (List.Pairwise.and hle hne).imp ?_
  intro a b ⟨h1, h2⟩
  have h1' : a.1 ≤ b.1 := by simpa using h1
  exact String.not_le.mp (fun hba => h2 (String.le_antisymm h1' hba))

theorem fixedCache_keys_nodup (used : List String) (tgt : String) (bound : Option Int) (db : List PriceEntry) :
    (keys (fixedCache used tgt bound db)).Nodup := by
  unfold fixedCache
  exact keys_foldl_nodup _ [] (by simp [keys])

theorem fixedCache_some (db : List PriceEntry) (hs : db.Pairwise keyLt) (used : List String) (tgt : String)
    (bound : Option Int) (k : String) (c : Int × Dec) (h : mapGet (fixedCache used tgt bound db) k = some c) :
    k ∈ used ∧ RateAt db k tgt (boundPred bound) (some ⟨c.1, k, c.2, tgt⟩) := by
  have hu : k ∈ used := Classical.byContradiction fun hn => by
    rw [fixedCache_unused _ _ _ _ _ hn] at h; cases h
  have hr := fixedCache_spec db hs used tgt bound k hu
  rw [fixedEntry, h] at hr
  exact ⟨hu, hr⟩

theorem mem_metadata_fixed (m : List (String × (Int × Dec))) (hnd : (keys m).Nodup) (tgt : String) (r : PriceRecord) :
    r ∈ metadata ⟨.fixed m, some tgt⟩ ↔ ∃ k c, mapGet m k = some c ∧ r = ⟨some c.1, k, some c.2, tgt⟩ := by
  simp only [metadata, List.mem_map, mem_sortByKey]
  constructor
  · rintro ⟨⟨k, c⟩, hkv, rfl⟩; exact ⟨k, c, (mem_iff_mapGet m hnd k c).mp hkv, rfl⟩
  · rintro ⟨k, c, h, rfl⟩; exact ⟨(k, c), (mem_iff_mapGet m hnd k c).mpr h, rfl⟩

/-- **metadata_true**: under the fixed lookups (`last-price`, `given-time`) the metadata records are exactly the
    (time, source commodity, rate, report commodity) of the price entries that `convert_prices` applies to some
    posting of the transaction set; every source commodity appears once, in name order.
    Hypothesis: non-empty base commodities (price-file grammar). -/
theorem metadata_true (es : List PriceEntry) (hwf : ∀ e ∈ es, e.base ≠ "") (txns : List Txn) (tgt : String)
    (lk : PriceLookup) (hlk : lk = .lastPrice ∨ ∃ g, lk = .givenTime g) :
    (∀ r : PriceRecord, r ∈ metadata (makeCtx lk txns (some tgt) (loadDb es)) ↔
      ∃ e, ∃ t ∈ txns, ∃ p ∈ t.posts,
        appliedEntry (makeCtx lk txns (some tgt) (loadDb es)).cache tgt t p = some e ∧
        r = ⟨some e.ns, e.base, some e.rate, tgt⟩) ∧
    (metadata (makeCtx lk txns (some tgt) (loadDb es))).Pairwise (fun a b => a.source < b.source) := by
  obtain ⟨bound, hctx, -⟩ := makeCtx_fixed lk hlk txns tgt (loadDb es)
  rw [hctx]
  have hnd := fixedCache_keys_nodup (usedCommodities txns tgt) tgt bound (loadDb es)
  refine ⟨fun r => ?_, List.pairwise_map.mpr ((sortByKey_strict _ hnd).imp fun h => h)⟩
  rw [mem_metadata_fixed _ hnd]
  constructor
  · rintro ⟨k, c, hget, rfl⟩
    obtain ⟨hu, hr⟩ := fixedCache_some (loadDb es) (loadDb_sorted es) _ tgt bound k c hget
    obtain ⟨_, t, ht, p, hp, rfl⟩ := (mem_usedCommodities txns tgt k).mp hu
    exact ⟨⟨c.1, p.comm, c.2, tgt⟩, t, ht, p, hp,
      (appliedEntry_fixed_some _ tgt t p _).mpr ⟨hwf _ (loadDb_subset es _ hr.1), c, hget, rfl⟩, rfl⟩
  · rintro ⟨e, t, ht, p, hp, happ, rfl⟩
    obtain ⟨_, c, hget, rfl⟩ := (appliedEntry_fixed_some _ tgt t p e).mp happ
    exact ⟨p.comm, c, hget, rfl⟩

theorem metadata_rateAt (es : List PriceEntry) (txns : List Txn) (tgt : String)
    (lk : PriceLookup) (hlk : lk = .lastPrice ∨ ∃ g, lk = .givenTime g) (r : PriceRecord)
    (hr : r ∈ metadata (makeCtx lk txns (some tgt) (loadDb es))) :
    ∃ e, RateAt (loadDb es) r.source tgt (lookupPred lk 0) (some e) ∧
      r = ⟨some e.ns, e.base, some e.rate, tgt⟩ ∧ r.source ∈ usedCommodities txns tgt := by
  obtain ⟨bound, hctx, hpred⟩ := makeCtx_fixed lk hlk txns tgt (loadDb es)
  rw [hctx] at hr
  rw [hpred]
  obtain ⟨k, c, hget, rfl⟩ := (mem_metadata_fixed _ (fixedCache_keys_nodup _ _ _ _) tgt r).mp hr
  obtain ⟨hu, hrate⟩ := fixedCache_some (loadDb es) (loadDb_sorted es) _ tgt bound k c hget
  exact ⟨⟨c.1, k, c.2, tgt⟩, hrate, rfl, hu⟩

theorem keys_foldl_timed_nodup (tgt : String) (db : List PriceEntry) :
    ∀ (used : List String) (m : List (String × List PriceEntry)), (keys m).Nodup →
    (keys (used.foldl (fun m comm => if (commCache comm tgt db).isEmpty then m
        else mapInsert m comm (commCache comm tgt db)) m)).Nodup := by
  intro used
  induction used with
  | nil => intro m h; simpa using h
  | cons a t ih =>
    intro m h
    simp only [List.foldl_cons]
    apply ih
    split
    · exact h
    · exact keys_insert_nodup m _ _ h

/-- txn-time: the metadata names (without time and rate, which vary per transaction) exactly the used
    commodities that have at least one entry into the report commodity; each once, in name order.
    The rate applied to a posting is reported with the posting itself (`valued true …` in `convert_value`). -/
theorem metadata_timed (db : List PriceEntry) (txns : List Txn) (tgt : String) :
    (∀ r : PriceRecord, r ∈ metadata (makeCtx .txnTime txns (some tgt) db) ↔
      ∃ src ∈ usedCommodities txns tgt, (∃ e ∈ db, e.base = src ∧ e.target = tgt) ∧ r = ⟨none, src, none, tgt⟩) ∧
    (metadata (makeCtx .txnTime txns (some tgt) db)).Pairwise (fun a b => a.source < b.source) := by
  have hnd : (keys (timedCache (usedCommodities txns tgt) tgt db)).Nodup :=
    keys_foldl_timed_nodup tgt db _ [] List.nodup_nil
  have hget : ∀ src cc, mapGet (timedCache (usedCommodities txns tgt) tgt db) src = some cc ↔
      (src ∈ usedCommodities txns tgt ∧ ∃ e ∈ db, e.base = src ∧ e.target = tgt) ∧ cc = commCache src tgt db := by
    intro src cc
    simp only [timedCache, mapGet_foldl_timed, List.isEmpty_eq_false_iff_exists_mem, mem_commCache]
    split
    · next h => exact ⟨fun e => ⟨h, (Option.some.inj e).symm⟩, fun e => congrArg some e.2.symm⟩
    · next h => exact ⟨nofun, fun e => absurd e.1 h⟩
  refine ⟨fun r => ?_, List.pairwise_map.mpr ((sortByKey_strict _ hnd).imp fun h => h)⟩
  simp only [makeCtx, metadata, List.mem_map, mem_sortByKey]
  constructor
  · rintro ⟨⟨k, cc⟩, hkv, rfl⟩
    obtain ⟨⟨hu, hex⟩, _⟩ := (hget k cc).mp ((mem_iff_mapGet _ hnd k cc).mp hkv)
    exact ⟨k, hu, hex, rfl⟩
  · rintro ⟨src, hu, hex, rfl⟩
    exact ⟨(src, commCache src tgt db), (mem_iff_mapGet _ hnd src _).mpr ((hget src _).mpr ⟨⟨hu, hex⟩, rfl⟩), rfl⟩

/-- corollary of `db_order_free`: every converted figure and the metadata are independent of the order of the
    entries in the price file -/
theorem result_order_free (es es' : List PriceEntry) (hp : es.Perm es') (hd : DistinctKeys es)
    (lk : PriceLookup) (txns : List Txn) (rc : Option String) (t : Txn) :
    convertPrices (makeCtx lk txns rc (loadDb es)) t = convertPrices (makeCtx lk txns rc (loadDb es')) t ∧
    metadata (makeCtx lk txns rc (loadDb es)) = metadata (makeCtx lk txns rc (loadDb es')) := by
  rw [db_order_free es es' hp hd]
  exact ⟨rfl, rfl⟩

/-! ## 9. non-vacuity and regression witnesses

A concrete price file in arbitrary order: three `USD → EUR` entries (instants 10, 20, 30), a duplicate key at
instant 10 (the first in file order wins), the inverse pair `EUR → USD`, a chain `ACME → GBP → EUR`, and a self
rate `EUR → EUR` (F10).  Transactions at instants 9, 20 and 25. -/
namespace Ex

def d (n : Int) : Dec := Dec.ofInt n
def hdr (ns : Int) : Header := ⟨⟨ns, 0⟩, none, none, none, none, none, none⟩
def post (a : String) (n : Int) (c : String) : Posting := ⟨[a], c, d n, d n, false, c, none⟩

def file : List PriceEntry := [
  ⟨30, "USD", d 4, "EUR"⟩, ⟨10, "USD", d 2, "EUR"⟩, ⟨20, "EUR", d 7, "USD"⟩, ⟨20, "USD", d 3, "EUR"⟩,
  ⟨5, "EUR", d 2, "EUR"⟩, ⟨15, "ACME", d 9, "GBP"⟩, ⟨15, "GBP", d 8, "EUR"⟩, ⟨10, "USD", d 6, "EUR"⟩]

def db : List PriceEntry := [
  ⟨5, "EUR", d 2, "EUR"⟩, ⟨10, "USD", d 2, "EUR"⟩, ⟨15, "ACME", d 9, "GBP"⟩, ⟨15, "GBP", d 8, "EUR"⟩,
  ⟨20, "EUR", d 7, "USD"⟩, ⟨20, "USD", d 3, "EUR"⟩, ⟨30, "USD", d 4, "EUR"⟩]

def t0 : Txn := ⟨hdr 9, [post "a" 1 "USD", post "b" (-1) "USD"]⟩
def t1 : Txn := ⟨hdr 20, [post "a" 10 "USD", post "b" (-10) "USD"]⟩
def t2 : Txn := ⟨hdr 25, [post "c" 5 "EUR", post "e" 1 "ACME", post "f" 1 ""]⟩
def txns : List Txn := [t0, t1, t2]

/-- sorted by (instant, base, target); of the two entries with key (10, USD, EUR) the first in file order stays -/
theorem load_file : loadDb file = db := by
  simp [loadDb, file, db, List.mergeSort, entryLe, dedup, dedupFrom, entryEq, d, Dec.ofInt]

/-- the hypotheses of `db_order_free` and `metadata_true` are satisfiable -/
example : DistinctKeys (file.take 7) := by unfold DistinctKeys; decide
example : ∀ e ∈ file, e.base ≠ "" := by decide
example : loadDb (file.take 7) = loadDb (file.take 7).reverse :=
  db_order_free _ _ (List.reverse_perm _).symm (by unfold DistinctKeys; decide)

theorem usd_used : "USD" ∈ usedCommodities txns "EUR" :=
  (mem_usedCommodities txns "EUR" "USD").mpr ⟨by decide, t1, by simp [txns], post "a" 10 "USD", by simp [t1], rfl⟩

theorem acme_used : "ACME" ∈ usedCommodities txns "EUR" :=
  (mem_usedCommodities txns "EUR" "ACME").mpr ⟨by decide, t2, by simp [txns], post "e" 1 "ACME", by simp [t2], rfl⟩

theorem rate_eq {src : String} {P : Int → Prop} {r r' : Option PriceEntry}
    (h : RateAt (loadDb file) src "EUR" P r) (h' : RateAt db src "EUR" P r') : r = r' :=
  RateAt_unique _ (loadDb_sorted file) _ _ _ _ _ h (load_file ▸ h')

/-- boundary: an entry exactly at the transaction instant is the one applied under txn-time (`≤`) -/
example : ctxTimedEntry (makeCtx .txnTime txns (some "EUR") (loadDb file)) 20 "USD" = some ⟨20, "USD", d 3, "EUR"⟩ :=
  rate_eq (timed_rate file txns "EUR" "USD" usd_used 20) (by unfold RateAt lookupPred; decide)

/-- one nanosecond earlier the previous entry applies (and of the duplicate key the first one: rate 2, not 6) -/
example : ctxTimedEntry (makeCtx .txnTime txns (some "EUR") (loadDb file)) 19 "USD" = some ⟨10, "USD", d 2, "EUR"⟩ :=
  rate_eq (timed_rate file txns "EUR" "USD" usd_used 19) (by unfold RateAt lookupPred; decide)

/-- no entry at or before the transaction (instant 9): no rate, the posting stays unchanged -/
example : ctxTimedEntry (makeCtx .txnTime txns (some "EUR") (loadDb file)) 9 "USD" = none :=
  rate_eq (timed_rate file txns "EUR" "USD" usd_used 9) (by unfold RateAt lookupPred; decide)

/-- boundary: given-time is strict (`<`): with the given instant 20 the entry at 20 is not used -/
example : ctxFixedEntry (makeCtx (.givenTime 20) txns (some "EUR") (loadDb file)) "USD" "EUR" = some ⟨10, "USD", d 2, "EUR"⟩ :=
  rate_eq (fixed_rate file txns "EUR" (.givenTime 20) (Or.inr ⟨20, rfl⟩) "USD" usd_used 0) (by unfold RateAt lookupPred; decide)

/-- last-price: the latest entry overall -/
example : ctxFixedEntry (makeCtx .lastPrice txns (some "EUR") (loadDb file)) "USD" "EUR" = some ⟨30, "USD", d 4, "EUR"⟩ :=
  rate_eq (fixed_rate file txns "EUR" .lastPrice (Or.inl rfl) "USD" usd_used 0) (by unfold RateAt lookupPred; decide)

/-- only a chain `ACME → GBP → EUR` exists: no rate is invented for ACME -/
example : ctxFixedEntry (makeCtx .lastPrice txns (some "EUR") (loadDb file)) "ACME" "EUR" = none :=
  rate_eq (fixed_rate file txns "EUR" .lastPrice (Or.inl rfl) "ACME" acme_used 0) (by unfold RateAt lookupPred; decide)

/-- witness of F10: with the self rate `EUR → EUR` in the price file, a posting in the report commodity EUR stays
    unchanged under every lookup -/
example (lk : PriceLookup) (hlk : lk ≠ .none) :
    convertPosting (makeCtx lk txns (some "EUR") (loadDb file)).cache "EUR" t2 (post "c" 5 "EUR")
      = .ok (unchanged (post "c" 5 "EUR")) :=
  (convert_value file txns "EUR" lk hlk t2 (by simp [txns]) (post "c" 5 "EUR") (by simp [t2])).1 (Or.inr rfl)

def tsMax : Int := 253402207200999999999
/-- witness of F19: last-price uses an entry at the largest representable instant (jiff `Timestamp::MAX`) -/
example : ctxFixedEntry (makeCtx .lastPrice txns (some "EUR") (loadDb [⟨tsMax, "USD", d 5, "EUR"⟩])) "USD" "EUR"
    = some ⟨tsMax, "USD", d 5, "EUR"⟩ := by
  apply RateAt_unique _ (loadDb_sorted _) "USD" "EUR" _ _ _
    (fixed_rate [⟨tsMax, "USD", d 5, "EUR"⟩] txns "EUR" .lastPrice (Or.inl rfl) "USD" usd_used 0)
  have : loadDb [⟨tsMax, "USD", d 5, "EUR"⟩] = [⟨tsMax, "USD", d 5, "EUR"⟩] := by
    simp [loadDb, dedup, dedupFrom]
  rw [this]
  refine ⟨by simp, rfl, rfl, by simp [lookupPred], ?_⟩
  intro e' he' _ _ _
  simp at he'; subst he'; exact Int.le_refl _

end Ex

end C07
end Tackler
