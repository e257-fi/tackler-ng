import TacklerModel.Model.Charts
import TacklerModel.Lemmas.Accept
import TacklerModel.Lemmas.OutcomeRel
/-!
# C12 — strict mode accepts exactly the journals that use only declared names

Model: `Model/Settings.lean` (`accountTreesFrom`, `getOrCreateCommodity`, `getOrCreateTxnAccount`,
`getOrCreateTag`, `getTxnAccount`), `Model/Accept.lean` (`acceptJournal` and its parts),
`Model/Charts.lean` (`settingsTryFrom`: report commodity, price-file commodities, equity account).

Property theorems (arbitrary journals, charts and settings):

* `strict_iff` / `strict_iff_config` / `strict_iff_cfg` — strict mode accepts a journal (the whole load), yielding
  `ts`, iff every account, commodity (posting, closing price; report and price-file commodity) and tag it uses is
  declared and lax mode with the same switches accepts it, yielding the same `ts`, whatever the lax charts are.
* `strict_frozen` — in strict mode reading a journal never changes the charts; `modes_agree`.
* `synthetic_only_reports` — an undeclared ancestor of a declared account cannot be posted to, but `getTxnAccount`
  (report lookup) finds it.
* `lax_chart_free`, `lax_chart_free_outcome`, `lax_chart_free_config` — with strict mode off the three-valued outcome
  and the accepted transactions do not depend on the charts.
* `lax_ancestor_closed`, `ofConfig_closed`, `report_parents_ok` — the account chart stays ancestor-closed in lax mode
  (declared + synthetic closed in strict mode), hence the balance kernel's lookup succeeds for every ancestor of
  every posted account; the witnesses at the end show what fails otherwise (finding F9).

Not covered: equality of the *report texts* between modes/charts (reports are not modelled here; the tie's oracle
checks it on the implementation).

How it goes: the three chart look-ups are characterised once (`goc_eq_ok` … `gocta_eq_err`), the load path is written
as chains of `bind`s.  In strict mode a successful step used declared names only and left the charts frozen
(`acceptTxn_strict`, …); a run agrees three-valued with a lax run with the same switches if its names are declared
when it is strict (`acceptTxn_decl`, `acceptJournal_decl`, `acceptWithCfg_decl`), an instance of the simulation
`acceptTxn_rel` for any relation the look-ups respect (`Respects`; `Lemmas/OutcomeRel.lean`).  `acceptJournal_iff`
joins the two, `declared_iff` restates `PTxn` on the lists of used names (`Declared`).  `Grow`: chart growth.
-/

namespace Tackler
namespace C12

/-! ### account chart: ancestors -/

def HasParent (other l : List Path) (q : Path) : Prop :=
  q.length ≤ 1 ∨ parentPath q ∈ other ∨ parentPath q ∈ l

theorem HasParent.mono {other l l' : List Path} {q : Path} (h : HasParent other l q) (hs : ∀ x ∈ l, x ∈ l') :
    HasParent other l' q := by
  rcases h with h | h | h
  · exact .inl h
  · exact .inr (.inl h)
  · exact .inr (.inr (hs _ h))

theorem HasParent.of_nil {l : List Path} {q : Path} (h : HasParent [] l q) : q.length ≤ 1 ∨ parentPath q ∈ l :=
  Or.imp_right (fun h => h.resolve_left List.not_mem_nil) h

theorem parentPath_length (p : Path) : (parentPath p).length = p.length - 1 := by
  simp [parentPath]

theorem buildAccountTree_spec (other : List Path) : ∀ (fuel : Nat) (target : List Path) (p : Path), p.length ≤ fuel →
    (∀ x ∈ target, x ∈ buildAccountTree other fuel target p) ∧
    HasParent other (buildAccountTree other fuel target p) p ∧
    (∀ q ∈ buildAccountTree other fuel target p, q ∉ target → HasParent other (buildAccountTree other fuel target p) q) := by
  intro fuel
  induction fuel with
  | zero =>
    intro target p hp
    simp only [buildAccountTree]
    exact ⟨fun _ h => h, .inl (by omega), fun q hq hn => absurd hq hn⟩
  | succ fuel ih =>
    intro target p hp
    simp only [buildAccountTree]
    split
    · rename_i h1
      exact ⟨fun _ h => h, .inl h1, fun q hq hn => absurd hq hn⟩
    · split
      · rename_i h2
        exact ⟨fun _ h => h, .inr h2, fun q hq hn => absurd hq hn⟩
      · rename_i h1 h2
        have hlen : (parentPath p).length ≤ fuel := by rw [parentPath_length]; omega
        obtain ⟨hsub, hgood, hnew⟩ := ih (target ++ [parentPath p]) (parentPath p) hlen
        refine ⟨fun x hx => hsub x (by simp [hx]), ?_, ?_⟩
        · exact .inr (.inr (hsub _ (by simp)))
        · intro q hq hn
          by_cases hqt : q ∈ target ++ [parentPath p]
          · have : q = parentPath p := by
              rcases List.mem_append.mp hqt with h | h
              · exact absurd h hn
              · simpa using h
            subst this
            exact hgood
          · exact hnew q hq hqt

theorem buildParents_spec (other target : List Path) (p : Path) :
    (∀ x ∈ target, x ∈ buildParents other target p) ∧
    HasParent other (buildParents other target p) p ∧
    (∀ q ∈ buildParents other target p, q ∉ target → HasParent other (buildParents other target p) q) :=
  buildAccountTree_spec other p.length target p (Nat.le_refl _)

/-- the fold of `build_account_tree` over a list of accounts (`AccountTrees::from`) -/
theorem foldl_buildParents_spec (other : List Path) : ∀ (l acc : List Path),
    (∀ x ∈ acc, x ∈ l.foldl (fun t p => buildParents other t p) acc) ∧
    (∀ q ∈ l, HasParent other (l.foldl (fun t p => buildParents other t p) acc) q) ∧
    (∀ q ∈ l.foldl (fun t p => buildParents other t p) acc, q ∉ acc →
        HasParent other (l.foldl (fun t p => buildParents other t p) acc) q) := by
  intro l
  induction l with
  | nil =>
    intro acc
    refine ⟨fun _ h => h, ?_, fun q hq hn => absurd hq hn⟩
    intro q hq
    cases hq
  | cons p t ih =>
    intro acc
    simp only [List.foldl_cons]
    obtain ⟨hsub, hgood, hnew⟩ := buildParents_spec other acc p
    obtain ⟨isub, igood, inew⟩ := ih (buildParents other acc p)
    refine ⟨fun x hx => isub x (hsub x hx), ?_, ?_⟩
    · intro q hq
      rcases List.mem_cons.mp hq with rfl | hq
      · exact hgood.mono isub
      · exact igood q hq
    · intro q hq hn
      by_cases hqb : q ∈ buildParents other acc p
      · exact (hnew q hqb hn).mono isub
      · exact inew q hq hqb

theorem mem_insertNew {α} [DecidableEq α] (l : List α) (x a : α) : a ∈ insertNew l x ↔ a ∈ l ∨ a = x := by
  unfold insertNew
  split
  · exact ⟨.inl, fun h => h.elim id (· ▸ ‹x ∈ l›)⟩
  · simp

theorem insertNew_of_mem {α} [DecidableEq α] {l : List α} {x : α} (h : x ∈ l) : insertNew l x = l := if_pos h

theorem mem_foldl_insertNew {α} [DecidableEq α] (l : List α) : ∀ (acc : List α) (a : α),
    a ∈ l.foldl insertNew acc ↔ a ∈ acc ∨ a ∈ l := by
  induction l with
  | nil => intro acc a; simp
  | cons x t ih => intro acc a; simp [ih, mem_insertNew, or_assoc]

def AncClosed (l : List Path) : Prop := ∀ p ∈ l, p.length ≤ 1 ∨ parentPath p ∈ l

/-- declared accounts plus synthetic parents are closed (strict mode) -/
def AncClosed2 (l syn : List Path) : Prop := ∀ p, p ∈ l ∨ p ∈ syn → p.length ≤ 1 ∨ parentPath p ∈ l ∨ parentPath p ∈ syn

theorem accountTreesFrom_lax_closed (names : List Path) : AncClosed (accountTreesFrom names false).1 := by
  simp only [accountTreesFrom, Bool.false_eq_true, if_false]
  obtain ⟨_, hgood, hnew⟩ := foldl_buildParents_spec [] (names.foldl insertNew []) (names.foldl insertNew [])
  intro p hp
  by_cases hd : p ∈ names.foldl insertNew []
  · exact (hgood p hd).of_nil
  · exact (hnew p hp hd).of_nil

theorem accountTreesFrom_lax_mem (names : List Path) (p : Path) (h : p ∈ names) : p ∈ (accountTreesFrom names false).1 := by
  simp only [accountTreesFrom, Bool.false_eq_true, if_false]
  exact (foldl_buildParents_spec [] _ _).1 p ((mem_foldl_insertNew names [] p).mpr (.inr h))

theorem accountTreesFrom_strict_fst (names : List Path) (p : Path) :
    p ∈ (accountTreesFrom names true).1 ↔ p ∈ names := by
  simp [accountTreesFrom, mem_foldl_insertNew]

theorem accountTreesFrom_strict_closed (names : List Path) :
    AncClosed2 (accountTreesFrom names true).1 (accountTreesFrom names true).2 := by
  simp only [accountTreesFrom, if_true]
  obtain ⟨_, hgood, hnew⟩ := foldl_buildParents_spec (names.foldl insertNew []) (names.foldl insertNew []) []
  intro p hp
  rcases hp with hp | hp
  · exact hgood p hp
  · exact hnew p hp (by simp)

/-- in a closed chart every non-empty prefix (ancestor) of a member is a member -/
theorem closed_prefix (mem : Path → Prop) (hcl : ∀ p, mem p → p.length ≤ 1 ∨ mem (parentPath p)) :
    ∀ (n : Nat) (p q : Path), p.length = n → mem p → q ≠ [] → q <+: p → mem q := by
  intro n
  induction n with
  | zero =>
    intro p q hn _ hq hpre
    have : p = [] := List.length_eq_zero_iff.mp hn
    subst this
    exact absurd (List.prefix_nil.mp hpre) hq
  | succ n ih =>
    intro p q hn hp hq hpre
    by_cases heq : q = p
    · subst heq; exact hp
    · have hlt : q.length < p.length := by
        rcases Nat.lt_or_ge q.length p.length with h | h
        · exact h
        · exact absurd (hpre.eq_of_length_le h) heq
      have hqpos : 0 < q.length := List.length_pos_iff.mpr hq
      rcases hcl p hp with h1 | h1
      · omega
      · refine ih (parentPath p) q (by rw [parentPath_length]; omega) h1 hq ?_
        rw [List.prefix_iff_eq_take] at hpre ⊢
        rw [parentPath, List.dropLast_eq_take, List.take_take]
        have : min q.length (p.length - 1) = q.length := by omega
        rw [this]
        exact hpre

/-! ### what can change in the settings while a journal is read -/

/-- the three switches; no load-path function changes them -/
def Flags (s : Settings) : Bool × Bool × Bool := (s.strict, s.audit, s.permitEmpty)

/-- the charts are unchanged, except that the empty commodity may have been registered
    (`permit-empty-commodity`); this is all that happens in strict mode -/
structure Frozen (s t : Settings) : Prop where
  flags : Flags t = Flags s
  accounts : t.accounts = s.accounts
  synthetic : t.synthetic = s.synthetic
  tags : t.tags = s.tags
  comms : ∀ n, n ≠ "" → (n ∈ t.commodities ↔ n ∈ s.commodities)
  commsMono : ∀ n, n ∈ s.commodities → n ∈ t.commodities

theorem Frozen.refl (s : Settings) : Frozen s s :=
  ⟨rfl, rfl, rfl, rfl, fun _ _ => Iff.rfl, fun _ h => h⟩

theorem Frozen.trans {s t u : Settings} (h1 : Frozen s t) (h2 : Frozen t u) : Frozen s u :=
  ⟨h2.flags.trans h1.flags, h2.accounts.trans h1.accounts, h2.synthetic.trans h1.synthetic,
   h2.tags.trans h1.tags, fun n hn => (h2.comms n hn).trans (h1.comms n hn),
   fun n hn => h2.commsMono n (h1.commsMono n hn)⟩

theorem Frozen.strict {s t : Settings} (h : Frozen s t) : t.strict = s.strict := by
  have := h.flags; simp only [Flags, Prod.mk.injEq] at this; exact this.1

/-- `s'` is a lax-mode settings value with the same permit-empty and audit switches as `s`
    (its charts are arbitrary) -/
structure Rel (s s' : Settings) : Prop where
  lax : s'.strict = false
  pe : s'.permitEmpty = s.permitEmpty
  audit : s'.audit = s.audit

theorem Rel.step {s s' t t' : Settings} (h : Rel s s') (h1 : Flags t = Flags s) (h2 : Flags t' = Flags s') :
    Rel t t' := by
  simp only [Flags, Prod.mk.injEq] at h1 h2
  exact ⟨h2.1.trans h.lax, h2.2.2.trans (h.pe.trans h1.2.2.symm), h2.2.1.trans (h.audit.trans h1.2.1.symm)⟩

/-- Specification of a state-threaded load-path function `f` relative to a predicate `P s a`
    ("every name that `a` uses is declared in the charts of `s`"):
    * the switches never change; in strict mode the charts never change;
    * `f` succeeds from `s` with value `b` iff (`s` strict → `P s a`) and `f` succeeds with the same value
      from any lax settings with the same switches. -/
structure StepSpec {α β : Type} (f : Settings → α → Outcome (β × Settings)) (P : Settings → α → Prop) : Prop where
  flags : ∀ s a b s2, f s a = .ok (b, s2) → Flags s2 = Flags s
  frozen : ∀ s a b s2, s.strict = true → f s a = .ok (b, s2) → Frozen s s2
  iff : ∀ s s' a b, Rel s s' →
    ((∃ s2, f s a = .ok (b, s2)) ↔ (s.strict = true → P s a) ∧ ∃ s2', f s' a = .ok (b, s2'))
  stable : ∀ s t a, Frozen s t → (P t a ↔ P s a)

/-! ### the three chart look-ups: a name that may be used is registered, any other is an error -/

def CommOk (s : Settings) (n : String) : Prop :=
  if n = "" then s.permitEmpty = true else s.strict = true → n ∈ s.commodities

def TagOk (s : Settings) (n : String) : Prop := n ≠ "" ∧ (s.strict = true → n ∈ s.tags)

theorem goc_eq_ok {s : Settings} {n : String} (h : CommOk s n) :
    s.getOrCreateCommodity (some n) = .ok (n, { s with commodities := insertNew s.commodities n }) := by
  unfold CommOk at h
  unfold Settings.getOrCreateCommodity
  split at h
  · rename_i hn
    subst hn
    simp only [h, if_true]
  · rename_i hn
    by_cases hm : n ∈ s.commodities
    · simp only [hn, hm, if_true, if_false, insertNew_of_mem hm]
    · have hs : ¬ s.strict = true := fun hs => hm (h hs)
      simp only [hn, hm, hs, if_false, insertNew, Bool.false_eq_true]

theorem goc_eq_err {s : Settings} {n : String} (h : ¬ CommOk s n) : s.getOrCreateCommodity (some n) = .err := by
  unfold CommOk at h
  unfold Settings.getOrCreateCommodity
  split at h
  · rename_i hn
    simp only [hn, h, if_true, if_false, Bool.false_eq_true]
  · rename_i hn
    have := Classical.not_imp.mp h
    simp only [hn, this.1, this.2, if_true, if_false]

theorem tag_eq_ok {s : Settings} {n : String} (h : TagOk s n) :
    s.getOrCreateTag n = .ok (n, { s with tags := insertNew s.tags n }) := by
  unfold Settings.getOrCreateTag
  by_cases hm : n ∈ s.tags
  · simp only [h.1, hm, if_true, if_false, insertNew_of_mem hm]
  · have hs : ¬ s.strict = true := fun hs => hm (h.2 hs)
    simp only [h.1, hm, hs, if_false, insertNew, Bool.false_eq_true]

theorem tag_eq_err {s : Settings} {n : String} (h : ¬ TagOk s n) : s.getOrCreateTag n = .err := by
  unfold Settings.getOrCreateTag
  by_cases hn : n = ""
  · simp only [hn, if_true]
  · have := Classical.not_imp.mp (fun h' => h ⟨hn, h'⟩)
    simp only [hn, this.1, this.2, if_true, if_false]

def AcctOk (s : Settings) (p : Path) : Prop := s.strict = true → p ∈ s.accounts

def withAcct (s : Settings) (p : Path) : Settings :=
  if s.strict then s else { s with accounts := buildParents [] (insertNew s.accounts p) p }

theorem withAcct_flags (s : Settings) (p : Path) : Flags (withAcct s p) = Flags s := by
  unfold withAcct
  split <;> rfl

theorem gocta_eq_ok {s : Settings} {p : Path} {c : String} (hc : CommOk s c) (hp : AcctOk s p) :
    s.getOrCreateTxnAccount p c = .ok (p, withAcct { s with commodities := insertNew s.commodities c } p) := by
  unfold Settings.getOrCreateTxnAccount withAcct
  rw [goc_eq_ok hc]
  by_cases hs : s.strict = true
  · simp only [hs, hp hs, if_true]
  · by_cases hm : p ∈ s.accounts
    · simp only [hs, hm, if_true, if_false, insertNew_of_mem hm, Bool.false_eq_true]
    · simp only [hs, hm, if_false, insertNew, Bool.false_eq_true]

theorem gocta_eq_err {s : Settings} {p : Path} {c : String} (h : ¬ (CommOk s c ∧ AcctOk s p)) :
    s.getOrCreateTxnAccount p c = .err := by
  unfold Settings.getOrCreateTxnAccount
  by_cases hc : CommOk s c
  · have := Classical.not_imp.mp (fun hp => h ⟨hc, hp⟩)
    rw [goc_eq_ok hc]
    simp only [this.1, this.2, if_true, if_false]
  · rw [goc_eq_err hc]

def PComm (s : Settings) (n : String) : Prop := n = "" ∨ n ∈ s.commodities

theorem PComm.stable {s t : Settings} (n : String) (h : Frozen s t) : PComm t n ↔ PComm s n := by
  unfold PComm
  by_cases hn : n = ""
  · simp [hn]
  · simp [hn, h.comms n hn]

def PTag (s : Settings) (n : String) : Prop := n ∈ s.tags

theorem goc_inv {s s2 : Settings} {n b : String} (h : s.getOrCreateCommodity (some n) = .ok (b, s2)) :
    CommOk s n ∧ b = n ∧ s2 = { s with commodities := insertNew s.commodities n } := by
  by_cases hc : CommOk s n
  · rw [goc_eq_ok hc] at h; cases h; exact ⟨hc, rfl, rfl⟩
  · rw [goc_eq_err hc] at h; cases h

theorem tag_inv {s s2 : Settings} {n b : String} (h : s.getOrCreateTag n = .ok (b, s2)) :
    TagOk s n ∧ b = n ∧ s2 = { s with tags := insertNew s.tags n } := by
  by_cases hc : TagOk s n
  · rw [tag_eq_ok hc] at h; cases h; exact ⟨hc, rfl, rfl⟩
  · rw [tag_eq_err hc] at h; cases h

theorem gocta_inv {s s2 : Settings} {p b : Path} {c : String} (h : s.getOrCreateTxnAccount p c = .ok (b, s2)) :
    CommOk s c ∧ AcctOk s p ∧ b = p ∧ s2 = withAcct { s with commodities := insertNew s.commodities c } p := by
  by_cases hc : CommOk s c ∧ AcctOk s p
  · rw [gocta_eq_ok hc.1 hc.2] at h; cases h; exact ⟨hc.1, hc.2, rfl, rfl⟩
  · rw [gocta_eq_err hc] at h; cases h

theorem gocta_ok (s : Settings) (p : Path) (c : String) (b : Path) :
    (∃ s2, s.getOrCreateTxnAccount p c = .ok (b, s2)) ↔
      b = p ∧ (∃ r, s.getOrCreateCommodity (some c) = .ok r) ∧ (s.strict = true → p ∈ s.accounts) :=
  ⟨fun ⟨_, h⟩ => ⟨(gocta_inv h).2.2.1, ⟨_, goc_eq_ok (gocta_inv h).1⟩, (gocta_inv h).2.1⟩,
   fun ⟨hb, ⟨r, h⟩, hp⟩ => ⟨_, by rw [hb]; exact gocta_eq_ok (goc_inv (b := r.1) (s2 := r.2) h).1 hp⟩⟩

theorem commOk_rel {s s' : Settings} (hr : Rel s s') (n : String) :
    CommOk s n ↔ (s.strict = true → PComm s n) ∧ CommOk s' n := by
  unfold CommOk PComm
  rw [hr.lax, hr.pe]
  by_cases hn : n = "" <;> simp [hn]

theorem tagOk_rel {s s' : Settings} (hr : Rel s s') (n : String) :
    TagOk s n ↔ (s.strict = true → PTag s n) ∧ TagOk s' n := by
  unfold TagOk PTag
  rw [hr.lax]
  simp [and_comm]

theorem commOk_frozen {s : Settings} {n : String} (hs : s.strict = true) (hc : CommOk s n) :
    Frozen s { s with commodities := insertNew s.commodities n } := by
  refine ⟨rfl, rfl, rfl, rfl, fun m hm => ?_, fun m hm => (mem_insertNew _ _ _).mpr (.inl hm)⟩
  rw [mem_insertNew]
  refine ⟨fun h => h.elim id fun e => ?_, .inl⟩
  subst e
  simp only [CommOk, hm, if_false] at hc
  exact hc hs

theorem tagOk_frozen {s : Settings} {n : String} (hs : s.strict = true) (hc : TagOk s n) :
    Frozen s { s with tags := insertNew s.tags n } := by
  rw [insertNew_of_mem (hc.2 hs)]
  exact Frozen.refl s

theorem withAcct_frozen {s : Settings} {p : Path} (hs : s.strict = true) : Frozen s (withAcct s p) := by
  rw [withAcct, if_pos hs]
  exact Frozen.refl s

/-- the same for functions that only return the new settings -/
structure StepSpecS {α : Type} (f : Settings → α → Outcome Settings) (P : Settings → α → Prop) : Prop where
  flags : ∀ s a s2, f s a = .ok s2 → Flags s2 = Flags s
  frozen : ∀ s a s2, s.strict = true → f s a = .ok s2 → Frozen s s2
  iff : ∀ s s' a, Rel s s' →
    ((∃ s2, f s a = .ok s2) ↔ (s.strict = true → P s a) ∧ ∃ s2', f s' a = .ok s2')
  stable : ∀ s t a, Frozen s t → (P t a ↔ P s a)

theorem strict_of_flags {s t : Settings} (h : Flags t = Flags s) : t.strict = s.strict := by
  simp only [Flags, Prod.mk.injEq] at h; exact h.1

/-! ### commodities of one posting value (`handle_posting_value`) -/

/-- the commodities `handle_posting_value` registers: the posting's own and the closing position's
    (the opening position `{..}` is parsed and ignored) -/
def unitComms : Option PostUnit → List String
  | none => []
  | some u =>
    match u.closing with
    | none => [u.comm]
    | some (.total v) => [u.comm, v.comm]
    | some (.unitPrice v) => [u.comm, v.comm]

def PUnitComms (s : Settings) (u : Option PostUnit) : Prop := ∀ c ∈ unitComms u, PComm s c

theorem registerUnit_eq (s : Settings) (u : Option PostUnit) :
    registerUnit s u = (mapMS (fun s n => s.getOrCreateCommodity (some n)) s (unitComms u)).map (·.2) := by
  have two : ∀ a b : String,
      (match s.getOrCreateCommodity (some a) with
        | .err => .err
        | .undef => .undef
        | .ok (_, st1) => (st1.getOrCreateCommodity (some b)).map (·.2)) =
      (mapMS (fun s n => s.getOrCreateCommodity (some n)) s [a, b]).map (·.2) := by
    intro a b
    rw [mapMS_cons]
    cases s.getOrCreateCommodity (some a) with
    | err => rfl
    | undef => rfl
    | ok r =>
      obtain ⟨c, s1⟩ := r
      dsimp only [Outcome.bind]
      rw [mapMS_cons]
      cases s1.getOrCreateCommodity (some b) <;> rfl
  cases u with
  | none => rfl
  | some u =>
    unfold registerUnit unitComms
    dsimp only
    cases u.closing with
    | none =>
      rw [mapMS_cons]
      cases s.getOrCreateCommodity (some u.comm) <;> rfl
    | some cl => cases cl with
      | total v => exact two _ _
      | unitPrice v => exact two _ _

theorem registerUnit_ok (s : Settings) (u : Option PostUnit) (s2 : Settings) :
    registerUnit s u = .ok s2 ↔
      ∃ cs, mapMS (fun s n => s.getOrCreateCommodity (some n)) s (unitComms u) = .ok (cs, s2) := by
  simp only [registerUnit_eq, Outcome.map_ok, Prod.exists, exists_eq_right]

/-! ### one posting -/

/-- the commodity of the posting itself (`""` when it has none) -/
def postCommU : Option PostUnit → String
  | none => ""
  | some u => u.comm

theorem postCommU_mem (u : Option PostUnit) : postCommU u = "" ∨ postCommU u ∈ unitComms u := by
  cases u with
  | none => exact .inl rfl
  | some u =>
    right
    simp only [unitComms, postCommU]
    split <;> exact List.mem_cons_self

theorem valuePosition_names (amount : Dec) (unit : Option PostUnit) (vp : VP)
    (h : valuePosition amount unit = .ok vp) :
    vp.postComm = postCommU unit ∧ vp.txnComm ∈ unitComms unit ++ [postCommU unit] := by
  unfold valuePosition at h
  split at h
  · cases h; simp [postCommU]
  · rename_i u
    split at h
    · rename_i hcl
      split at h
      · cases h
      · cases h; simp [unitComms, hcl, postCommU]
    · rename_i v hcl
      (repeat' split at h) <;> first | (cases h; done) | (exact absurd h (Outcome.inexact_ne_ok _ _)) |
        (cases h; simp [unitComms, hcl, postCommU])
    · rename_i v hcl
      (repeat' split at h) <;> first | (cases h; done) | (exact absurd h (Outcome.inexact_ne_ok _ _)) |
        (cases h; simp [unitComms, hcl, postCommU])

theorem valuePosition_comms (amount : Dec) (unit : Option PostUnit) (vp : VP)
    (h : valuePosition amount unit = .ok vp) :
    (vp.postComm = "" ∨ vp.postComm ∈ unitComms unit) ∧ (vp.txnComm = "" ∨ vp.txnComm ∈ unitComms unit) := by
  obtain ⟨e1, e2⟩ := valuePosition_names _ _ _ h
  have hu := postCommU_mem unit
  refine ⟨e1 ▸ hu, ?_⟩
  rcases List.mem_append.mp e2 with h2 | h2
  · exact .inr h2
  · rw [List.mem_singleton.mp h2]
    exact hu

def PPosting (s : Settings) (rp : RawPosting) : Prop := PUnitComms s rp.unit ∧ rp.acct ∈ s.accounts

theorem PPosting.stable {s t : Settings} (rp : RawPosting) (h : Frozen s t) : PPosting t rp ↔ PPosting s rp := by
  simp only [PPosting, PUnitComms, PComm.stable _ h, h.accounts]

theorem handlePosting_txnComm (s : Settings) (rp : RawPosting) (p : Posting) (s2 : Settings)
    (h : handlePosting s rp = .ok (p, s2)) :
    p.acct = rp.acct ∧ (p.comm = "" ∨ p.comm ∈ unitComms rp.unit) ∧ (p.txnComm = "" ∨ p.txnComm ∈ unitComms rp.unit) := by
  obtain ⟨s1, vp, a, _, h2, h3, h4⟩ := (handlePosting_ok _ _ _ _).mp h
  have := mkPosting_eq _ _ h4
  subst this
  have ha : a = rp.acct := ((gocta_ok s1 rp.acct vp.postComm a).mp ⟨_, h3⟩).1
  exact ⟨ha, (valuePosition_comms _ _ _ h2).1, (valuePosition_comms _ _ _ h2).2⟩

/-! ### the postings of one transaction -/

abbrev PostingsArg := List RawPosting × Option (Path × Option String)

def PPostings (s : Settings) (a : PostingsArg) : Prop :=
  (∀ rp ∈ a.1, PPosting s rp) ∧ (∀ acc cmt, a.2 = some (acc, cmt) → acc ∈ s.accounts)

theorem PPostings.stable {s t : Settings} (a : PostingsArg) (h : Frozen s t) : PPostings t a ↔ PPostings s a := by
  simp only [PPostings, PPosting.stable _ h, h.accounts]

theorem first_txnComm (s s1 : Settings) (posts : List RawPosting) (p0 : Posting) (rest : List Posting)
    (h : mapMS handlePosting s posts = .ok (p0 :: rest, s1)) :
    p0.txnComm = "" ∨ ∃ rp ∈ posts, p0.txnComm ∈ unitComms rp.unit := by
  obtain ⟨rp, hrp, sa, sb, hh⟩ := mapMS_ok handlePosting posts s s1 (p0 :: rest) h p0 List.mem_cons_self
  rcases (handlePosting_txnComm _ _ _ _ hh).2.2 with h0 | hm
  · exact .inl h0
  · exact .inr ⟨rp, hrp, hm⟩

/-! ### header: tags -/

def PHeader (s : Settings) (h : Header) : Prop := ∀ ts, h.tags = some ts → ∀ t ∈ ts, PTag s t

/-! ### one transaction, the journal -/

def PTxn (s : Settings) (r : RawTxn) : Prop := PHeader s r.header ∧ PPostings s (r.posts, r.last)

theorem PTxn.stable {s t : Settings} (r : RawTxn) (h : Frozen s t) : PTxn t r ↔ PTxn s r := by
  simp only [PTxn, PHeader, PTag, h.tags, PPostings.stable _ h]

/-! ### strict mode: declared names only, charts frozen -/

theorem CommOk.declared {s : Settings} {n : String} (hc : CommOk s n) (hs : s.strict = true) : PComm s n := by
  unfold CommOk at hc
  split at hc
  · exact .inl ‹_›
  · exact .inr (hc hs)

theorem goc_strict {s s2 : Settings} {n b : String} (hs : s.strict = true)
    (h : s.getOrCreateCommodity (some n) = .ok (b, s2)) : PComm s n ∧ Frozen s s2 := by
  obtain ⟨hc, _, rfl⟩ := goc_inv h
  exact ⟨hc.declared hs, commOk_frozen hs hc⟩

theorem tag_strict {s s2 : Settings} {n b : String} (hs : s.strict = true)
    (h : s.getOrCreateTag n = .ok (b, s2)) : PTag s n ∧ Frozen s s2 := by
  obtain ⟨hc, _, rfl⟩ := tag_inv h
  exact ⟨hc.2 hs, tagOk_frozen hs hc⟩

theorem gocta_strict {s s2 : Settings} {p b : Path} {c : String} (hs : s.strict = true)
    (h : s.getOrCreateTxnAccount p c = .ok (b, s2)) : (p ∈ s.accounts ∧ PComm s c) ∧ Frozen s s2 := by
  obtain ⟨hc, hp, _, rfl⟩ := gocta_inv h
  exact ⟨⟨hp hs, hc.declared hs⟩, (commOk_frozen hs hc).trans (withAcct_frozen hs)⟩

theorem mapMS_strict {α β : Type} {f : Settings → α → Outcome (β × Settings)} {P : Settings → α → Prop}
    (hf : ∀ s a b s2, s.strict = true → f s a = .ok (b, s2) → P s a ∧ Frozen s s2)
    (hst : ∀ s t a, Frozen s t → (P t a ↔ P s a)) :
    ∀ (l : List α) (s : Settings) (bs : List β) (s2 : Settings), s.strict = true → mapMS f s l = .ok (bs, s2) →
      (∀ a ∈ l, P s a) ∧ Frozen s s2
  | [], s, _, _, _, h => by
    simp only [mapMS, Outcome.ok.injEq, Prod.mk.injEq] at h
    exact h.2 ▸ ⟨nofun, Frozen.refl s⟩
  | a :: t, s, bs, s2, hs, h => by
    obtain ⟨b, s1, bs', h1, h2, _⟩ := (mapMS_cons_ok f s s2 a t bs).mp h
    obtain ⟨pa, f1⟩ := hf s a b s1 hs h1
    obtain ⟨pt, f2⟩ := mapMS_strict hf hst t s1 bs' s2 (f1.strict.trans hs) h2
    exact ⟨List.forall_mem_cons.mpr ⟨pa, fun x hx => (hst s s1 x f1).mp (pt x hx)⟩, f1.trans f2⟩

theorem mapMS_goc_strict {s s2 : Settings} {l cs : List String} (hs : s.strict = true)
    (h : mapMS (fun s n => s.getOrCreateCommodity (some n)) s l = .ok (cs, s2)) :
    (∀ c ∈ l, PComm s c) ∧ Frozen s s2 :=
  mapMS_strict (fun _ _ _ _ => goc_strict) (fun _ _ n h => PComm.stable n h) _ _ _ _ hs h

theorem registerUnit_strict {s s2 : Settings} {u : Option PostUnit} (hs : s.strict = true)
    (h : registerUnit s u = .ok s2) : PUnitComms s u ∧ Frozen s s2 := by
  obtain ⟨cs, h⟩ := (registerUnit_ok s u s2).mp h
  exact mapMS_goc_strict hs h

theorem handlePosting_strict {s s2 : Settings} {rp : RawPosting} {p : Posting} (hs : s.strict = true)
    (h : handlePosting s rp = .ok (p, s2)) : PPosting s rp ∧ Frozen s s2 := by
  obtain ⟨s1, vp, a, h1, _, h3, _⟩ := (handlePosting_ok _ _ _ _).mp h
  obtain ⟨hu, f1⟩ := registerUnit_strict hs h1
  obtain ⟨ha, f2⟩ := gocta_strict (f1.strict.trans hs) h3
  exact ⟨⟨hu, f1.accounts ▸ ha.1⟩, f1.trans f2⟩

theorem acceptPostings_strict {s s2 : Settings} {posts : List RawPosting} {last : Option (Path × Option String)}
    {all : List Posting} (hs : s.strict = true) (h : acceptPostings s posts last = .ok (all, s2)) :
    PPostings s (posts, last) ∧ Frozen s s2 := by
  obtain ⟨p0, rest, s1, h1, hcase⟩ := (acceptPostings_ok _ _ _ _ _).mp h
  obtain ⟨hp, f1⟩ := mapMS_strict (fun _ _ _ _ => handlePosting_strict) (fun _ _ rp h => PPosting.stable rp h)
    _ _ _ _ hs h1
  rcases hcase with ⟨rfl, _, rfl⟩ | ⟨a, cmt, sm, a', l, rfl, _, hg, _, _⟩
  · exact ⟨⟨hp, nofun⟩, f1⟩
  · obtain ⟨ha, f2⟩ := gocta_strict (f1.strict.trans hs) hg
    refine ⟨⟨hp, fun acc _ e => ?_⟩, f1.trans f2⟩
    obtain ⟨rfl, _⟩ := Prod.mk.inj (Option.some.inj e)
    exact f1.accounts ▸ ha.1

theorem acceptTags_strict {s s2 : Settings} {tags : List String} (hs : s.strict = true)
    (h : acceptTags s tags = .ok s2) : (∀ t ∈ tags, PTag s t) ∧ Frozen s s2 := by
  obtain ⟨_, bs, h⟩ := (acceptTags_ok _ _ _).mp h
  exact mapMS_strict (fun _ _ _ _ => tag_strict) (fun _ _ n h => by simp [PTag, h.tags]) _ _ _ _ hs h

theorem acceptHeader_strict {s s2 : Settings} {h : Header} (hs : s.strict = true)
    (hh : acceptHeader s h = .ok s2) : PHeader s h ∧ Frozen s s2 := by
  obtain ⟨_, _, hcase⟩ := (acceptHeader_ok _ _ _).mp hh
  rcases hcase with ⟨ht, rfl⟩ | ⟨ts, ht, h1⟩
  · exact ⟨fun ts e => (by rw [ht] at e; cases e), Frozen.refl _⟩
  · obtain ⟨hp, f⟩ := acceptTags_strict hs h1
    exact ⟨fun ts' e => (by rw [ht] at e; cases e; exact hp), f⟩

theorem acceptTxn_strict {s s2 : Settings} {r : RawTxn} {t : Txn} (hs : s.strict = true)
    (h : acceptTxn s r = .ok (t, s2)) : PTxn s r ∧ Frozen s s2 := by
  obtain ⟨s1, ps, h1, h2, _, _⟩ := (acceptTxn_ok _ _ _ _).mp h
  obtain ⟨hh, f1⟩ := acceptHeader_strict hs h1
  obtain ⟨hp, f2⟩ := acceptPostings_strict (f1.strict.trans hs) h2
  exact ⟨⟨hh, (PPostings.stable _ f1).mp hp⟩, f1.trans f2⟩

theorem acceptJournal_strict {s s2 : Settings} {rs : List RawTxn} {ts : List Txn} (hs : s.strict = true)
    (h : acceptJournal s rs = .ok (ts, s2)) : (∀ r ∈ rs, PTxn s r) ∧ Frozen s s2 :=
  mapMS_strict (fun _ _ _ _ => acceptTxn_strict) (fun _ _ r h => PTxn.stable r h) _ _ _ _ hs h

/-! ### chart growth -/

/-- charts only grow; in lax mode an ancestor-closed account chart stays ancestor-closed -/
structure Grow (s t : Settings) : Prop where
  flags : Flags t = Flags s
  accounts : ∀ a ∈ s.accounts, a ∈ t.accounts
  commodities : ∀ c ∈ s.commodities, c ∈ t.commodities
  synthetic : t.synthetic = s.synthetic
  closed : s.strict = false → AncClosed s.accounts → AncClosed t.accounts

theorem Grow.refl (s : Settings) : Grow s s := ⟨rfl, fun _ h => h, fun _ h => h, rfl, fun _ h => h⟩

theorem Grow.trans {s t u : Settings} (h1 : Grow s t) (h2 : Grow t u) : Grow s u :=
  ⟨h2.flags.trans h1.flags, fun a ha => h2.accounts a (h1.accounts a ha),
   fun c hc => h2.commodities c (h1.commodities c hc), h2.synthetic.trans h1.synthetic,
   fun hs hc => h2.closed ((strict_of_flags h1.flags).trans hs) (h1.closed hs hc)⟩

theorem goc_grow {s s1 : Settings} {n c : String} (h : s.getOrCreateCommodity (some n) = .ok (c, s1)) :
    Grow s s1 ∧ n ∈ s1.commodities := by
  obtain ⟨_, _, rfl⟩ := goc_inv h
  exact ⟨⟨rfl, fun _ h => h, fun m hm => (mem_insertNew _ _ _).mpr (.inl hm), rfl, fun _ h => h⟩,
    (mem_insertNew _ _ _).mpr (.inr rfl)⟩

theorem tag_grow {s s1 : Settings} {n b : String} (h : s.getOrCreateTag n = .ok (b, s1)) : Grow s s1 := by
  obtain ⟨_, _, rfl⟩ := tag_inv h
  exact ⟨rfl, fun _ h => h, fun _ h => h, rfl, fun _ h => h⟩

theorem build_closed (acc : List Path) (p : Path) (hc : AncClosed acc) :
    AncClosed (buildParents [] (insertNew acc p) p) := by
  obtain ⟨hsub, hgood, hnew⟩ := buildParents_spec [] (insertNew acc p) p
  intro q hq
  by_cases hqa : q ∈ insertNew acc p
  · rcases (mem_insertNew _ _ _).mp hqa with hqa | rfl
    · exact (hc q hqa).imp_right fun h => hsub _ ((mem_insertNew _ _ _).mpr (.inl h))
    · exact hgood.of_nil
  · exact (hnew q hq hqa).of_nil

theorem withAcct_grow (s : Settings) (p : Path) :
    Grow s (withAcct s p) ∧ (AcctOk s p → p ∈ (withAcct s p).accounts) := by
  unfold withAcct AcctOk
  by_cases hs : s.strict = true
  · rw [if_pos hs]
    exact ⟨Grow.refl s, fun h => h hs⟩
  · rw [if_neg hs]
    have hsub := (buildParents_spec [] (insertNew s.accounts p) p).1
    exact ⟨⟨rfl, fun a ha => hsub a ((mem_insertNew _ _ _).mpr (.inl ha)), fun _ h => h, rfl,
      fun _ hc => build_closed _ p hc⟩, fun _ => hsub p ((mem_insertNew _ _ _).mpr (.inr rfl))⟩

theorem gocta_grow {s s2 : Settings} {p b : Path} {c : String} (h : s.getOrCreateTxnAccount p c = .ok (b, s2)) :
    Grow s s2 ∧ p ∈ s2.accounts ∧ c ∈ s2.commodities := by
  obtain ⟨hc, hp, _, rfl⟩ := gocta_inv h
  obtain ⟨g1, hc1⟩ := goc_grow (goc_eq_ok hc)
  obtain ⟨g2, hp2⟩ := withAcct_grow { s with commodities := insertNew s.commodities c } p
  exact ⟨g1.trans g2, hp2 hp, g2.commodities c hc1⟩

theorem mapMS_grow {α β : Type} (f : Settings → α → Outcome (β × Settings)) (Q : Settings → β → Prop)
    (hg : ∀ s a b t, f s a = .ok (b, t) → Grow s t ∧ Q t b)
    (hq : ∀ s t b, Grow s t → Q s b → Q t b) :
    ∀ (l : List α) (s : Settings) (bs : List β) (t : Settings), mapMS f s l = .ok (bs, t) →
      Grow s t ∧ ∀ b ∈ bs, Q t b := by
  intro l
  induction l with
  | nil =>
    intro s bs t h
    simp only [mapMS] at h
    cases h
    exact ⟨Grow.refl _, fun b hb => by cases hb⟩
  | cons a tl ih =>
    intro s bs t h
    obtain ⟨b, s1, bs', h1, h2, rfl⟩ := (mapMS_cons_ok f s t a tl bs).mp h
    obtain ⟨g1, q1⟩ := hg s a b s1 h1
    obtain ⟨g2, q2⟩ := ih s1 bs' t h2
    refine ⟨g1.trans g2, ?_⟩
    intro x hx
    rcases List.mem_cons.mp hx with rfl | hx
    · exact hq s1 t x g2 q1
    · exact q2 x hx

def InChart (t : Settings) (p : Posting) : Prop := p.acct ∈ t.accounts ∧ p.comm ∈ t.commodities

theorem InChart.mono {s t : Settings} {p : Posting} (g : Grow s t) (h : InChart s p) : InChart t p :=
  ⟨g.accounts _ h.1, g.commodities _ h.2⟩

theorem mapMS_goc_grow {s s2 : Settings} {l cs : List String}
    (h : mapMS (fun s n => s.getOrCreateCommodity (some n)) s l = .ok (cs, s2)) : Grow s s2 :=
  (mapMS_grow _ (fun _ _ => True) (fun _ _ _ _ hh => ⟨(goc_grow hh).1, trivial⟩) (fun _ _ _ _ _ => trivial)
    _ _ _ _ h).1

theorem registerUnit_grow (s : Settings) (u : Option PostUnit) (s2 : Settings) (h : registerUnit s u = .ok s2) :
    Grow s s2 := by
  obtain ⟨cs, h⟩ := (registerUnit_ok s u s2).mp h
  exact mapMS_goc_grow h

theorem handlePosting_grow (s : Settings) (rp : RawPosting) (p : Posting) (s2 : Settings)
    (h : handlePosting s rp = .ok (p, s2)) : Grow s s2 ∧ InChart s2 p := by
  obtain ⟨s1, vp, a, h1, _, h3, h4⟩ := (handlePosting_ok _ _ _ _).mp h
  obtain ⟨g, ha, hc⟩ := gocta_grow h3
  have := mkPosting_eq _ _ h4
  subst this
  have hab : a = rp.acct := ((gocta_ok s1 rp.acct vp.postComm a).mp ⟨_, h3⟩).1
  exact ⟨(registerUnit_grow _ _ _ h1).trans g, by rw [hab]; exact ha, hc⟩

theorem acceptPostings_grow (s : Settings) (posts : List RawPosting) (last : Option (Path × Option String))
    (all : List Posting) (s2 : Settings) (h : acceptPostings s posts last = .ok (all, s2)) :
    Grow s s2 ∧ ∀ p ∈ all, InChart s2 p := by
  obtain ⟨p0, rest, s1, h1, hcase⟩ := (acceptPostings_ok _ _ _ _ _).mp h
  obtain ⟨g1, q1⟩ := mapMS_grow handlePosting InChart handlePosting_grow (fun _ _ _ g hq => hq.mono g) _ _ _ _ h1
  rcases hcase with ⟨_, rfl, rfl⟩ | ⟨a, cmt, sm, a', l, _, _, hg, hl, rfl⟩
  · exact ⟨g1, q1⟩
  · obtain ⟨g2, ha, hc⟩ := gocta_grow hg
    have := mkPosting_eq _ _ hl
    subst this
    have hab : a' = a := ((gocta_ok s1 a p0.txnComm a').mp ⟨_, hg⟩).1
    refine ⟨g1.trans g2, ?_⟩
    intro p hp
    rcases List.mem_append.mp hp with hp | hp
    · exact (q1 p hp).mono g2
    · have : p = _ := List.mem_singleton.mp hp
      subst this
      exact ⟨by rw [hab]; exact ha, hc⟩

theorem acceptTags_grow (s : Settings) (tags : List String) (s2 : Settings) (h : acceptTags s tags = .ok s2) :
    Grow s s2 := by
  obtain ⟨_, bs, h1⟩ := (acceptTags_ok _ _ _).mp h
  exact (mapMS_grow (fun s t => s.getOrCreateTag t) (fun _ _ => True)
    (fun _ _ _ _ hh => ⟨tag_grow hh, trivial⟩) (fun _ _ _ _ _ => trivial) _ _ _ _ h1).1

theorem acceptHeader_grow (s : Settings) (h : Header) (s2 : Settings) (hh : acceptHeader s h = .ok s2) :
    Grow s s2 := by
  obtain ⟨_, _, hcase⟩ := (acceptHeader_ok _ _ _).mp hh
  rcases hcase with ⟨_, rfl⟩ | ⟨ts, _, h1⟩
  · exact Grow.refl _
  · exact acceptTags_grow _ _ _ h1

theorem acceptTxn_grow (s : Settings) (r : RawTxn) (t : Txn) (s2 : Settings) (h : acceptTxn s r = .ok (t, s2)) :
    Grow s s2 ∧ ∀ p ∈ t.posts, InChart s2 p := by
  obtain ⟨s1, ps, h1, h2, rfl, _⟩ := (acceptTxn_ok _ _ _ _).mp h
  obtain ⟨g2, q2⟩ := acceptPostings_grow _ _ _ _ _ h2
  exact ⟨(acceptHeader_grow _ _ _ h1).trans g2, q2⟩

theorem acceptJournal_grow (s : Settings) (rs : List RawTxn) (ts : List Txn) (s2 : Settings)
    (h : acceptJournal s rs = .ok (ts, s2)) : Grow s s2 ∧ ∀ t ∈ ts, ∀ p ∈ t.posts, InChart s2 p :=
  mapMS_grow acceptTxn (fun st t => ∀ p ∈ t.posts, InChart st p) acceptTxn_grow
    (fun _ _ _ g hq p hp => (hq p hp).mono g) _ _ _ _ h

/-! ## Strict mode off: the three-valued outcome (ok / err / outside the modelled domain) and the value do
not depend on the charts -/

structure LaxRel (s s' : Settings) : Prop where
  l : s.strict = false
  l' : s'.strict = false
  pe : s'.permitEmpty = s.permitEmpty
  audit : s'.audit = s.audit

theorem LaxRel.step {s s' t t' : Settings} (h : LaxRel s s') (h1 : Flags t = Flags s) (h2 : Flags t' = Flags s') :
    LaxRel t t' := by
  simp only [Flags, Prod.mk.injEq] at h1 h2
  exact ⟨h1.1.trans h.l, h2.1.trans h.l', h2.2.2.trans (h.pe.trans h1.2.2.symm), h2.2.1.trans (h.audit.trans h1.2.1.symm)⟩

def OutSim {β : Type} (o o' : Outcome (β × Settings)) : Prop :=
  match o, o' with
  | .ok (b, t), .ok (b', t') => b = b' ∧ LaxRel t t'
  | .err, .err => True
  | .undef, .undef => True
  | _, _ => False

/-- whether an inexact amount is an error (overflow) or outside the modelled domain depends on the amounts
    only, which are the same in both runs -/
theorem OutSim.inexact {β : Type} (b : Bool) : OutSim (Outcome.inexact b : Outcome (β × Settings)) (Outcome.inexact b) := by
  cases b <;> exact trivial

theorem OutSim.iff_rel {β : Type} {o o' : Outcome (β × Settings)} : OutSim o o' ↔ OutRel (StateRel LaxRel) o o' := by
  constructor
  · intro h
    match o, o', h with
    | .ok (_, _), .ok (_, _), h => exact .ok h
    | .err, .err, _ => exact .err
    | .undef, .undef, _ => exact .undef
  · intro h
    cases h with
    | ok hq => exact hq
    | err => exact trivial
    | undef => exact trivial

/-! ### two runs from related settings -/

/-- what the load path needs of a relation `R` between the settings of two runs, for names in `Gc`, `Gt`, `Ga` -/
structure Respects (Gc Gt : String → Prop) (Ga : Path → Prop) (R : Settings → Settings → Prop) : Prop where
  audit : ∀ {s s'}, R s s' → s'.audit = s.audit
  empty : Gc ""
  comm : ∀ {s s'} (n : String), Gc n → R s s' →
    OutRel (StateRel R) (s.getOrCreateCommodity (some n)) (s'.getOrCreateCommodity (some n))
  tag : ∀ {s s'} (n : String), Gt n → R s s' → OutRel (StateRel R) (s.getOrCreateTag n) (s'.getOrCreateTag n)
  acct : ∀ {s s'} (p : Path) (c : String), Ga p → Gc c → R s s' →
    OutRel (StateRel R) (s.getOrCreateTxnAccount p c) (s'.getOrCreateTxnAccount p c)

/-- `PTxn s` is the case of the charts of `s` -/
def Within (Gc Gt : String → Prop) (Ga : Path → Prop) (r : RawTxn) : Prop :=
  (∀ ts, r.header.tags = some ts → ∀ t ∈ ts, Gt t) ∧
  (∀ rp ∈ r.posts, (∀ c ∈ unitComms rp.unit, Gc c) ∧ Ga rp.acct) ∧ ∀ a cmt, r.last = some (a, cmt) → Ga a

theorem within_true (r : RawTxn) : Within (fun _ => True) (fun _ => True) (fun _ => True) r :=
  ⟨fun _ _ _ _ => trivial, fun _ _ => ⟨fun _ _ => trivial, trivial⟩, fun _ _ _ => trivial⟩

section

variable {Gc Gt : String → Prop} {Ga : Path → Prop} {R : Settings → Settings → Prop} (hR : Respects Gc Gt Ga R)
  {s s' : Settings}

include hR

theorem registerUnit_rel (u : Option PostUnit) (hu : ∀ c ∈ unitComms u, Gc c) (h : R s s') :
    OutRel R (registerUnit s u) (registerUnit s' u) := by
  rw [registerUnit_eq, registerUnit_eq]
  exact (mapMS_rel (unitComms u) (fun n hn _ _ => hR.comm n (hu n hn)) s s' h).map fun _ _ hq => hq.2

theorem handlePosting_rel (rp : RawPosting) (hu : ∀ c ∈ unitComms rp.unit, Gc c) (ha : Ga rp.acct) (h : R s s') :
    OutRel (StateRel R) (handlePosting s rp) (handlePosting s' rp) := by
  rw [handlePosting_eq, handlePosting_eq]
  refine (registerUnit_rel hR rp.unit hu h).bind fun s1 s1' h1 => OutRel.bind_same _ fun vp hv =>
    (hR.acct rp.acct vp.postComm ha ?_ h1).bind fun r r' hr => ?_
  · exact (valuePosition_comms _ _ _ hv).1.elim (· ▸ hR.empty) (hu _)
  · rw [hr.1]
    exact OutRel.map_same _ fun _ => ⟨rfl, hr.2⟩

theorem acceptPostings_rel (posts : List RawPosting) (last : Option (Path × Option String))
    (hp : ∀ rp ∈ posts, (∀ c ∈ unitComms rp.unit, Gc c) ∧ Ga rp.acct) (hl : ∀ a cmt, last = some (a, cmt) → Ga a)
    (h : R s s') : OutRel (StateRel R) (acceptPostings s posts last) (acceptPostings s' posts last) := by
  rw [acceptPostings_eq, acceptPostings_eq]
  refine (mapMS_rel posts (fun rp hrp _ _ => handlePosting_rel hR rp (hp rp hrp).1 (hp rp hrp).2) s s' h).bind_of_ok
    fun q q' e _ hq => ?_
  obtain ⟨ps, t⟩ := q
  obtain ⟨ps', t'⟩ := q'
  obtain ⟨rfl, ht⟩ := hq
  cases ps with
  | nil => exact .err
  | cons p0 rest =>
    cases last with
    | none => exact .ok ⟨rfl, ht⟩
    | some ac =>
      obtain ⟨a, cmt⟩ := ac
      dsimp only
      cases txnSum (p0 :: rest) with
      | none => exact .inexact _
      | some sm =>
        refine (hR.acct a p0.txnComm (hl a cmt rfl) ?_ ht).bind fun r r' hr => ?_
        · -- the last posting's commodity is the first posting's transaction commodity, one of those it names
          rcases first_txnComm _ _ _ _ _ e with h0 | ⟨rp, hrp, hm⟩
          · exact h0 ▸ hR.empty
          · exact (hp rp hrp).1 _ hm
        · rw [hr.1]
          exact OutRel.map_same _ fun _ => ⟨rfl, hr.2⟩

theorem acceptTags_rel (tags : List String) (ht : ∀ t ∈ tags, Gt t) (h : R s s') :
    OutRel R (acceptTags s tags) (acceptTags s' tags) := by
  rw [acceptTags_eq, acceptTags_eq]
  exact (mapMS_rel tags (fun t h' _ _ => hR.tag t (ht t h')) s s' h).bind fun q q' hq => .ite _ (.ok hq.2) .err

theorem acceptHeader_rel (hd : Header) (ht : ∀ ts, hd.tags = some ts → ∀ t ∈ ts, Gt t) (h : R s s') :
    OutRel R (acceptHeader s hd) (acceptHeader s' hd) := by
  rw [acceptHeader_eq, acceptHeader_eq, hR.audit h]
  refine .ite _ (OutRel.bind (Q := R) ?_ fun s1 s1' h1 => .ite _ .err (.ok h1)) .err
  cases e : hd.tags with
  | none => exact .ok h
  | some ts => exact acceptTags_rel hR ts (ht ts e) h

theorem acceptTxn_rel (r : RawTxn) (hw : Within Gc Gt Ga r) (h : R s s') :
    OutRel (StateRel R) (acceptTxn s r) (acceptTxn s' r) := by
  rw [acceptTxn_eq, acceptTxn_eq]
  refine (acceptHeader_rel hR r.header hw.1 h).bind fun s1 s1' h1 =>
    (acceptPostings_rel hR r.posts r.last hw.2.1 hw.2.2 h1).bind fun q q' hq => ?_
  obtain ⟨ps, t⟩ := q
  obtain ⟨ps', t'⟩ := q'
  obtain ⟨rfl, ht⟩ := hq
  cases ps with
  | nil => exact .err
  | cons p0 rest =>
    refine .ite _ .err ?_
    dsimp only
    cases txnSum (p0 :: rest) with
    | none => exact .inexact _
    | some sm => exact .ite _ (.ok ⟨rfl, ht⟩) .err

theorem acceptJournal_rel (rs : List RawTxn) (hw : ∀ r ∈ rs, Within Gc Gt Ga r) (h : R s s') :
    OutRel (StateRel R) (acceptJournal s rs) (acceptJournal s' rs) :=
  mapMS_rel rs (fun r hr _ _ => acceptTxn_rel hR r (hw r hr)) s s' h

end

theorem laxRel_respects : Respects (fun _ => True) (fun _ => True) (fun _ => True) LaxRel where
  audit h := h.audit
  empty := trivial
  comm n _ h :=
    .of_ok_iff (by simp only [CommOk, h.l, h.l', h.pe, Bool.false_eq_true, false_imp_iff]) goc_eq_ok goc_eq_err
      goc_eq_ok goc_eq_err fun _ => ⟨rfl, h.l, h.l', h.pe, h.audit⟩
  tag n _ h :=
    .of_ok_iff (by simp only [TagOk, h.l, h.l', Bool.false_eq_true, false_imp_iff]) tag_eq_ok tag_eq_err
      tag_eq_ok tag_eq_err fun _ => ⟨rfl, h.l, h.l', h.pe, h.audit⟩
  acct p c _ _ h :=
    .of_ok_iff (by simp only [CommOk, AcctOk, h.l, h.l', h.pe, Bool.false_eq_true, false_imp_iff])
      (fun k => gocta_eq_ok k.1 k.2) gocta_eq_err (fun k => gocta_eq_ok k.1 k.2) gocta_eq_err
      fun _ => ⟨rfl, LaxRel.step ⟨h.l, h.l', h.pe, h.audit⟩ (withAcct_flags _ p) (withAcct_flags _ p)⟩

/-- a strict run within the charts of `d`, which therefore stay frozen, against a lax run with the same switches -/
theorem decl_respects {d : Settings} (hd : d.strict = true) :
    Respects (PComm d) (PTag d) (· ∈ d.accounts) (fun t t' => Frozen d t ∧ Rel t t') where
  audit h := h.2.audit
  empty := .inl rfl
  comm n hn h :=
    have ht := h.1.strict.trans hd
    .of_ok_iff ((commOk_rel h.2 n).trans (and_iff_right fun _ => (PComm.stable n h.1).mpr hn)).symm goc_eq_ok goc_eq_err
      goc_eq_ok goc_eq_err fun hc => ⟨rfl, h.1.trans (commOk_frozen ht hc), h.2.lax, h.2.pe, h.2.audit⟩
  tag n hn h :=
    have ht := h.1.strict.trans hd
    .of_ok_iff ((tagOk_rel h.2 n).trans (and_iff_right fun _ => by rw [PTag, h.1.tags]; exact hn)).symm tag_eq_ok tag_eq_err
      tag_eq_ok tag_eq_err fun hc => ⟨rfl, h.1.trans (tagOk_frozen ht hc), h.2.lax, h.2.pe, h.2.audit⟩
  acct p c hp hc h :=
    have ht := h.1.strict.trans hd
    .of_ok_iff
      (and_congr ((commOk_rel h.2 c).trans (and_iff_right fun _ => (PComm.stable c h.1).mpr hc)).symm
        (iff_of_true (fun hs' => absurd (hs'.symm.trans h.2.lax) nofun) fun _ => h.1.accounts ▸ hp))
      (fun k => gocta_eq_ok k.1 k.2) gocta_eq_err (fun k => gocta_eq_ok k.1 k.2) gocta_eq_err
      fun k => ⟨rfl, h.1.trans ((commOk_frozen ht k.1).trans (withAcct_frozen ht)),
        Rel.step ⟨h.2.lax, h.2.pe, h.2.audit⟩ (withAcct_flags _ p) (withAcct_flags _ p)⟩

/-- **a strict and a lax run agree**, three-valued and in the transaction, if the strict one's names are declared -/
theorem acceptTxn_decl {s s' : Settings} (hr : Rel s s') (r : RawTxn) (hd : s.strict = true → PTxn s r) :
    OutRel (StateRel fun _ _ => True) (acceptTxn s r) (acceptTxn s' r) := by
  by_cases hs : s.strict = true
  · exact (acceptTxn_rel (decl_respects hs) r (hd hs) ⟨Frozen.refl s, hr⟩).mono fun _ _ h => ⟨h.1, trivial⟩
  · exact (acceptTxn_rel laxRel_respects r (within_true r) ⟨by simpa using hs, hr.lax, hr.pe, hr.audit⟩).mono
      fun _ _ h => ⟨h.1, trivial⟩

theorem acceptJournal_decl {s s' : Settings} (hr : Rel s s') (rs : List RawTxn)
    (hd : s.strict = true → ∀ r ∈ rs, PTxn s r) :
    OutRel (StateRel fun _ _ => True) (acceptJournal s rs) (acceptJournal s' rs) := by
  by_cases hs : s.strict = true
  · exact (acceptJournal_rel (decl_respects hs) rs (hd hs) ⟨Frozen.refl s, hr⟩).mono fun _ _ h => ⟨h.1, trivial⟩
  · exact (acceptJournal_rel laxRel_respects rs (fun r _ => within_true r)
      ⟨by simpa using hs, hr.lax, hr.pe, hr.audit⟩).mono fun _ _ h => ⟨h.1, trivial⟩

theorem iff_of_strict_of_decl {α β : Type} {f : Settings → α → Outcome (β × Settings)} {P : Settings → α → Prop}
    (hstrict : ∀ {s a b s2}, s.strict = true → f s a = .ok (b, s2) → P s a ∧ Frozen s s2)
    (hdecl : ∀ {s s'}, Rel s s' → ∀ a, (s.strict = true → P s a) →
      OutRel (StateRel fun _ _ => True) (f s a) (f s' a))
    {s s' : Settings} (hr : Rel s s') (a : α) (b : β) :
    (∃ s2, f s a = .ok (b, s2)) ↔ (s.strict = true → P s a) ∧ ∃ s2', f s' a = .ok (b, s2') :=
  ⟨fun ⟨s2, h⟩ => have hp := fun hs => (hstrict hs h).1; ⟨hp, ((hdecl hr a hp).ok_iff b).mp ⟨s2, h⟩⟩,
   fun ⟨hp, h'⟩ => ((hdecl hr a hp).ok_iff b).mpr h'⟩

theorem acceptTxn_spec : StepSpec acceptTxn PTxn where
  flags s r t s2 h := (acceptTxn_grow s r t s2 h).1.flags
  frozen _ _ _ _ hs h := (acceptTxn_strict hs h).2
  iff _ _ r t hr := iff_of_strict_of_decl acceptTxn_strict acceptTxn_decl hr r t
  stable _ _ r h := PTxn.stable r h

theorem acceptJournal_iff {s s' : Settings} (hr : Rel s s') (rs : List RawTxn) (ts : List Txn) :
    (∃ s2, acceptJournal s rs = .ok (ts, s2)) ↔
      (s.strict = true → ∀ r ∈ rs, PTxn s r) ∧ ∃ s2', acceptJournal s' rs = .ok (ts, s2') :=
  iff_of_strict_of_decl acceptJournal_strict acceptJournal_decl hr rs ts

/-- **lax_chart_free (three-valued).** With strict mode off the outcome class (accepted / rejected / outside
    the modelled numeric domain) and the accepted transactions are the same for any two settings with the
    same `permit-empty-commodity` and audit switches, whatever their charts. -/
theorem lax_chart_free_outcome (st st' : Settings) (rs : List RawTxn)
    (hs : st.strict = false) (hl : st'.strict = false)
    (hpe : st'.permitEmpty = st.permitEmpty) (ha : st'.audit = st.audit) :
    (acceptJournal st rs).map Prod.fst = (acceptJournal st' rs).map Prod.fst :=
  (acceptJournal_rel laxRel_respects rs (fun r _ => within_true r) ⟨hs, hl, hpe, ha⟩).map_eq fun _ _ h => h.1

/-! ## The names a journal uses (plain list functions) -/

/-- accounts posted to, including the amount-less last posting -/
def txnAccounts (r : RawTxn) : List Path :=
  r.posts.map (·.acct) ++ (match r.last with | some (a, _) => [a] | none => [])

/-- commodities of the postings and of their closing positions (`@`, `=`) -/
def txnCommodities (r : RawTxn) : List String := r.posts.flatMap (fun rp => unitComms rp.unit)

def txnTags (r : RawTxn) : List String := match r.header.tags with | some ts => ts | none => []

def usedAccounts (rs : List RawTxn) : List Path := rs.flatMap txnAccounts

def usedCommodities (rs : List RawTxn) : List String := rs.flatMap txnCommodities

def usedTags (rs : List RawTxn) : List String := rs.flatMap txnTags

/-- every name the journal uses is declared in the charts of `s`.  The empty commodity is not a chart
    entry: it is governed by the separate `permit-empty-commodity` switch, in both modes alike. -/
structure Declared (s : Settings) (rs : List RawTxn) : Prop where
  accounts : ∀ a ∈ usedAccounts rs, a ∈ s.accounts
  commodities : ∀ c ∈ usedCommodities rs, c ≠ "" → c ∈ s.commodities
  tags : ∀ t ∈ usedTags rs, t ∈ s.tags

theorem PComm_iff (s : Settings) (c : String) : PComm s c ↔ (c ≠ "" → c ∈ s.commodities) := by
  unfold PComm
  by_cases h : c = "" <;> simp [h]

theorem declared_iff (s : Settings) (rs : List RawTxn) : (∀ r ∈ rs, PTxn s r) ↔ Declared s rs := by
  constructor
  · intro h
    refine ⟨?_, ?_, ?_⟩
    · intro a ha
      obtain ⟨r, hr, ha⟩ := List.mem_flatMap.mp ha
      obtain ⟨_, hp, hl⟩ := h r hr
      rcases List.mem_append.mp ha with ha | ha
      · obtain ⟨rp, hrp, rfl⟩ := List.mem_map.mp ha
        exact (hp rp hrp).2
      · cases hlast : r.last with
        | none => simp [hlast] at ha
        | some ac =>
          obtain ⟨a0, cmt⟩ := ac
          simp only [hlast, List.mem_singleton] at ha
          subst ha
          exact hl a cmt hlast
    · intro c hc
      obtain ⟨r, hr, hc⟩ := List.mem_flatMap.mp hc
      obtain ⟨rp, hrp, hc⟩ := List.mem_flatMap.mp hc
      exact (PComm_iff s c).mp (((h r hr).2.1 rp hrp).1 c hc)
    · intro t ht
      obtain ⟨r, hr, ht⟩ := List.mem_flatMap.mp ht
      cases htags : r.header.tags with
      | none => simp [txnTags, htags] at ht
      | some ts =>
        simp only [txnTags, htags] at ht
        exact (h r hr).1 ts htags t ht
  · intro h r hr
    refine ⟨?_, ?_, ?_⟩
    · intro ts hts t ht
      exact h.tags t (List.mem_flatMap.mpr ⟨r, hr, by simp only [txnTags, hts]; exact ht⟩)
    · intro rp hrp
      refine ⟨fun c hc => (PComm_iff s c).mpr (h.commodities c ?_), h.accounts _ ?_⟩
      · exact List.mem_flatMap.mpr ⟨r, hr, List.mem_flatMap.mpr ⟨rp, hrp, hc⟩⟩
      · exact List.mem_flatMap.mpr ⟨r, hr, List.mem_append.mpr (.inl (List.mem_map.mpr ⟨rp, hrp, rfl⟩))⟩
    · intro a cmt hl
      refine h.accounts a (List.mem_flatMap.mpr ⟨r, hr, List.mem_append.mpr (.inr ?_)⟩)
      simp only at hl
      simp [hl]

/-! ## Property theorems -/

/-- **strict_iff.** With strict mode on, a journal is accepted (with transactions `ts`) exactly when every
    account, commodity (posting, closing price) and tag it uses is declared *and* the same journal is
    accepted (with the same transactions) by lax-mode settings with the same `permit-empty-commodity`
    and audit switches — whatever their charts. -/
theorem strict_iff (st st' : Settings) (rs : List RawTxn) (ts : List Txn)
    (hs : st.strict = true) (hl : st'.strict = false)
    (hpe : st'.permitEmpty = st.permitEmpty) (ha : st'.audit = st.audit) :
    (∃ s2, acceptJournal st rs = .ok (ts, s2)) ↔
      Declared st rs ∧ ∃ s2', acceptJournal st' rs = .ok (ts, s2') := by
  rw [acceptJournal_iff ⟨hl, hpe, ha⟩ rs ts, ← declared_iff]
  simp [hs]

/-- in strict mode reading a journal never changes the charts (only the empty commodity may get
    registered, when it is permitted) -/
theorem strict_frozen (st s2 : Settings) (rs : List RawTxn) (ts : List Txn) (hs : st.strict = true)
    (h : acceptJournal st rs = .ok (ts, s2)) : Frozen st s2 :=
  (acceptJournal_strict hs h).2

/-- **lax_chart_free (acceptance).** With strict mode off, whether a journal is accepted and the accepted
    transactions do not depend on the charts (same `permit-empty-commodity` and audit switches). -/
theorem lax_chart_free (st st' : Settings) (rs : List RawTxn) (ts : List Txn)
    (hs : st.strict = false) (hl : st'.strict = false)
    (hpe : st'.permitEmpty = st.permitEmpty) (ha : st'.audit = st.audit) :
    (∃ s2, acceptJournal st rs = .ok (ts, s2)) ↔ ∃ s2', acceptJournal st' rs = .ok (ts, s2') := by
  rw [acceptJournal_iff ⟨hl, hpe, ha⟩ rs ts]
  simp [hs]

/-- **modes_agree.** If strict and lax settings (same switches, any charts) both accept a journal, they
    yield the same transactions. -/
theorem modes_agree (st st' s2 s2' : Settings) (rs : List RawTxn) (ts ts' : List Txn)
    (hl : st'.strict = false) (hpe : st'.permitEmpty = st.permitEmpty) (ha : st'.audit = st.audit)
    (h : acceptJournal st rs = .ok (ts, s2)) (h' : acceptJournal st' rs = .ok (ts', s2')) : ts = ts' := by
  obtain ⟨_, s3, h3⟩ := (acceptJournal_iff ⟨hl, hpe, ha⟩ rs ts).mp ⟨s2, h⟩
  rw [h3] at h'
  cases h'
  rfl

/-! ## What reports need: posted names are in the charts, ancestors are reachable -/

/-- `q` is an ancestor of `p` or `p` itself: a non-empty prefix of the component list -/
def IsAncestorOrSelf (q p : Path) : Prop := q ≠ [] ∧ q <+: p

/-- **report_parents_ok.** After a journal has been accepted — in lax mode from an ancestor-closed
    account chart, in strict mode from a chart whose declared accounts and synthetic parents are closed
    together (both hold for `Settings.ofConfig`, see `ofConfig_closed`) — `get_txn_account`, which the
    balance kernel uses to create the missing (gap) rows of a report, succeeds for every ancestor of
    every account posted to, in the posting's commodity.  (F9 is the failure of exactly this.) -/
theorem report_parents_ok (st st' : Settings) (rs : List RawTxn) (ts : List Txn)
    (hcl : if st.strict then AncClosed2 st.accounts st.synthetic else AncClosed st.accounts)
    (h : acceptJournal st rs = .ok (ts, st')) :
    ∀ t ∈ ts, ∀ p ∈ t.posts, ∀ q, IsAncestorOrSelf q p.acct → st'.getTxnAccount q p.comm = .ok (q, p.comm) := by
  intro t ht p hp q ⟨hq, hpre⟩
  obtain ⟨g, hin⟩ := acceptJournal_grow _ _ _ _ h
  obtain ⟨hacc, hcomm⟩ := hin t ht p hp
  unfold Settings.getTxnAccount
  simp only [hcomm, if_true]
  by_cases hs : st.strict = true
  · simp only [hs, if_true] at hcl
    have hfr := strict_frozen st st' rs ts hs h
    have hcl' : AncClosed2 st'.accounts st'.synthetic := by rw [hfr.accounts, hfr.synthetic]; exact hcl
    have := closed_prefix (fun x => x ∈ st'.accounts ∨ x ∈ st'.synthetic) hcl' p.acct.length p.acct q rfl (.inl hacc) hq hpre
    rcases this with h1 | h1
    · simp [h1]
    · by_cases h0 : q ∈ st'.accounts <;> simp [h0, h1]
  · have hs' : st.strict = false := by simpa using hs
    simp only [hs', Bool.false_eq_true, if_false] at hcl
    have hcl' := g.closed hs' hcl
    have := closed_prefix (fun x => x ∈ st'.accounts) hcl' p.acct.length p.acct q rfl hacc hq hpre
    simp [this]

theorem ofConfig_closed (strict audit pe : Bool) (accts : List Path) (comms tags : List String) :
    if (Settings.ofConfig strict audit pe accts comms tags).strict
    then AncClosed2 (Settings.ofConfig strict audit pe accts comms tags).accounts
          (Settings.ofConfig strict audit pe accts comms tags).synthetic
    else AncClosed (Settings.ofConfig strict audit pe accts comms tags).accounts := by
  cases strict
  · simp only [Settings.ofConfig, Bool.false_eq_true, if_false]
    exact accountTreesFrom_lax_closed accts
  · simp only [Settings.ofConfig, if_true]
    exact accountTreesFrom_strict_closed accts

/-- **lax_ancestor_closed.** The invariant that makes reports work with strict mode off: an ancestor-closed
    account chart is still ancestor-closed after any accepted journal (the same holds after every single
    transaction: `acceptTxn_grow`).  `Settings.ofConfig false …` starts ancestor-closed
    (`accountTreesFrom_lax_closed`). -/
theorem lax_ancestor_closed (st st' : Settings) (rs : List RawTxn) (ts : List Txn) (hs : st.strict = false)
    (hcl : AncClosed st.accounts) (h : acceptJournal st rs = .ok (ts, st')) : AncClosed st'.accounts :=
  (acceptJournal_grow _ _ _ _ h).1.closed hs hcl

/-! ### the same, stated on configurations -/

theorem ofConfig_strict (strict audit pe : Bool) (accts : List Path) (comms tags : List String) :
    (Settings.ofConfig strict audit pe accts comms tags).strict = strict ∧
    (Settings.ofConfig strict audit pe accts comms tags).audit = audit ∧
    (Settings.ofConfig strict audit pe accts comms tags).permitEmpty = pe ∧
    (∀ c, c ∈ (Settings.ofConfig strict audit pe accts comms tags).commodities ↔ c ∈ comms) ∧
    (∀ t, t ∈ (Settings.ofConfig strict audit pe accts comms tags).tags ↔ t ∈ tags) ∧
    (Settings.ofConfig strict audit pe accts comms tags).accounts = (accountTreesFrom accts strict).1 ∧
    (Settings.ofConfig strict audit pe accts comms tags).synthetic = (accountTreesFrom accts strict).2 := by
  simp [Settings.ofConfig, mem_foldl_insertNew]

theorem declared_ofConfig (audit pe : Bool) (accts : List Path) (comms tags : List String) (rs : List RawTxn) :
    Declared (Settings.ofConfig true audit pe accts comms tags) rs ↔
      (∀ a ∈ usedAccounts rs, a ∈ accts) ∧ (∀ c ∈ usedCommodities rs, c ≠ "" → c ∈ comms) ∧
       (∀ t ∈ usedTags rs, t ∈ tags) := by
  obtain ⟨_, _, _, h4, h5, h6, _⟩ := ofConfig_strict true audit pe accts comms tags
  constructor
  · rintro ⟨a, c, t⟩
    refine ⟨fun x hx => ?_, fun x hx hne => (h4 x).mp (c x hx hne), fun x hx => (h5 x).mp (t x hx)⟩
    have := a x hx
    rw [h6] at this
    exact (accountTreesFrom_strict_fst accts x).mp this
  · rintro ⟨a, c, t⟩
    refine ⟨fun x hx => ?_, fun x hx hne => (h4 x).mpr (c x hx hne), fun x hx => (h5 x).mpr (t x hx)⟩
    rw [h6]
    exact (accountTreesFrom_strict_fst accts x).mpr (a x hx)

/-- **strict_iff** on configurations: strict mode accepts exactly the journals that lax mode accepts with
    the same charts and switches and that use only declared accounts, commodities and tags. -/
theorem strict_iff_config (audit pe : Bool) (accts : List Path) (comms tags : List String)
    (rs : List RawTxn) (ts : List Txn) :
    (∃ s2, acceptJournal (Settings.ofConfig true audit pe accts comms tags) rs = .ok (ts, s2)) ↔
      ((∀ a ∈ usedAccounts rs, a ∈ accts) ∧ (∀ c ∈ usedCommodities rs, c ≠ "" → c ∈ comms) ∧
       (∀ t ∈ usedTags rs, t ∈ tags)) ∧
      ∃ s2', acceptJournal (Settings.ofConfig false audit pe accts comms tags) rs = .ok (ts, s2') := by
  obtain ⟨h1, h2, h3, h4, h5, h6, _⟩ := ofConfig_strict true audit pe accts comms tags
  obtain ⟨k1, k2, k3, _⟩ := ofConfig_strict false audit pe accts comms tags
  rw [strict_iff _ (Settings.ofConfig false audit pe accts comms tags) rs ts h1 k1 (k3.trans h3.symm) (k2.trans h2.symm)]
  rw [declared_ofConfig]

/-- **synthetic_only_reports.** In strict mode an undeclared ancestor `a` of a declared account `d` cannot be
    posted to (`get_or_create_txn_account` does not succeed, whatever the commodity), but
    `get_txn_account` — the lookup the balance kernel uses for gap rows — finds it. -/
theorem synthetic_only_reports (audit pe : Bool) (accts : List Path) (comms tags : List String) (a d : Path)
    (hd : d ∈ accts) (ha : a ≠ []) (hpre : a <+: d) (hnd : a ∉ accts) :
    (∀ c r, (Settings.ofConfig true audit pe accts comms tags).getOrCreateTxnAccount a c ≠ .ok r) ∧
    (∀ c, c ∈ (Settings.ofConfig true audit pe accts comms tags).commodities →
      (Settings.ofConfig true audit pe accts comms tags).getTxnAccount a c = .ok (a, c)) := by
  obtain ⟨h1, _, _, _, _, h6, h7⟩ := ofConfig_strict true audit pe accts comms tags
  have hna : a ∉ (Settings.ofConfig true audit pe accts comms tags).accounts := by
    rw [h6]; exact fun h => hnd ((accountTreesFrom_strict_fst accts a).mp h)
  constructor
  · intro c r hr
    obtain ⟨b, s2⟩ := r
    exact hna (((gocta_ok _ a c b).mp ⟨s2, hr⟩).2.2 h1)
  · intro c hc
    have hcl := accountTreesFrom_strict_closed accts
    have hdm : d ∈ (accountTreesFrom accts true).1 := (accountTreesFrom_strict_fst accts d).mpr hd
    have := closed_prefix (fun x => x ∈ (accountTreesFrom accts true).1 ∨ x ∈ (accountTreesFrom accts true).2)
      hcl d.length d a rfl (.inl hdm) ha hpre
    rw [← h6, ← h7] at this
    rcases this with h | h
    · exact absurd h hna
    · unfold Settings.getTxnAccount
      simp [hc, hna, h]

/-- **lax_chart_free** on configurations: with strict mode off the declared charts are irrelevant —
    same outcome class and same transactions as with empty charts. -/
theorem lax_chart_free_config (audit pe : Bool) (accts : List Path) (comms tags : List String) (rs : List RawTxn) :
    (acceptJournal (Settings.ofConfig false audit pe accts comms tags) rs).map Prod.fst =
      (acceptJournal (Settings.ofConfig false audit pe [] [] []) rs).map Prod.fst := by
  obtain ⟨h1, h2, h3, _⟩ := ofConfig_strict false audit pe accts comms tags
  obtain ⟨k1, k2, k3, _⟩ := ofConfig_strict false audit pe [] [] []
  exact lax_chart_free_outcome _ _ rs h1 k1 (k3.trans h3.symm) (k2.trans h2.symm)

/-! ## Settings construction: report commodity, price file, equity account -/

def PEntry (s : Settings) (e : String × String) : Prop := PComm s e.1 ∧ PComm s e.2

def PCfg (s : Settings) (a : Option String × Option (List (String × String))) : Prop :=
  ∀ rc, a.1 = some rc → PComm s rc ∧ ∀ es, a.2 = some es → ∀ e ∈ es, PEntry s e

/-- the commodities `Settings::try_from` registers, in its order -/
def cfgComms (a : Option String × Option (List (String × String))) : List String :=
  match a.1 with
  | none => []
  | some rc => rc :: (a.2.getD []).flatMap fun e => [e.1, e.2]

theorem priceEntries_eq : ∀ (es : List (String × String)) (s : Settings),
    (mapMS registerPriceEntry s es).map (·.2) =
      (mapMS (fun s n => s.getOrCreateCommodity (some n)) s (es.flatMap fun e => [e.1, e.2])).map (·.2)
  | [], _ => rfl
  | e :: es, s => by
    simp only [List.flatMap_cons, List.cons_append, List.nil_append, mapMS_cons, registerPriceEntry]
    cases s.getOrCreateCommodity (some e.1) with
    | err => rfl
    | undef => rfl
    | ok r =>
      obtain ⟨c1, s1⟩ := r
      dsimp only [Outcome.bind]
      cases s1.getOrCreateCommodity (some e.2) with
      | err => rfl
      | undef => rfl
      | ok r2 =>
        obtain ⟨c2, s2⟩ := r2
        dsimp only [Outcome.bind]
        rw [Outcome.map_map, Outcome.map_map, Outcome.map_map]
        exact priceEntries_eq es s2

theorem registerCfg_eq (s : Settings) (a : Option String × Option (List (String × String))) :
    registerCfg s a =
      if (a.1 = none → a.2 = none) ∧ a.2 ≠ some [] then
        (mapMS (fun s n => s.getOrCreateCommodity (some n)) s (cfgComms a)).map (·.2)
      else .err := by
  obtain ⟨rc0, pd⟩ := a
  unfold registerCfg cfgComms
  cases rc0 with
  | none => cases pd <;> simp [mapMS, Outcome.map]
  | some rc =>
    simp only [mapMS_cons, reduceCtorEq, false_imp_iff, true_and]
    cases pd with
    | none =>
      simp only [ne_eq, reduceCtorEq, not_false_eq_true, if_true, Option.getD_none, List.flatMap_nil, mapMS]
      cases s.getOrCreateCommodity (some rc) with
      | err => rfl
      | undef => rfl
      | ok r => rfl
    | some es =>
      cases es with
      | nil =>
        -- an empty price file is an error whether or not the report commodity may be used
        by_cases hc : CommOk s rc
        · simp [goc_eq_ok hc, loadPriceDb]
        · simp [goc_eq_err hc]
      | cons e tl =>
        simp only [ne_eq, Option.some.injEq, reduceCtorEq, not_false_eq_true, if_true, Option.getD_some]
        cases s.getOrCreateCommodity (some rc) with
        | err => rfl
        | undef => rfl
        | ok r =>
          obtain ⟨c1, s1⟩ := r
          dsimp only [Outcome.bind]
          rw [Outcome.map_map, ← priceEntries_eq (e :: tl) s1]
          simp only [loadPriceDb]
          cases mapMS registerPriceEntry s1 (e :: tl) with
          | err => rfl
          | undef => rfl
          | ok q => rfl

theorem registerCfg_ok (s : Settings) (a : Option String × Option (List (String × String))) (s2 : Settings) :
    registerCfg s a = .ok s2 ↔
      ((a.1 = none → a.2 = none) ∧ a.2 ≠ some []) ∧
      ∃ cs, mapMS (fun s n => s.getOrCreateCommodity (some n)) s (cfgComms a) = .ok (cs, s2) := by
  rw [registerCfg_eq]
  split
  · rename_i h
    simp only [Outcome.map_ok, Prod.exists, exists_eq_right]
    exact (and_iff_right h).symm
  · rename_i h
    simp only [reduceCtorEq, h, false_and]

theorem pcfg_iff (s : Settings) (a : Option String × Option (List (String × String))) :
    PCfg s a ↔ ∀ x ∈ cfgComms a, PComm s x := by
  obtain ⟨rc0, pd⟩ := a
  unfold PCfg PEntry cfgComms
  cases rc0 with
  | none => simp
  | some rc =>
    cases pd with
    | none => simp
    | some es =>
      simp only [Option.some.injEq, forall_eq', Option.getD_some, List.mem_cons, List.mem_flatMap, forall_eq_or_imp]
      refine and_congr_right fun _ => ⟨fun h x ⟨e, he, hx⟩ => ?_, fun h e he => ⟨h _ ⟨e, he, by simp⟩, h _ ⟨e, he, by simp⟩⟩⟩
      rcases hx with rfl | rfl | hx
      · exact (h e he).1
      · exact (h e he).2
      · cases hx

theorem registerCfg_strict {s s2 : Settings} {a : Option String × Option (List (String × String))}
    (hs : s.strict = true) (h : registerCfg s a = .ok s2) : PCfg s a ∧ Frozen s s2 := by
  obtain ⟨_, cs, h⟩ := (registerCfg_ok s a s2).mp h
  obtain ⟨hp, f⟩ := mapMS_goc_strict hs h
  exact ⟨(pcfg_iff s a).mpr hp, f⟩

/-- the names the configuration itself uses are declared: the equity account (when the equity export is
    selected), the report commodity, both commodities of every price-file entry -/
structure DeclaredCfg (c : ChartCfg) : Prop where
  equity : c.equityTarget = true → c.equityAccount ∈ c.accounts
  report : ∀ rc, c.reportCommodity = some rc → rc ≠ "" → rc ∈ c.commodities
  price : ∀ es, c.priceDb = some es → ∀ e ∈ es, (e.1 ≠ "" → e.1 ∈ c.commodities) ∧ (e.2 ≠ "" → e.2 ∈ c.commodities)

def DeclaredAll (c : ChartCfg) (rs : List RawTxn) : Prop :=
  DeclaredCfg c ∧
    (∀ a ∈ usedAccounts rs, a ∈ c.accounts) ∧ (∀ x ∈ usedCommodities rs, x ≠ "" → x ∈ c.commodities) ∧
     (∀ t ∈ usedTags rs, t ∈ c.tags)

theorem pcfg_ofConfig (c : ChartCfg) :
    PCfg (Settings.ofConfig true c.audit c.permitEmpty c.accounts c.commodities c.tags) (c.reportCommodity, c.priceDb) ↔
      (∀ rc, c.reportCommodity = some rc → rc ≠ "" → rc ∈ c.commodities) ∧
      (c.reportCommodity ≠ none → ∀ es, c.priceDb = some es → ∀ e ∈ es,
        (e.1 ≠ "" → e.1 ∈ c.commodities) ∧ (e.2 ≠ "" → e.2 ∈ c.commodities)) := by
  obtain ⟨_, _, _, h4, _⟩ := ofConfig_strict true c.audit c.permitEmpty c.accounts c.commodities c.tags
  simp only [PCfg, PEntry, PComm_iff, h4]
  cases c.reportCommodity with
  | none => simp
  | some rc => simp

theorem acceptWithCfg_eq (c : ChartCfg) (rs : List RawTxn) :
    acceptWithCfg c rs = (settingsTryFrom c).bind fun st => acceptJournal st rs := by
  unfold acceptWithCfg
  cases settingsTryFrom c <;> rfl

theorem acceptWithCfg_strict {c : ChartCfg} {rs : List RawTxn} {ts : List Txn} {s2 : Settings}
    (hs : c.strict = true) (h : acceptWithCfg c rs = .ok (ts, s2)) : DeclaredAll c rs := by
  obtain ⟨h1, _, _, _, _, h6, _⟩ := ofConfig_strict true c.audit c.permitEmpty c.accounts c.commodities c.tags
  simp only [acceptWithCfg_eq, settingsTryFrom, hs, Outcome.bind_ok] at h
  obtain ⟨st1, hreg, hj⟩ := h
  split at hreg
  · cases hreg
  · rename_i heq
    obtain ⟨hp1, hfr⟩ := registerCfg_strict h1 hreg
    obtain ⟨hp2, _⟩ := acceptJournal_strict (hfr.strict.trans h1) hj
    obtain ⟨hrep, hprice⟩ := (pcfg_ofConfig c).mp hp1
    refine ⟨⟨fun he => Classical.byContradiction fun hm => heq ⟨trivial, he, fun h => hm ?_⟩, hrep, fun es hes => ?_⟩,
      (declared_ofConfig ..).mp ((declared_iff _ rs).mp fun r hr => (PTxn.stable r hfr).mp (hp2 r hr))⟩
    · rw [h6] at h
      exact (accountTreesFrom_strict_fst _ _).mp h
    · refine hprice (fun hrc => ?_) es hes
      have := ((registerCfg_ok _ _ _).mp hreg).1.1 hrc
      rw [show c.priceDb = some es from hes] at this
      cases this

theorem acceptWithCfg_decl {c : ChartCfg} (hs : c.strict = true) (rs : List RawTxn) (hd : DeclaredAll c rs) :
    OutRel (StateRel fun _ _ => True) (acceptWithCfg c rs) (acceptWithCfg { c with strict := false } rs) := by
  obtain ⟨h1, h2, h3, _, _, h6, _⟩ := ofConfig_strict true c.audit c.permitEmpty c.accounts c.commodities c.tags
  obtain ⟨k1, k2, k3, _⟩ := ofConfig_strict false c.audit c.permitEmpty c.accounts c.commodities c.tags
  have hcfg := (pcfg_iff _ _).mp ((pcfg_ofConfig c).mpr ⟨hd.1.report, fun _ => hd.1.price⟩)
  have hR := decl_respects h1
  simp only [acceptWithCfg_eq, settingsTryFrom, hs, registerCfg_eq, Bool.false_eq_true, false_and, if_false]
  rw [if_neg fun h => h.2.2 (by rw [h6]; exact (accountTreesFrom_strict_fst _ _).mpr (hd.1.equity h.2.1))]
  refine (OutRel.bind (OutRel.ite _ ((mapMS_rel _ (fun n hn _ _ => hR.comm n (hcfg n hn)) _ _
      ⟨Frozen.refl _, k1, k3.trans h3.symm, k2.trans h2.symm⟩).map fun _ _ hq => hq.2) .err)
    fun t t' ht => acceptJournal_rel hR rs ((declared_iff _ rs).mpr ((declared_ofConfig ..).mpr hd.2)) ht).mono
    fun _ _ h => ⟨h.1, trivial⟩

/-- **strict_iff** for the whole load (settings construction + journal): with strict mode on, the load
    succeeds exactly when every name used by the configuration (report commodity, price-file commodities,
    equity account of a selected equity export) and by the journal (accounts, commodities, tags) is
    declared and the same load succeeds with strict mode off (yielding the same transactions). -/
theorem strict_iff_cfg (c : ChartCfg) (rs : List RawTxn) (ts : List Txn) (hs : c.strict = true) :
    (∃ s2, acceptWithCfg c rs = .ok (ts, s2)) ↔
      DeclaredCfg c ∧
      ((∀ a ∈ usedAccounts rs, a ∈ c.accounts) ∧ (∀ x ∈ usedCommodities rs, x ≠ "" → x ∈ c.commodities) ∧
       (∀ t ∈ usedTags rs, t ∈ c.tags)) ∧
      ∃ s2', acceptWithCfg { c with strict := false } rs = .ok (ts, s2') :=
  ⟨fun ⟨s2, h⟩ => have hd := acceptWithCfg_strict hs h; ⟨hd.1, hd.2, ((acceptWithCfg_decl hs rs hd).ok_iff ts).mp ⟨s2, h⟩⟩,
   fun ⟨h1, h2, h'⟩ => ((acceptWithCfg_decl hs rs ⟨h1, h2⟩).ok_iff ts).mpr h'⟩

/-! ## Non-vacuity and regression witnesses -/

def dI (n : Int) : Dec := Dec.ofInt n

def hdr0 : Header := ⟨⟨0, 0⟩, none, none, none, none, none, none⟩

def hdrT (tags : List String) : Header := ⟨⟨0, 0⟩, none, none, none, none, some tags, none⟩

/-- ` a:b:c:d 1 / e -1` -/
def jF9 : List RawTxn := [⟨hdr0, [⟨["a", "b", "c", "d"], dI 1, none, none⟩, ⟨["e"], dI (-1), none, none⟩], none⟩]

/-- witness of F9: the lax-mode chart that `AccountTrees::from` builds for `accounts = ["a:b:c", "e"]` without
    fixes/F9-lax-chart-parents.diff — the listed accounts only, not ancestor-closed.  The journal is accepted,
    but the balance kernel's lookup of the gap row `a:b` fails. -/
def unfixedF9 : Settings :=
  { strict := false, audit := false, permitEmpty := true, accounts := [["a", "b", "c"], ["e"]], synthetic := [],
    commodities := [], tags := [] }

example : ¬ AncClosed unfixedF9.accounts := by
  intro h
  have := h ["a", "b", "c"] (by simp [unfixedF9])
  simp [parentPath, unfixedF9] at this

example : (acceptJournal unfixedF9 jF9).bind (fun r => r.2.getTxnAccount ["a", "b"] "") = .err := by decide

/-- with `accountTreesFrom`, which mirrors the code with that diff, the same configuration works, as it does
    with an empty chart -/
example : (acceptJournal (Settings.ofConfig false false true [["a", "b", "c"], ["e"]] [] []) jF9).bind
    (fun r => r.2.getTxnAccount ["a", "b"] "") = .ok (["a", "b"], "") := by decide

example : (acceptJournal (Settings.ofConfig false false true [] [] []) jF9).bind
    (fun r => r.2.getTxnAccount ["a", "b"] "") = .ok (["a", "b"], "") := by decide

def strictSt : Settings := Settings.ofConfig true false false [["a", "b", "c"], ["e"]] ["EUR"] ["t1"]

def eur : Option PostUnit := some ⟨"EUR", none, none⟩

/-- a journal that uses only declared names is accepted in strict mode … -/
example : (acceptJournal strictSt
    [⟨hdrT ["t1"], [⟨["a", "b", "c"], dI 1, eur, none⟩], some (["e"], none)⟩]).isOk = true := by decide

/-- … the undeclared parent `a:b` of the declared `a:b:c` cannot be posted to, but reports can look it up -/
example : (acceptJournal strictSt [⟨hdr0, [⟨["a", "b"], dI 1, eur, none⟩], some (["e"], none)⟩]) = .err := by decide

example : strictSt.getTxnAccount ["a", "b"] "EUR" = .ok (["a", "b"], "EUR") := by decide

/-- … an undeclared commodity that only occurs in a closing price is rejected -/
example : (acceptJournal strictSt
    [⟨hdr0, [⟨["a", "b", "c"], dI 1, some ⟨"EUR", none, some (.unitPrice ⟨dI 2, "USD"⟩)⟩, none⟩],
      some (["e"], none)⟩]) = .err := by decide

/-- … an undeclared tag is rejected, an undeclared posting to a sub-account of a declared leaf is rejected -/
example : (acceptJournal strictSt [⟨hdrT ["t2"], [⟨["a", "b", "c"], dI 1, eur, none⟩], some (["e"], none)⟩]) = .err := by
  decide

example : (acceptJournal strictSt [⟨hdr0, [⟨["a", "b", "c", "d"], dI 1, eur, none⟩], some (["e"], none)⟩]) = .err := by
  decide

/-- … while a commodity in an *opening* position `{..}` is parsed and ignored, hence not checked -/
example : (acceptJournal strictSt
    [⟨hdr0, [⟨["a", "b", "c"], dI 1, some ⟨"EUR", some ⟨dI 2, "USD"⟩, none⟩, none⟩], some (["e"], none)⟩]).isOk = true := by
  decide

/-- the empty commodity is governed by `permit-empty-commodity`, not by the chart, in both modes -/
example : (acceptJournal strictSt [⟨hdr0, [⟨["a", "b", "c"], dI 1, none, none⟩], some (["e"], none)⟩]) = .err := by decide

example : (acceptJournal (Settings.ofConfig false false false [] [] [])
    [⟨hdr0, [⟨["a", "b", "c"], dI 1, none, none⟩], some (["e"], none)⟩]) = .err := by decide

example : (acceptJournal (Settings.ofConfig true false true [["a", "b", "c"], ["e"]] ["EUR"] ["t1"])
    [⟨hdr0, [⟨["a", "b", "c"], dI 1, none, none⟩], some (["e"], none)⟩]).isOk = true := by decide

/-- settings construction: report commodity and price-file commodities are checked in strict mode -/
def cfg0 : ChartCfg :=
  { strict := true, audit := false, permitEmpty := false, accounts := [["a"], ["e"]], commodities := ["EUR", "USD"],
    tags := [], equityTarget := false, equityAccount := ["Equity", "Balance"], reportCommodity := some "EUR",
    priceDb := some [("USD", "EUR")] }

example : (settingsTryFrom cfg0).isOk = true := by decide

example : settingsTryFrom { cfg0 with reportCommodity := some "SEK" } = .err := by decide

example : settingsTryFrom { cfg0 with priceDb := some [("USD", "EUR"), ("SEK", "EUR")] } = .err := by decide

example : settingsTryFrom { cfg0 with equityTarget := true } = .err := by decide

example : (settingsTryFrom { cfg0 with equityTarget := true, equityAccount := ["e"] }).isOk = true := by decide

def cfg1 : ChartCfg := { cfg0 with strict := false, equityTarget := true, reportCommodity := some "SEK" }

example : (settingsTryFrom { cfg1 with priceDb := some [("NOK", "SEK")] }).isOk = true := by decide

example : DeclaredCfg cfg0 := by
  refine ⟨by simp [cfg0], ?_, ?_⟩
  · intro rc h _; simp [cfg0] at h; subst h; simp [cfg0]
  · intro es h e he; simp [cfg0] at h; subst h; simp at he; subst he; simp [cfg0]

end C12
end Tackler
