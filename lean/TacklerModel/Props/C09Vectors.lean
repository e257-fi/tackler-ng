import TacklerModel.Props.C09
import TacklerModel.Lemmas.HashVectors
/-!
# C09 — known answers: the checksum of concrete transaction sets

Continues `namespace C09`.  The digests were computed independently (python's hashlib) and are evaluated here by the
kernel; the module is a leaf, beside `Lemmas/HashVectors.lean`.
-/
namespace Tackler
namespace C09
open Hash

theorem getAll_known_answer (alg : Algo) (txns : List Txn) (cs : List Char)
    (hu : allHaveUuid txns = true ∧ (uuidsOf txns).Nodup) (hd : hexChars (alg.digest (preimage txns)) = cs) :
    TxnData.getAll (some alg) txns = .ok ⟨some ⟨txns.length, ⟨alg.name, String.ofList cs⟩⟩, txns⟩ := by
  rw [getAll_outcome, if_pos hu, specItem, hex, hd]

/-- three transactions, UUIDs written in upper, lower and mixed case, not in sorted order -/
example : TxnData.getAll (some .sha256) [txn 1 (some u1U), txn 2 (some u2), txn 3 (some u3)] =
    .ok ⟨some ⟨3, ⟨"SHA-256", "125caf4a8b27569889b5c79f0971380cfffc21b34caac1fc3643e6c9280c2579"⟩⟩,
      [txn 1 (some u1U), txn 2 (some u2), txn 3 (some u3)]⟩ := by
  have hu : uuidsOf [txn 1 (some u1U), txn 2 (some u2), txn 3 (some u3)] = [u1, u2, u3c] := by
    show [uuidToString u1U, uuidToString u2, uuidToString u3] = _
    rw [lower_u1U, lower_u2, lower_u3]
  have hs : sortStrings [u1, u2, u3c] = [u2, u3c, u1] := sortStrings_eq _ _ (by decide) (by decide)
  apply getAll_known_answer
  · rw [hu]
    decide
  · rw [preimage, hu, hs]
    decide +kernel

/-- a filter that selects nothing: size 0 and the digest of the empty message -/
example : TxnData.filter (some .sha256) (fun _ => false) [txn 1 (some u1), txn 2 (some u1)] =
    .ok ⟨some ⟨0, ⟨"SHA-256", "e3b0c44298fc1c149afbf4c8996fb92427ae41e4649b934ca495991b7852b855"⟩⟩, []⟩ := by
  apply getAll_known_answer .sha256 []
  · decide
  · rw [preimage_nil]
    exact sha256_empty.trans String.toList_ofList

end C09
end Tackler
