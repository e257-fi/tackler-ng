import TacklerModel.Model.Select
/-!
# C08 — git storage loads exactly the selected commit's journal files

Statement (properties.jsonl): loading from git storage yields exactly the transactions in files of the selected
commit that lie under the configured directory and carry the configured file extension — the same set that
filesystem storage yields on a checkout of that commit; unaffected by files elsewhere in the tree (incl. near-miss
names), by other branches, tags or later commits, by the work tree or index; a reference and the commit id it
resolves to load the same data; the commit id in the metadata is the one used.

What is proved here, about `Model/Select.lean` (the transliteration of `git_to_txns` with the path test of fix F5, and of
`get_paths_by_ext`), for all trees, directory and extension settings, parsers and settings states:

* `extension_spec`, `select_spec`, `select_ok_iff`, `select_sublist` — what is selected: (executable) blobs, `dir` a
  prefix by whole path components, real extension = `ext`; the load is refused iff the tree has a symbolic link;
* `load_is_parse` — the load is the sorted concatenation of the parses of the selected blobs (so C04 applies);
* `unaffected`, `unaffected_selection`, `elsewhere_irrelevant` — entries not under `dir` with extension `ext` do not
  matter; `dir_trailing_slash`;
* `git_eq_fs`, `git_eq_fs_missing`, `fs_defined` — equality with filesystem storage on a checkout;
* `meta_commit_is_loaded`, `refShown_spec` — metadata; `normSuffix_dot`, `normSuffix_plain` — `.txn` ≙ `txn`;
* `repo_state_irrelevant_partial`, `ref_and_id_same_data_partial` — the parts that rest on `gix` (object store,
  reference resolution, tag peeling, isolation from index and work tree) are hypotheses here and are covered by
  the tie and the oracle (generated repositories) only;
* `witness_F5_before` / `witness_F5_after` / `witness_F5_fs` — finding F5 and its repair, by `decide`.

Symbolic links.  `git_to_txns` fails on a `Link` entry anywhere in the tree ("Links inside repository are not
supported"); this deliberate behaviour is kept and modelled (`link_refused`).  Filesystem storage follows links
(`follow_links(true)`), git storage cannot do the same without resolving link targets inside the tree, so a refusal
is the only answer that never yields a different set; the property's quantifier ranges over regular files, and the
fs-equivalence and `unaffected` are stated for link-free trees (`hasLink tree = false`).
-/
namespace Tackler.C08
open Tackler Tackler.Select


/-! ## `Path::extension` -/

theorem rsplitDot_of_not_mem : ∀ (a : List Char), '.' ∉ a → rsplitDot a = none := by
  intro a
  induction a with
  | nil => intro _; rfl
  | cons c cs ih =>
    intro h
    have hc : c ≠ '.' := fun hc => h (by simp [hc])
    have hcs : '.' ∉ cs := fun hm => h (List.mem_cons_of_mem _ hm)
    simp [rsplitDot, ih hcs, hc]

theorem rsplitDot_none : ∀ (n : List Char), rsplitDot n = none → '.' ∉ n := by
  intro n
  induction n with
  | nil => intro _; simp
  | cons c cs ih =>
    intro h
    simp only [rsplitDot] at h
    split at h
    · cases h
    · rename_i hr
      split at h
      · cases h
      · rename_i hc
        intro hm
        rcases List.mem_cons.mp hm with h1 | h1
        · exact hc h1.symm
        · exact ih hr h1

theorem rsplitDot_append (b a : List Char) (h : '.' ∉ a) : rsplitDot (b ++ '.' :: a) = some (b, a) := by
  induction b with
  | nil => simp [rsplitDot, rsplitDot_of_not_mem a h]
  | cons c cs ih => simp [rsplitDot, ih]

theorem rsplitDot_some : ∀ (n b a : List Char), rsplitDot n = some (b, a) → n = b ++ '.' :: a ∧ '.' ∉ a := by
  intro n
  induction n with
  | nil => intro b a h; simp [rsplitDot] at h
  | cons c cs ih =>
    intro b a h
    simp only [rsplitDot] at h
    split at h
    · rename_i b' a' hr
      cases h
      obtain ⟨h1, h2⟩ := ih _ _ hr
      exact ⟨by simp [h1], h2⟩
    · rename_i hr
      split at h
      · rename_i hc
        cases h
        subst hc
        exact ⟨by simp, rsplitDot_none _ hr⟩
      · cases h

/-- **the real extension** (`Path::extension`): `e` is the extension of the file name `n` iff `n = stem.e` with a
    non-empty stem and no dot in `e` (and `n` is not `..`) -/
theorem extension_spec (n e : List Char) :
    extensionL n = some e ↔ n ≠ ['.', '.'] ∧ ∃ stem, stem ≠ [] ∧ n = stem ++ '.' :: e ∧ '.' ∉ e := by
  constructor
  · intro h
    unfold extensionL at h
    split at h
    · cases h
    · rename_i hdd
      split at h
      · cases h
      · rename_i b a hr
        split at h
        · cases h
        · rename_i hb
          cases h
          obtain ⟨h1, h2⟩ := rsplitDot_some _ _ _ hr
          exact ⟨hdd, b, hb, h1, h2⟩
  · rintro ⟨hdd, stem, hs, rfl, he⟩
    unfold extensionL
    rw [if_neg hdd, rsplitDot_append stem e he]
    simp [hs]

/-- no dot in the name: no extension (`ctxn` is not a `txn` file) -/
theorem extension_no_dot (n : List Char) (h : '.' ∉ n) : extensionL n = none := by
  unfold extensionL
  split
  · rfl
  · rw [rsplitDot_of_not_mem n h]

/-- a hidden file without a further dot has no extension (`.txn` is not a `txn` file) -/
theorem extension_hidden (e : List Char) (h : '.' ∉ e) : extensionL ('.' :: e) = none := by
  unfold extensionL
  split
  · rfl
  · have := rsplitDot_append [] e h
    simp at this
    rw [this]
    simp

/-- the extension is the part after the *last* dot (`d.notxn` has extension `notxn`, `a.txn.bak` has `bak`) -/
theorem extension_last (stem e : List Char) (hs : stem ≠ []) (he : '.' ∉ e) (hdd : stem ++ '.' :: e ≠ ['.', '.']) :
    extensionL (stem ++ '.' :: e) = some e :=
  (extension_spec _ _).mpr ⟨hdd, stem, hs, rfl, he⟩


/-! ## `Path::components`: a trailing `/` is dropped -/


theorem splitSlash_ne_nil : ∀ (cs : List Char), splitSlash cs ≠ [] := by
  intro cs
  induction cs with
  | nil => simp [splitSlash]
  | cons c t ih =>
    simp only [splitSlash]
    split
    · simp
    · split <;> simp

theorem splitSlash_append_slash : ∀ (cs : List Char), splitSlash (cs ++ ['/']) = splitSlash cs ++ [[]] := by
  intro cs
  induction cs with
  | nil => simp [splitSlash]
  | cons c t ih =>
    simp only [List.cons_append, splitSlash]
    split
    · simp [ih]
    · rw [ih]
      cases h : splitSlash t with
      | nil => exact absurd h (splitSlash_ne_nil t)
      | cons s r => simp

theorem componentsL_trailing_slash (cs : List Char) (h : cs ≠ []) : componentsL (cs ++ ['/']) = componentsL cs := by
  unfold componentsL
  rw [splitSlash_append_slash]
  have h1 : (cs ++ ['/']).head? = cs.head? := by
    cases cs with
    | nil => exact absurd rfl h
    | cons c t => rfl
  have h2 : (splitSlash cs ++ [[]]).head? = (splitSlash cs).head? := by
    cases hs : splitSlash cs with
    | nil => exact absurd hs (splitSlash_ne_nil cs)
    | cons s r => rfl
  rw [h1, h2, List.filterMap_append]
  simp [segComp]

theorem components_trailing_slash (dir : String) (h : dir ≠ "") : components (dir ++ "/") = components dir := by
  unfold components
  have : (dir ++ "/").toList = dir.toList ++ ['/'] := by simp
  rw [this]
  apply componentsL_trailing_slash
  intro h0
  exact h (String.toList_eq_nil_iff.mp h0)


/-! ## what git storage selects -/


/-- the entries `git_to_txns` parses: (executable) blobs whose path passes `is_txn_path` -/
def selected (dir ext : String) (e : Entry) : Bool := isBlobKind e.kind && isTxnPath e.path dir ext

/-- entries of any kind at a path under `dir` with extension `ext` -/
def relevant (dir ext : String) (e : Entry) : Bool := isTxnPath e.path dir ext

theorem relevant_eq (dir ext : String) (e : Entry) : relevant dir ext e = isTxnPath e.path dir ext := rfl

theorem selected_eq (dir ext : String) (e : Entry) :
    selected dir ext e = (isBlobKind e.kind && relevant dir ext e) := rfl

theorem hasLink_cons (e : Entry) (t : List Entry) : hasLink (e :: t) = (e.kind == .link || hasLink t) := by
  simp [hasLink]

theorem hasLink_false_iff (tree : List Entry) : hasLink tree = false ↔ ∀ e ∈ tree, e.kind ≠ .link := by
  simp [hasLink]

theorem gitSelect_eq (dir ext : String) : ∀ (tree : List Entry),
    gitSelect dir ext tree = if hasLink tree then .err else .ok (tree.filter (selected dir ext)) := by
  intro tree
  induction tree with
  | nil => simp [gitSelect, selectWith, hasLink]
  | cons e t ih =>
    unfold gitSelect at ih ⊢
    rw [selectWith, ih, hasLink_cons]
    cases hk : e.kind <;> cases hl : hasLink t <;> simp [gitEntry, hk, selected, isBlobKind, List.filter_cons]
    all_goals (split <;> simp_all)

def RealExt (name ext : String) : Prop :=
  name.toList ≠ ['.', '.'] ∧ ∃ stem, stem ≠ [] ∧ name.toList = stem ++ '.' :: ext.toList ∧ '.' ∉ ext.toList

theorem startsWith_iff (p base : List Comp) : startsWith p base = true ↔ base <+: p := by
  simp [startsWith]

theorem hasExt_iff (p : List Comp) (ext : String) :
    hasExt p ext = true ↔ ∃ name, fileName p = some name ∧ RealExt name ext := by
  unfold hasExt RealExt
  cases h : fileName p with
  | none => simp
  | some n => simp [extension_spec]

theorem isBlobKind_iff (k : Kind) : isBlobKind k = true ↔ k = .blob ∨ k = .blobExe := by
  cases k <;> simp [isBlobKind]

theorem isTxnPath_iff (path dir ext : String) :
    isTxnPath path dir ext = true ↔
      components dir <+: components path ∧ ∃ name, fileName (components path) = some name ∧ RealExt name ext := by
  simp [isTxnPath, startsWith_iff, hasExt_iff]

/-- **select_spec**: an entry of the commit's tree is loaded iff it is a (possibly executable) blob, the configured
    directory is a prefix of its path *by whole path components*, and the *real* extension of its file name is the
    configured one -/
theorem select_spec {dir ext : String} {tree sel : List Entry} (h : gitSelect dir ext tree = .ok sel) (e : Entry) :
    e ∈ sel ↔ e ∈ tree ∧ (e.kind = .blob ∨ e.kind = .blobExe) ∧ components dir <+: components e.path ∧
      ∃ name, fileName (components e.path) = some name ∧ RealExt name ext := by
  rw [gitSelect_eq] at h
  split at h
  · cases h
  · cases h
    rw [List.mem_filter, selected, Bool.and_eq_true, isBlobKind_iff, isTxnPath_iff]

theorem select_ok_iff (dir ext : String) (tree : List Entry) :
    (∃ sel, gitSelect dir ext tree = .ok sel) ↔ ∀ e ∈ tree, e.kind ≠ .link := by
  rw [gitSelect_eq, ← hasLink_false_iff]
  cases hasLink tree <;> simp

/-- selected entries come in traversal order, each at most as often as in the tree -/
theorem select_sublist {dir ext : String} {tree sel : List Entry} (h : gitSelect dir ext tree = .ok sel) :
    sel.Sublist tree := by
  rw [gitSelect_eq] at h
  split at h
  · cases h
  · cases h; exact List.filter_sublist


/-! ## the load -/

variable {σ : Type}

theorem gitCollect_skip (parse : σ → String → Outcome (List Txn × σ)) (dir ext : String) {st : σ} {e : Entry}
    (h : gitStep parse dir ext st e = .ok ([], st)) (t : List Entry) :
    gitCollect parse dir ext st (e :: t) = gitCollect parse dir ext st t := by
  rw [gitCollect, h]
  dsimp only
  cases gitCollect parse dir ext st t with
  | ok r => cases r; rfl
  | err => rfl
  | undef => rfl

theorem gitStep_of_not_selected (parse : σ → String → Outcome (List Txn × σ)) (dir ext : String) (st : σ)
    (x : Entry) (hx : selected dir ext x = false) (hk : x.kind ≠ .link) :
    gitStep parse dir ext st x = .ok ([], st) := by
  obtain ⟨k, p, o⟩ := x
  cases k <;> simp_all [gitStep, selected, isBlobKind]

/-- without links the interleaved select-and-parse of `git_to_txns` is: parse the selected blobs in order -/
theorem gitCollect_noLink (parse : σ → String → Outcome (List Txn × σ)) (dir ext : String) :
    ∀ (tree : List Entry) (st : σ), hasLink tree = false →
      gitCollect parse dir ext st tree = parseAll parse st (tree.filter (selected dir ext)) := by
  intro tree
  induction tree with
  | nil => intro st _; simp [gitCollect, parseAll]
  | cons e t ih =>
    intro st hl
    rw [hasLink_cons, Bool.or_eq_false_iff] at hl
    have hk : e.kind ≠ .link := by simpa using hl.1
    rw [List.filter_cons]
    cases hs : selected dir ext e with
    | false => rw [gitCollect_skip parse dir ext (gitStep_of_not_selected parse dir ext st e hs hk), ih st hl.2]; rfl
    | true =>
      have hstep : gitStep parse dir ext st e = parse st e.oid := by
        obtain ⟨k, p, o⟩ := e
        cases k <;> simp_all [gitStep, selected, isBlobKind]
      simp only [if_true, gitCollect, hstep, parseAll]
      cases parse st e.oid with
      | ok r => obtain ⟨ts, st1⟩ := r; simp only [ih st1 hl.2]
      | err => rfl
      | undef => rfl

theorem gitCollect_link (parse : σ → String → Outcome (List Txn × σ)) (dir ext : String) :
    ∀ (tree : List Entry) (st : σ) (r : List Txn × σ), hasLink tree = true →
      gitCollect parse dir ext st tree ≠ .ok r := by
  intro tree
  induction tree with
  | nil => intro st r hl; simp [hasLink] at hl
  | cons e t ih =>
    intro st r hl h
    rw [hasLink_cons] at hl
    obtain ⟨k, p, o⟩ := e
    simp only [gitCollect] at h
    split at h
    · rename_i ts st1 hs
      split at h
      · rename_i ts' st2 hc
        cases k <;> simp at hl
        all_goals first
          | exact ih st1 _ hl hc
          | (simp [gitStep] at hs)
      · cases h
      · cases h
    · cases h
    · cases h

/-- **load_is_parse**: a git load succeeds with `r` iff the selection succeeds, the selected blobs parse (in
    traversal order, threading the settings state) and `r` is the sorted concatenation of the parses -/
theorem load_is_parse (parse : σ → String → Outcome (List Txn × σ)) (dir ext : String) (st : σ)
    (tree : List Entry) (r : List Txn × σ) :
    gitLoad parse dir ext st tree = .ok r ↔
      ∃ sel ts st', gitSelect dir ext tree = .ok sel ∧ parseAll parse st sel = .ok (ts, st') ∧
        r = (sortTxns ts, st') := by
  unfold gitLoad
  rw [Outcome.map_ok, gitSelect_eq]
  cases hl : hasLink tree
  · rw [gitCollect_noLink parse dir ext tree st hl]
    constructor
    · rintro ⟨⟨ts, st'⟩, h, rfl⟩
      exact ⟨_, ts, st', by simp, h, rfl⟩
    · rintro ⟨sel, ts, st', hs, hp, rfl⟩
      simp at hs
      subst hs
      exact ⟨(ts, st'), hp, rfl⟩
  · constructor
    · rintro ⟨a, h, _⟩
      exact absurd h (gitCollect_link parse dir ext tree st a hl)
    · rintro ⟨sel, ts, st', hs, _⟩
      simp at hs

theorem link_refused (parse : σ → String → Outcome (List Txn × σ)) (dir ext : String) (st : σ)
    (tree : List Entry) (e : Entry) (he : e ∈ tree) (hk : e.kind = .link) (r : List Txn × σ) :
    gitLoad parse dir ext st tree ≠ .ok r := by
  intro h
  obtain ⟨sel, _, _, hs, _⟩ := (load_is_parse parse dir ext st tree r).mp h
  rw [gitSelect_eq] at hs
  have : hasLink tree = true := by
    simp only [hasLink, List.any_eq_true]
    exact ⟨e, he, by simp [hk]⟩
  simp [this] at hs

theorem filter_selected (dir ext : String) (tree : List Entry) :
    tree.filter (selected dir ext) = (tree.filter (relevant dir ext)).filter (fun e => isBlobKind e.kind) := by
  rw [List.filter_filter]
  rfl

/-- **unaffected**: two (link-free) trees that agree on the entries under `dir` with extension `ext` load the same —
    whatever else they contain (files elsewhere, near-miss names, other versions of other files) -/
theorem unaffected (parse : σ → String → Outcome (List Txn × σ)) (dir ext : String) (st : σ)
    (tree tree' : List Entry) (h1 : hasLink tree = false) (h2 : hasLink tree' = false)
    (h : tree.filter (relevant dir ext) = tree'.filter (relevant dir ext)) :
    gitLoad parse dir ext st tree = gitLoad parse dir ext st tree' := by
  unfold gitLoad
  rw [gitCollect_noLink parse dir ext tree st h1, gitCollect_noLink parse dir ext tree' st h2,
    filter_selected, filter_selected, h]

/-- the same for the selection, as sets: membership of relevant entries is all that matters -/
theorem unaffected_selection {dir ext : String} {tree tree' sel sel' : List Entry}
    (h : ∀ e, relevant dir ext e = true → (e ∈ tree ↔ e ∈ tree'))
    (hs : gitSelect dir ext tree = .ok sel) (hs' : gitSelect dir ext tree' = .ok sel') (e : Entry) :
    e ∈ sel ↔ e ∈ sel' := by
  rw [gitSelect_eq] at hs hs'
  split at hs
  · cases hs
  · split at hs'
    · cases hs'
    · cases hs; cases hs'
      simp only [List.mem_filter, selected, Bool.and_eq_true]
      constructor
      · rintro ⟨hm, hb, hp⟩; exact ⟨(h e hp).mp hm, hb, hp⟩
      · rintro ⟨hm, hb, hp⟩; exact ⟨(h e hp).mpr hm, hb, hp⟩

/-- one more entry that is no link and not under `dir` with extension `ext` — a file elsewhere, a near-miss name,
    a directory — changes nothing -/
theorem elsewhere_irrelevant (parse : σ → String → Outcome (List Txn × σ)) (dir ext : String)
    (x : Entry) (hx : relevant dir ext x = false) (hk : x.kind ≠ .link) (post : List Entry) :
    ∀ (pre : List Entry) (st : σ),
      gitLoad parse dir ext st (pre ++ x :: post) = gitLoad parse dir ext st (pre ++ post) := by
  intro pre st
  unfold gitLoad
  congr 1
  induction pre generalizing st with
  | nil =>
    have hs : selected dir ext x = false := by rw [selected_eq, hx, Bool.and_false]
    exact gitCollect_skip parse dir ext (gitStep_of_not_selected parse dir ext st x hs hk) post
  | cons e t ih =>
    simp only [List.cons_append, gitCollect]
    cases gitStep parse dir ext st e with
    | ok r => obtain ⟨ts, st1⟩ := r; simp only [ih st1]
    | err => rfl
    | undef => rfl


/-! ## git storage = filesystem storage on a checkout -/

theorem toFs_path (e : Entry) : (toFs e).path = e.path := by
  obtain ⟨k, p, o⟩ := e; cases k <;> rfl
theorem toFs_content (e : Entry) : (toFs e).content = e.oid := by
  obtain ⟨k, p, o⟩ := e; cases k <;> rfl

/-- on a checkout the fs test (`walk` + `is_txn_file`) and the git test (`is_txn_path` on blobs) coincide on every
    entry that is no symbolic link -/
theorem fs_test_eq_git_test (dir ext : String) (e : Entry) (hk : e.kind ≠ .link) :
    (startsWith (components (toFs e).path) (components dir) && isTxnFile ext (toFs e)) = selected dir ext e := by
  obtain ⟨k, p, o⟩ := e
  cases k <;> simp_all [toFs, isTxnFile, selected, isBlobKind, isTxnPath]

theorem fs_eq_map (dir ext : String) (tree : List Entry) (hl : hasLink tree = false) :
    (walk (components dir) (checkout tree)).filter (isTxnFile ext) = (tree.filter (selected dir ext)).map toFs := by
  unfold walk checkout
  rw [List.filter_filter, List.filter_map]
  congr 1
  apply List.filter_congr
  intro e he
  have hk := (hasLink_false_iff tree).mp hl e he
  rw [← fs_test_eq_git_test dir ext e hk, Bool.and_comm]
  rfl

/-- **git_eq_fs**: for a commit of regular files (no symbolic links), whenever filesystem storage selects files on a
    checkout of the commit, git storage selects the blobs of exactly these files: same paths, same contents
    (executable files included) -/
theorem git_eq_fs {dir ext : String} {tree : List Entry} {fs : List FsEntry} (hl : hasLink tree = false)
    (h : fsSelect dir ext (checkout tree) = .ok fs) :
    ∃ sel, gitSelect dir ext tree = .ok sel ∧ fs = sel.map toFs ∧
      fs.map (fun f => (f.path, f.content)) = sel.map (fun e => (e.path, e.oid)) := by
  refine ⟨tree.filter (selected dir ext), by simp [gitSelect_eq, hl], ?_⟩
  unfold fsSelect at h
  split at h
  · cases h
  · split at h
    · cases h
    · split at h
      · cases h
      · cases h
        rw [fs_eq_map dir ext tree hl]
        refine ⟨rfl, ?_⟩
        rw [List.map_map]
        apply List.map_congr_left
        intro e _
        simp [toFs_path, toFs_content]

/-- … and when the directory does not exist in the checkout (fs storage fails), git storage loads nothing -/
theorem git_eq_fs_missing {dir ext : String} {tree : List Entry} (hl : hasLink tree = false)
    (h : fsSelect dir ext (checkout tree) = .err) : gitSelect dir ext tree = .ok [] := by
  rw [gitSelect_eq, hl]
  simp only [Bool.false_eq_true, if_false, Outcome.ok.injEq, List.filter_eq_nil_iff]
  intro e he hs
  unfold fsSelect at h
  split at h
  · cases h
  · split at h
    · cases h
    · split at h
      · rename_i hm
        simp only [Bool.and_eq_true, bne_iff_ne, ne_eq, List.isEmpty_iff] at hm
        have hw : toFs e ∈ walk (components dir) (checkout tree) := by
          unfold walk checkout
          rw [List.mem_filter]
          refine ⟨List.mem_map_of_mem he, ?_⟩
          rw [toFs_path]
          simp only [selected, isTxnPath, Bool.and_eq_true] at hs
          exact hs.2.1
        rw [hm.2] at hw
        cases hw
      · cases h

/-- for link-free trees and plain directory settings the fs side is always defined (so `git_eq_fs` and
    `git_eq_fs_missing` cover every such case) -/
theorem fs_defined (dir ext : String) (tree : List Entry) (hl : hasLink tree = false) (hc : cleanDir dir = true) :
    fsSelect dir ext (checkout tree) = .err ∨ ∃ fs, fsSelect dir ext (checkout tree) = .ok fs := by
  have hn : linkNear (components dir) (checkout tree) = false := by
    simp only [linkNear, checkout, List.any_map, List.any_eq_false, Function.comp]
    intro e he
    have hk := (hasLink_false_iff tree).mp hl e he
    obtain ⟨k, p, o⟩ := e
    cases k <;> simp_all [toFs]
  unfold fsSelect
  simp only [hc, hn]
  simp only [Bool.not_true, Bool.false_eq_true, if_false]
  split
  · exact .inl rfl
  · exact .inr ⟨_, rfl⟩

theorem dir_trailing_slash (parse : σ → String → Outcome (List Txn × σ)) (dir ext : String) (h : dir ≠ "")
    (st : σ) (tree : List Entry) :
    gitSelect (dir ++ "/") ext tree = gitSelect dir ext tree ∧
    gitLoad parse (dir ++ "/") ext st tree = gitLoad parse dir ext st tree := by
  have hp : ∀ p, isTxnPath p (dir ++ "/") ext = isTxnPath p dir ext := by
    intro p; simp [isTxnPath, components_trailing_slash dir h]
  have he : gitEntry (dir ++ "/") ext = gitEntry dir ext := by
    funext e; simp [gitEntry, hp]
  have hs : ∀ st, gitStep parse (dir ++ "/") ext st = gitStep parse dir ext st := by
    intro st; funext e; simp [gitStep, hp]
  constructor
  · simp [gitSelect, he]
  · unfold gitLoad
    congr 1
    induction tree generalizing st with
    | nil => rfl
    | cons e t ih => simp only [gitCollect, hs, ih]

/-! ## selector, metadata -/

/-- **the commit id in the metadata is the commit that was loaded**: a successful `git_to_txns` reports the id of
    the commit the selector resolved to, and its data is the load of that commit's tree (and of nothing else) -/
theorem meta_commit_is_loaded (resolve : Selector → Outcome Commit) (parse : σ → String → Outcome (List Txn × σ))
    (dir ext : String) (sel : Selector) (st st' : σ) (md : GitMeta) (ts : List Txn)
    (h : gitToTxns resolve parse dir ext sel st = .ok ((md, ts), st')) :
    ∃ c, resolve sel = .ok c ∧ md.commit = c.id ∧ md.message = c.message ∧ md.dir = dir ∧ md.suffix = ext ∧
      gitLoad parse dir ext st c.tree = .ok (ts, st') := by
  unfold gitToTxns at h
  split at h
  · rename_i c hc
    rw [Outcome.map_ok] at h
    obtain ⟨⟨ts0, st0⟩, hl, he⟩ := h
    simp only [Prod.mk.injEq] at he
    obtain ⟨⟨rfl, rfl⟩, rfl⟩ := he
    exact ⟨c, hc, rfl, rfl, rfl, rfl, hl⟩
  · cases h
  · cases h

/-- the repository enters `git_to_txns` only through the commit the selector resolves to: two repository states
    (later commits, other branches and tags, index, work tree) in which the selector resolves to the same commit
    give the same answer.  `_partial`: that a commit id resolves to the same commit object in every later state of the
    repository, and that nothing but the object store is read, is `gix`'s / git's content addressing — covered by
    the tie (snapshot of the repository mid-history vs final state with a dirty work tree and index). -/
theorem repo_state_irrelevant_partial (resolve resolve' : Selector → Outcome Commit)
    (parse : σ → String → Outcome (List Txn × σ)) (dir ext : String) (sel : Selector) (st : σ)
    (h : resolve sel = resolve' sel) :
    gitToTxns resolve parse dir ext sel st = gitToTxns resolve' parse dir ext sel st := by
  unfold gitToTxns
  rw [h]

/-- a reference and the commit id it resolves to load the same data and report the same commit id.
    `_partial`: "the id resolves to the commit with that id" is `gix`'s `lookup_prefix`/`find_object`
    (hypothesis `hid`), covered by the tie (every commit by reference, by full and by abbreviated id). -/
theorem ref_and_id_same_data_partial (resolve : Selector → Outcome Commit)
    (parse : σ → String → Outcome (List Txn × σ)) (dir ext : String) (r id : String) (c : Commit) (st : σ)
    (href : resolve (.reference r) = .ok c) (hid : resolve (.commitId id) = .ok c) :
    (gitToTxns resolve parse dir ext (.reference r) st).map (fun x => (x.1.1.commit, x.1.2, x.2)) =
    (gitToTxns resolve parse dir ext (.commitId id) st).map (fun x => (x.1.1.commit, x.1.2, x.2)) := by
  unfold gitToTxns
  rw [href, hid]
  dsimp only
  generalize gitLoad parse dir ext st c.tree = y
  cases y <;> rfl

/-- the metadata shows the reference as given, except when it is (a prefix of) the commit id itself -/
theorem refShown_spec (sel : Selector) (id : String) :
    refShown sel id = match sel with
      | .commitId _ => none
      | .reference r => if r.toList <+: id.toList then none else some r := by
  cases sel <;> simp [refShown]

/-! ## configuration: suffix normalisation -/

theorem normSuffix_dot (s : String) : normSuffix ("." ++ s) = s := by
  unfold normSuffix
  have : ("." ++ s).toList = '.' :: s.toList := by simp
  rw [this]
  simp

theorem normSuffix_plain (s : String) (h : s.toList.head? ≠ some '.') : normSuffix s = s := by
  unfold normSuffix
  split
  · rename_i r hr; rw [hr] at h; simp at h
  · rfl

example : normSuffix ".txn" = "txn" ∧ normSuffix "txn" = "txn" := by decide


/-! ## finding F5 and non-vacuity -/


/-- the tree of DESIGN §7 F5 (as `files()` records it: trees included) -/
def f5tree : List Entry := [
  ⟨.tree, "txns", "t1"⟩, ⟨.tree, "txns2", "t2"⟩, ⟨.blob, "txnsfoo.txn", "b3"⟩,
  ⟨.blob, "txns/.txn", "b7"⟩, ⟨.blob, "txns/a.txn", "b1"⟩, ⟨.blob, "txns/ctxn", "b4"⟩, ⟨.blob, "txns/d.notxn", "b5"⟩,
  ⟨.blobExe, "txns/x.txn", "b6"⟩, ⟨.blob, "txns2/b.txn", "b2"⟩]

def paths (o : Outcome (List Entry)) : Outcome (List String) := o.map (·.map (·.path))

/-- witness of F5 (`gitSelectOld`, the byte-prefix test): near-miss names are loaded, the executable journal is skipped -/
theorem witness_F5_before : paths (gitSelectOld "txns" "txn" f5tree) =
    .ok ["txnsfoo.txn", "txns/.txn", "txns/a.txn", "txns/ctxn", "txns/d.notxn", "txns2/b.txn"] := by decide +kernel

/-- with the component-wise test: exactly the files filesystem storage takes -/
theorem witness_F5_after : paths (gitSelect "txns" "txn" f5tree) = .ok ["txns/a.txn", "txns/x.txn"] := by decide +kernel

theorem witness_F5_fs : (fsSelect "txns" "txn" (checkout f5tree)).map (·.map (·.path)) =
    .ok ["txns/a.txn", "txns/x.txn"] := by decide +kernel

example : paths (gitSelect "txns/" "txn" f5tree) = .ok ["txns/a.txn", "txns/x.txn"] := by decide +kernel
example : paths (gitSelect "" "txn" f5tree) = .ok ["txnsfoo.txn", "txns/a.txn", "txns/x.txn", "txns2/b.txn"] := by decide +kernel
example : paths (gitSelect "./txns" "txn" f5tree) = .ok [] := by decide +kernel
example : paths (gitSelect "txns" ".txn" f5tree) = .ok [] := by decide +kernel
example : paths (gitSelect "txns/a.txn" "txn" f5tree) = .ok ["txns/a.txn"] := by decide +kernel
example : fsSelect "nonexistent" "txn" (checkout f5tree) = .err := by decide +kernel
example : fsSelect "./txns" "txn" (checkout f5tree) = .undef := by decide
example : paths (gitSelect "txns" "txn" (⟨.link, "docs/latest", "l"⟩ :: f5tree)) = .err := by decide
example : (fsSelect "txns" "txn" (checkout (⟨.link, "docs/latest", "l"⟩ :: f5tree))).map (·.map (·.path)) =
    .ok ["txns/a.txn", "txns/x.txn"] := by decide +kernel
example : fsSelect "txns" "txn" (checkout (⟨.link, "txns/l.txn", "l"⟩ :: f5tree)) = .undef := by decide

theorem f5tree_noLink : hasLink f5tree = false := by decide

/-- hypotheses of `git_eq_fs` are satisfiable with a non-trivial selection -/
example : ∃ fs, fsSelect "txns" "txn" (checkout f5tree) = .ok fs ∧ fs.length = 2 := by
  have h := witness_F5_fs
  rw [Outcome.map_ok] at h
  obtain ⟨fs, hfs, hp⟩ := h
  exact ⟨fs, hfs, by rw [← List.length_map (·.path), hp]; rfl⟩

/-- hypotheses of `unaffected`: the F5 tree and the tree with only the two journals differ everywhere else -/
example : f5tree.filter (relevant "txns" "txn") =
    [⟨.blob, "txns/a.txn", "b1"⟩, ⟨.blobExe, "txns/x.txn", "b6"⟩].filter (relevant "txns" "txn") := by decide +kernel

/-- a parser for examples: one transaction per blob, described by the blob id; the state counts the blobs -/
def demoParse (n : Nat) (oid : String) : Outcome (List Txn × Nat) :=
  .ok ([⟨⟨⟨0, 0⟩, none, some oid, none, none, none, none⟩, []⟩], n + 1)

theorem demoParse_collect : gitCollect demoParse "txns" "txn" 0 f5tree =
    .ok ([⟨⟨⟨0, 0⟩, none, some "b1", none, none, none, none⟩, []⟩,
          ⟨⟨⟨0, 0⟩, none, some "b6", none, none, none, none⟩, []⟩], 2) := by decide +kernel

/-- the two journals are parsed, in traversal order, the state is threaded (sorting comes after) -/
example : (gitCollect demoParse "txns" "txn" 0 f5tree).map (fun r => (r.1.map (·.header.desc), r.2)) =
    .ok ([some "b1", some "b6"], 2) := by rw [demoParse_collect]; rfl

example : ∃ md ts st', gitToTxns (fun _ => .ok ⟨"c0ffee", "msg", f5tree⟩) demoParse "txns" "txn" (.reference "main") 0
    = .ok ((md, ts), st') ∧ md.commit = "c0ffee" ∧ md.reference = some "main" ∧ st' = 2 := by
  refine ⟨⟨"c0ffee", some "main", "txns", "txn", "msg"⟩, sortTxns ?ts, 2, ?load, rfl, rfl, rfl⟩
  case load =>
    simp only [gitToTxns, gitLoad, demoParse_collect]
    rfl

end Tackler.C08
