import TacklerModel.Model.Syntax
import TacklerModel.Lemmas.Syntax
import TacklerModel.Lemmas.Time
import TacklerModel.Lemmas.OutcomeRel
import TacklerModel.Props.C16
import TacklerModel.Lemmas.Order
/-!
# C15 — loading is total and fail-stop

The load path of the model is `Syntax.parseJournal` (text ⇒ parse tree) followed by `loadJournal`
(`Model/Accept`, `Model/Order`); multi-file input is `loadFiles`.

**Totality.**  Every definition on that path is accepted by Lean's termination checker: the parsers are
non-recursive compositions of the combinators of `Model/Comb`; the three loops (`repeat0G`,
`repeatTillG`, `spanN`) and `buildAccountTree`/`ancestorsOk` recurse structurally on an explicit fuel
(input length + 1, resp. account depth), `takeWhile`/`dropWhile`/`trimEnd` on the list.  The outcome type
has no "panic" value, so "never panics" cannot be stated about the model directly; instead
`no_panic` collects, for every `unwrap/expect/assert!/unreachable!/index`/unchecked arithmetic site of the
Rust load path (census of DESIGN.md §5 C15), the fact about the model that makes the site unreachable —
each fact is about the same sub-parser whose Rust twin guards the site.  Two sites of the census are errors,
not dead code: the `Decimal` `*`/`sum()` (F6: `checked_mul`/`checked_add`) and the synthetic parent in
`build_account_tree` (F21); their witnesses are at the end of this file.

**Fail-stop.**  `whole_input`: every character of an accepted text was consumed by a transaction or is blank
space between transactions.  `files_ok_all`, `files_fail_stop`: a multi-file load succeeds only if every file
parses and is accepted.
-/
namespace Tackler
namespace C15
open Comb Syntax

/-! ## 1. Dead panic sites -/

theorem ite_ne_undef {α} {c : Prop} [Decidable c] {a b : Outcome α} (ha : a ≠ .undef) (hb : b ≠ .undef) :
    (if c then a else b) ≠ .undef := by
  split <;> assumption

/-- `resolveTs` always decides (no `undef` for a fixed-offset journal zone), so `ofOutcome` loses nothing:
    every leaf of its case tree is `.ok _` or `.err` -/
theorem resolveTs_defined (cfg : Time.TsCfg) (t : Time.TsToken) : Time.resolveTs cfg t ≠ .undef := by
  obtain ⟨y, m, d, time, zone⟩ := t
  have inst : ∀ i off : Int, (if Time.instantOk i = true then Outcome.ok (⟨i, off⟩ : Ts) else .err) ≠ .undef :=
    fun _ _ => ite_ne_undef nofun nofun
  unfold Time.resolveTs
  refine ite_ne_undef nofun ?_
  rcases time with _ | ⟨h, mi, s, frac⟩
  · rcases zone with _ | _
    · exact inst _ _
    · nofun
  · refine ite_ne_undef nofun ?_
    rcases zone with _ | _ | ⟨neg, hh, mm⟩
    · exact inst _ _
    · exact inst _ _
    · exact ite_ne_undef nofun (inst _ _)

theorem isDig_of_isDecDigit (c : Char) (h : isDecDigit c = true) : Time.isDig c = true := by
  simp only [isDecDigit, Bool.and_eq_true, decide_eq_true_eq] at h
  unfold Time.isDig
  have e1 : ('0' : Char).toNat = 48 := rfl
  have e2 : ('9' : Char).toNat = 57 := rfl
  have l1 : '0' ≤ c ↔ ('0' : Char).toNat ≤ c.toNat := Char.le_def
  have l2 : c ≤ '9' ↔ c.toNat ≤ ('9' : Char).toNat := Char.le_def
  simp only [decide_eq_true_eq, l1, l2, e1, e2]
  exact h

theorem takeMN_digits_lt {m n : Nat} {s ds r : List Char} (h : takeMN m n isDecDigit s = .ok ds r) :
    ds.length ≤ n ∧ (∀ c ∈ ds, Time.isDig c = true) ∧ digits ds < 10 ^ n := by
  obtain ⟨_, _, hlen, hd⟩ := takeMN_ok _ _ _ _ _ _ h
  have hd' := fun c hc => isDig_of_isDecDigit c (hd c hc)
  exact ⟨hlen, hd', Nat.lt_of_lt_of_le (Dec.digitsVal_lt ds hd') (Nat.pow_le_pow_right (by decide) hlen)⟩

/-- `handle_time`: `assert!(ns_len <= 9)`, `i32::from_str(ns_str)` and `left_ns * 10i32.pow(9 - ns_len)`:
    the fraction comes from `take_while(1..=9, digit)`, so it has at most 9 digits and the scaled value is
    below 10⁹ (< 2³¹) -/
theorem frac_fits (s ds r : List Char) (h : takeMN 1 9 isDecDigit s = .ok ds r) :
    ds.length ≤ 9 ∧ digits ds < 2 ^ 31 ∧ Time.fracNs ds < 1000000000 := by
  obtain ⟨hlen, hd, hlt⟩ := takeMN_digits_lt h
  exact ⟨hlen, Nat.lt_trans hlt (by decide), C16.fracNs_lt ds hd hlen⟩

/-- `take_while(2, digit).try_map(i8::from_str)` / `i32::from_str`: two digits are below 100 (< 2⁷) -/
theorem two_digits_fit (s ds r : List Char) (h : twoDigits s = .ok ds r) : digits ds < 100 :=
  (takeMN_digits_lt h).2.2

/-- `take_while(4, digit).try_map(i16::from_str)`: four digits are below 10 000 (< 2¹⁵) -/
theorem year_fits (s ds r : List Char) (h : takeMN 4 4 isDecDigit s = .ok ds r) : digits ds < 10000 :=
  (takeMN_digits_lt h).2.2

/-- `p_offset`: `sign * (h * 60 * 60 + m * 60)` in `i32` cannot overflow -/
theorem offset_arith_fits (h m : Nat) (hh : h < 100) (hm : m < 100) : h * 3600 + m * 60 < 2 ^ 31 := by
  have : (2:Nat) ^ 31 = 2147483648 := by decide
  omega

theorem repeat1_ne_nil {α} (p : P α) (s : List Char) (l : List α) (r : List Char)
    (h : repeat1 p s = .ok l r) : l ≠ [] := by
  unfold repeat1 at h
  obtain ⟨a, s', _, h2⟩ := (Res.bind_ok _ _ _ _).mp h
  obtain ⟨l', _, rfl⟩ := (Res.map_ok _ _ _ _).mp h2
  simp

/-- `parse_txn_postings`: `postings.0[0]` exists, because the list comes from `repeat(1.., …)` -/
theorem postings_nonempty (s r : List Char) (ps : List RawPosting) (l : Option (Path × Option String))
    (h : parseTxnPostings s = .ok (ps, l) r) : ps ≠ [] := by
  unfold parseTxnPostings at h
  obtain ⟨ps', s1, h1, h2⟩ := (Res.bind_ok _ _ _ _).mp h
  obtain ⟨l', s2, _, h3⟩ := (Res.bind_ok _ _ _ _).mp h2
  have hne := repeat1_ne_nil _ _ _ _ h1
  split at h3
  · cases h3; exact hne
  · split at h3
    · cases h3; exact hne
    · cases h3

/-- `p_closing_pos`: the `unreachable!("IE: Unexpected token")` arm is dead: after `alt(('@', '='))` the
    character is `@` or `=` -/
theorem closing_kind_total (s r : List Char) (k : Char) (v : Val)
    (h : alt (chr '@') (chr '=') s = .ok k r) : closingOf k v ≠ none := by
  unfold alt at h
  split at h
  · rename_i a r' h1
    cases h
    obtain ⟨_, rfl⟩ := chr_ok _ _ _ _ h1
    simp [closingOf]
  · obtain ⟨_, rfl⟩ := chr_ok _ _ _ _ h
    simp [closingOf]
  · cases h

/-- hence `p_closing_pos` never takes its `.cut` arm for that reason: whenever the lexical part succeeds,
    the result is a closing position -/
theorem pClosingPos_no_unreachable (s : List Char) (k : Char) (v : Val) (r : List Char)
    (h : alt (chr '@') (chr '=') s = .ok k r) : ∃ cl, closingOf k v = some cl :=
  Option.ne_none_iff_exists'.mp (closing_kind_total s r k v h)

/-- winnow's "`repeat` parsers must always consume" assertion (a panic in debug builds): every parser
    tackler puts under `repeat`/`repeat_till` consumes at least one character when it succeeds -/
theorem repeated_parsers_consume (cfg : Time.TsCfg) :
    (∀ s, Cons (pIdPartHelper s) s) ∧ (∀ s, Cons (pTagTail s) s) ∧ (∀ s, Cons (parseTxnComment s) s) ∧
    (∀ s, Cons (parseTxnPosting s) s) ∧ (∀ s, Cons (blankLine s) s) ∧ (∀ s, Cons (parseTxn cfg s) s) :=
  ⟨pIdPartHelper_cons, pTagTail_cons, parseTxnComment_cons, parseTxnPosting_cons, blankLine_cons,
   parseTxn_cons cfg⟩

/-- … so the assertion site is dead: whatever it would yield (`x`), the loops compute the same result -/
theorem repeat_assert_dead (cfg : Time.TsCfg) (s : List Char) :
    (∀ x, repeat0 pIdPartHelper s = repeat0G x pIdPartHelper (s.length + 1) s) ∧
    (∀ x, repeat0 pTagTail s = repeat0G x pTagTail (s.length + 1) s) ∧
    (∀ x, repeat0 parseTxnComment s = repeat0G x parseTxnComment (s.length + 1) s) ∧
    (∀ x, repeat0 parseTxnPosting s = repeat0G x parseTxnPosting (s.length + 1) s) ∧
    (∀ x, repeat0 blankLine s = repeat0G x blankLine (s.length + 1) s) ∧
    (∀ x, repeatTillG .cut (parseTxn cfg) eof (s.length + 1) s = repeatTillG x (parseTxn cfg) eof (s.length + 1) s) :=
  ⟨fun x => repeat0_stall_irrelevant x _ pIdPartHelper_cons s,
   fun x => repeat0_stall_irrelevant x _ pTagTail_cons s,
   fun x => repeat0_stall_irrelevant x _ parseTxnComment_cons s,
   fun x => repeat0_stall_irrelevant x _ parseTxnPosting_cons s,
   fun x => repeat0_stall_irrelevant x _ blankLine_cons s,
   fun x => repeatTillG_stall_irrelevant _ x _ _ (parseTxn_cons cfg) _ s (by omega)⟩

/-- **C15 `no_panic`.**  The model has no panic outcome; this theorem is the conjunction of the facts that
    make every panic site of the Rust load path unreachable (F6 and F21 are modelled as errors):
    1. `handle_time`: `assert!(ns_len <= 9)`, `i32::from_str`, `i32` product — `frac_fits`;
    2. `try_map(i8::from_str)`, `try_map(i16::from_str)`, `try_map(i32::from_str)` on 2/4 digits;
    3. `p_offset`: `i32` arithmetic;
    4. `p_closing_pos`: `unreachable!`;
    5. `parse_txn_postings`: `postings.0[0]`;
    6. winnow `repeat`/`repeat_till`: "parsers must always consume" assertion;
    7. `ofOutcome`: timestamp resolution always decides. -/
theorem no_panic (cfg : Time.TsCfg) :
    (∀ s ds r, takeMN 1 9 isDecDigit s = .ok ds r →
        ds.length ≤ 9 ∧ digits ds < 2 ^ 31 ∧ Time.fracNs ds < 1000000000) ∧
    (∀ s ds r, twoDigits s = .ok ds r → digits ds < 100) ∧
    (∀ s ds r, takeMN 4 4 isDecDigit s = .ok ds r → digits ds < 10000) ∧
    (∀ h m, h < 100 → m < 100 → h * 3600 + m * 60 < 2 ^ 31) ∧
    (∀ s r k v, alt (chr '@') (chr '=') s = .ok k r → closingOf k v ≠ none) ∧
    (∀ s r ps l, parseTxnPostings s = .ok (ps, l) r → ps ≠ []) ∧
    ((∀ s, Cons (pIdPartHelper s) s) ∧ (∀ s, Cons (pTagTail s) s) ∧ (∀ s, Cons (parseTxnComment s) s) ∧
     (∀ s, Cons (parseTxnPosting s) s) ∧ (∀ s, Cons (blankLine s) s) ∧ (∀ s, Cons (parseTxn cfg s) s)) ∧
    (∀ t, Time.resolveTs cfg t ≠ .undef) :=
  ⟨frac_fits, two_digits_fit, year_fits, offset_arith_fits, closing_kind_total, postings_nonempty,
   repeated_parsers_consume cfg, resolveTs_defined cfg⟩

/-! ## 2. The whole input is consumed -/

/-- blank space between transactions: blanks, tabs and line endings -/
def Blank (l : List Char) : Prop := ∀ c ∈ l, c = ' ' ∨ c = '\t' ∨ c = '\r' ∨ c = '\n'

theorem blank_nil : Blank [] := by intro c hc; cases hc

theorem Blank.append {a b : List Char} (ha : Blank a) (hb : Blank b) : Blank (a ++ b) := by
  intro c hc
  rcases List.mem_append.mp hc with h | h
  · exact ha c h
  · exact hb c h

/-- on success the parser consumed a blank prefix: input = consumed ++ rest -/
def BSpan {α} (r : Res α) (s : List Char) : Prop := ∀ a t, r = .ok a t → ∃ pre, s = pre ++ t ∧ Blank pre

theorem BSpan.bind {α β} {r : Res α} {f : α → List Char → Res β} {s : List Char}
    (hr : BSpan r s) (hf : ∀ a s', BSpan (f a s') s') : BSpan (r.bind f) s := by
  intro b t e
  obtain ⟨a, s', e1, e2⟩ := (Res.bind_ok _ _ _ _).mp e
  obtain ⟨p1, rfl, hb1⟩ := hr a s' e1
  obtain ⟨p2, rfl, hb2⟩ := hf a s' b t e2
  exact ⟨p1 ++ p2, by simp, hb1.append hb2⟩

theorem space0_bspan (s : List Char) : BSpan (space0 s) s := by
  intro a t e
  obtain ⟨h1, h2, _⟩ := takeWhile0_ok _ _ _ _ e
  refine ⟨a, h1, ?_⟩
  intro c hc
  have := h2 c hc
  simp [isSpace] at this
  rcases this with h | h
  · exact Or.inl h
  · exact Or.inr (Or.inl h)

theorem lineEnding_bspan (s : List Char) : BSpan (lineEnding s) s := by
  intro a t e
  rcases lineEnding_ok _ _ _ e with h | h
  · exact ⟨['\n'], by simp [h], by intro c hc; simp at hc; simp [hc]⟩
  · refine ⟨['\r', '\n'], by simp [h], ?_⟩
    intro c hc
    simp at hc
    rcases hc with h | h <;> simp [h]

theorem blankLine_bspan (s : List Char) : BSpan (blankLine s) s := by
  unfold blankLine
  exact BSpan.bind (space0_bspan s) (fun _ s' => lineEnding_bspan s')

theorem repeat0G_bspan {α} (p : P α) (hp : ∀ s, BSpan (p s) s) :
    ∀ (fuel : Nat) (s : List Char), BSpan (repeat0G .cut p fuel s) s := by
  intro fuel
  induction fuel with
  | zero => intro s a t e; simp [repeat0G] at e
  | succ n ih =>
    intro s a t e
    simp only [repeat0G] at e
    split at e
    · rename_i a' r hps
      split at e
      · obtain ⟨l, e1, _⟩ := (Res.map_ok _ _ _ _).mp e
        obtain ⟨p1, rfl, hb1⟩ := hp s a' r hps
        obtain ⟨p2, rfl, hb2⟩ := ih r l t e1
        exact ⟨p1 ++ p2, by simp, hb1.append hb2⟩
      · cases e
    · cases e; exact ⟨[], rfl, blank_nil⟩
    · cases e

theorem multispace0LineEnding_bspan (s : List Char) : BSpan (multispace0LineEnding s) s := by
  intro a t e
  unfold multispace0LineEnding at e
  obtain ⟨l, e1, _⟩ := (Res.map_ok _ _ _ _).mp e
  unfold repeat1 at e1
  refine BSpan.bind (blankLine_bspan s) (fun a' s' => ?_) l t e1
  intro b t' e'
  obtain ⟨l', e2, _⟩ := (Res.map_ok _ _ _ _).mp e'
  exact repeat0G_bspan _ blankLine_bspan _ s' l' t' e2

theorem separator_bspan (s : List Char) : BSpan (alt multispace0LineEnding eof s) s := by
  intro a t e
  unfold alt at e
  split at e
  · rename_i a' r h1; cases e; exact multispace0LineEnding_bspan s _ _ h1
  · obtain ⟨rfl, rfl⟩ := eof_ok _ _ _ e; exact ⟨[], rfl, blank_nil⟩
  · cases e

/-- header and postings of one transaction, without the separator that follows -/
def txnBody (cfg : Time.TsCfg) : P RawTxn := fun s =>
  (cutErr (parseTxnHeader cfg) s).bind fun h s =>
  (cutErr parseTxnPostings s).bind fun ps s =>
  .ok ⟨h, ps.1, ps.2⟩ s

theorem parseTxn_eq (cfg : Time.TsCfg) (s : List Char) :
    parseTxn cfg s = (txnBody cfg s).bind fun t s => (alt multispace0LineEnding eof s).bind fun _ s => .ok t s := by
  unfold parseTxn txnBody
  cases cutErr (parseTxnHeader cfg) s with
  | ok h s1 =>
    simp only [Res.bind_ok']
    cases cutErr parseTxnPostings s1 with
    | ok ps s2 => simp only [Res.bind_ok']
    | bt => rfl
    | cut => rfl
  | bt => rfl
  | cut => rfl

theorem txnBody_cons (cfg : Time.TsCfg) (s : List Char) : Cons (txnBody cfg s) s := by
  unfold txnBody
  exact Cons.bind (cutErr_cons (parseTxnHeader_cons cfg s)) (fun _ _ => by psuff)

/-- one transaction of the input: its text, the blank lines after it, its parse tree -/
structure Seg where
  text : List Char
  blanks : List Char
  txn : RawTxn

def flat (segs : List Seg) : List Char := (segs.map fun g => g.text ++ g.blanks).flatten

/-- each segment's `text` is exactly what `txnBody` consumes at its place in the input, and its `blanks`
    exactly what the separator consumes -/
inductive Chain (cfg : Time.TsCfg) : List Seg → Prop
  | nil : Chain cfg []
  | cons (g : Seg) (gs : List Seg) :
      g.text ≠ [] → Blank g.blanks →
      txnBody cfg (g.text ++ g.blanks ++ flat gs) = .ok g.txn (g.blanks ++ flat gs) →
      alt multispace0LineEnding eof (g.blanks ++ flat gs) = .ok () (flat gs) →
      Chain cfg gs → Chain cfg (g :: gs)

/-- one successful `parse_txn` in front of a chain splits off one more segment -/
theorem chain_cons (cfg : Time.TsCfg) {s : List Char} {t : RawTxn} {segs : List Seg}
    (h : parseTxn cfg s = .ok t (flat segs)) (hch : Chain cfg segs) :
    ∃ g : Seg, g.txn = t ∧ s = flat (g :: segs) ∧ Chain cfg (g :: segs) := by
  rw [parseTxn_eq] at h
  obtain ⟨t', s1, h1, h2⟩ := (Res.bind_ok _ _ _ _).mp h
  obtain ⟨u, s2, h3, h4⟩ := (Res.bind_ok _ _ _ _).mp h2
  cases h4
  obtain ⟨⟨text, rfl⟩, hlen⟩ := txnBody_cons cfg s t s1 h1
  obtain ⟨blanks, rfl, hb⟩ := separator_bspan s1 u _ h3
  have hne : text ≠ [] := by rintro rfl; simp at hlen
  refine ⟨⟨text, blanks, t⟩, rfl, by simp [flat], Chain.cons _ segs hne hb ?_ h3 hch⟩
  rw [List.append_assoc]; exact h1

theorem repeatTill_segs (cfg : Time.TsCfg) :
    ∀ (fuel : Nat) (s r : List Char) (ts : List RawTxn),
      repeatTillG .cut (parseTxn cfg) eof fuel s = .ok ts r →
      r = [] ∧ ∃ segs, s = flat segs ∧ Chain cfg segs ∧ segs.map (·.txn) = ts := by
  intro fuel
  induction fuel with
  | zero => intro s r ts h; simp [repeatTillG] at h
  | succ n ih =>
    intro s r ts h
    simp only [repeatTillG] at h
    split at h
    · rename_i u r' he
      cases h
      obtain ⟨rfl, rfl⟩ := eof_ok _ _ _ he
      exact ⟨rfl, [], rfl, Chain.nil, rfl⟩
    · cases h
    · split at h
      · rename_i t s' hp
        split at h
        · obtain ⟨l, e1, rfl⟩ := (Res.map_ok _ _ _ _).mp h
          obtain ⟨hr, segs, rfl, hch, hmap⟩ := ih s' r l e1
          obtain ⟨g, hg, hs, hch'⟩ := chain_cons cfg hp hch
          exact ⟨hr, g :: segs, hs, hch', by simp [hg, hmap]⟩
        · cases h
      · cases h
      · cases h

/-- what `parse_txns` accepts: leading blank lines, a non-empty chain of segments, nothing after it -/
theorem parseTxns_segs (cfg : Time.TsCfg) {s r : List Char} {ts : List RawTxn} (h : parseTxns cfg s = .ok ts r) :
    r = [] ∧ ∃ (b0 : List Char) (segs : List Seg),
      s = b0 ++ flat segs ∧ Blank b0 ∧ Chain cfg segs ∧ segs.map (·.txn) = ts ∧ segs ≠ [] := by
  unfold parseTxns at h
  obtain ⟨o, s1, h1, h2⟩ := (Res.bind_ok _ _ _ _).mp h
  obtain ⟨b0, rfl, hb⟩ : ∃ b0, s = b0 ++ s1 ∧ Blank b0 := by
    unfold opt at h1
    split at h1
    · rename_i a r hm; cases h1; exact multispace0LineEnding_bspan s a _ hm
    · cases h1; exact ⟨[], rfl, blank_nil⟩
    · cases h1
  unfold repeatTill1 at h2
  obtain ⟨t, s2, h3, h4⟩ := (Res.bind_ok _ _ _ _).mp h2
  obtain ⟨l, h5, rfl⟩ := (Res.map_ok _ _ _ _).mp h4
  obtain ⟨hr, segs, rfl, hch, hmap⟩ := repeatTill_segs cfg _ s2 r l h5
  obtain ⟨g, hg, hs, hch'⟩ := chain_cons cfg h3 hch
  exact ⟨hr, b0, g :: segs, by rw [hs], hb, hch', by simp [hg, hmap], by simp⟩

/-- **C15 `whole_input`.**  If a text is accepted by the grammar, it is exactly: leading blank lines, then
    for every transaction of the result (in order) its text followed by its blank lines; each transaction's
    text is precisely the span its parser consumed in place.  So every character of an accepted input was
    consumed by a transaction or is blank space between transactions — nothing is skipped, and there is at
    least one transaction. -/
theorem whole_input (cfg : Time.TsCfg) (s : List Char) (ts : List RawTxn)
    (h : parseJournal cfg s = some ts) :
    ∃ (b0 : List Char) (segs : List Seg),
      s = b0 ++ flat segs ∧ Blank b0 ∧ Chain cfg segs ∧ segs.map (·.txn) = ts ∧ segs ≠ [] := by
  unfold parseJournal at h
  split at h
  · cases h; exact (parseTxns_segs cfg ‹_›).2
  · cases h
  · cases h
  · cases h

/-- the remainder after the grammar is empty: `Parser::parse`'s own end-of-input check never fires -/
theorem parseTxns_rest_nil (cfg : Time.TsCfg) (s r : List Char) (ts : List RawTxn)
    (h : parseTxns cfg s = .ok ts r) : r = [] :=
  (parseTxns_segs cfg h).1

/-! ## 3. Multi-file input is all-or-nothing -/

theorem mapMS_ok_all {σ α β} (f : σ → α → Outcome (β × σ)) :
    ∀ (l : List α) (s s' : σ) (bs : List β), mapMS f s l = .ok (bs, s') →
      ∀ a ∈ l, ∃ s₁ b s₂, f s₁ a = .ok (b, s₂) := by
  intro l s s' bs h a ha
  obtain ⟨b, _, s₁, s₂, _, hf⟩ :=
    (mapMS_invariant f (fun _ => True) (fun _ _ _ _ _ _ => trivial) l s s' bs trivial h).2.2 a ha
  exact ⟨s₁, b, s₂, hf⟩

/-- **C15 `files_fail_stop` (⇒).**  A multi-file load that succeeds has parsed and accepted every file
    (each in the settings state left by its predecessors). -/
theorem files_ok_all (cfg : Time.TsCfg) (st st' : Settings) (files : List (List Char)) (ts : List Txn)
    (h : loadFiles cfg st files = .ok (ts, st')) :
    ∀ f ∈ files, ∃ rs st₁ ts₁ st₂, parseJournal cfg f = some rs ∧ acceptJournal st₁ rs = .ok (ts₁, st₂) := by
  unfold loadFiles at h
  obtain ⟨r, h1, _⟩ := (Outcome.map_ok _ _ _).mp h
  intro f hf
  obtain ⟨s₁, b, s₂, hb⟩ := mapMS_ok_all _ files st r.2 r.1 (by simpa using h1) f hf
  unfold acceptText at hb
  split at hb
  · cases hb
  · rename_i rs hrs
    exact ⟨rs, s₁, b, s₂, hrs, hb⟩

/-- **C15 `files_fail_stop` (⇐).**  One file that is not accepted — syntax error, or rejected whatever the
    settings state — fails the whole load: no transaction of any other file is delivered. -/
theorem files_fail_stop (cfg : Time.TsCfg) (st : Settings) (files : List (List Char)) (f : List Char)
    (hf : f ∈ files)
    (hbad : parseJournal cfg f = none ∨ ∀ rs, parseJournal cfg f = some rs → ∀ st₁ r, acceptJournal st₁ rs ≠ .ok r) :
    ∀ r, loadFiles cfg st files ≠ .ok r := by
  rintro ⟨ts, st'⟩ h
  obtain ⟨rs, st₁, ts₁, st₂, hp, hacc⟩ := files_ok_all cfg st st' files ts h f hf
  rcases hbad with hn | ha
  · rw [hn] at hp; cases hp
  · exact ha rs hp st₁ _ hacc

/-- a syntax error in the single-text load is an error (never a partial result) -/
theorem text_syntax_error (cfg : Time.TsCfg) (st : Settings) (s : List Char)
    (h : parseJournal cfg s = none) : loadText cfg st s = .err := by
  unfold loadText; rw [h]

/-- and an accepted text delivers exactly as many transactions as the grammar recognised -/
theorem text_all_or_nothing (cfg : Time.TsCfg) (st st' : Settings) (s : List Char) (ts : List Txn)
    (h : loadText cfg st s = .ok (ts, st')) :
    ∃ rs, parseJournal cfg s = some rs ∧ ts.length = rs.length := by
  unfold loadText at h
  split at h
  · cases h
  · rename_i rs hrs
    refine ⟨rs, hrs, ?_⟩
    obtain ⟨acc, h1, rfl⟩ := loadJournal_some h
    rw [(sortTxns_perm acc).length_eq]
    exact mapMS_length acceptTxn _ _ _ acc h1

/-! ## 4. Recursion structure -/

/-- **C15 `bounded_recursion_partial`.**
    Full statement (DESIGN.md): `stackDepth (loadPath s) ≤ K` for a constant `K` independent of `s`.
    Real stack consumption is runtime behaviour that the model cannot exhibit; what is proved is the model's
    recursion structure: (a) the parsers are a fixed, finite nest of non-recursive definitions — the only
    recursion on the load path is in the loops, all of which are iterations driven by fuel, and the fuel never
    exceeds the input length + 1 (`repeat0`, `repeatTill1` by definition); (b) the one loop that is a true
    recursion in Rust, `build_account_tree`, creates at most one ancestor per component of the account name,
    so its depth is bounded by the account depth — *not* by a constant: a 20 000-component account name
    (F11) is a known finding (stack use and quadratic time grow with the account depth; tested up to depth
    1 000). -/
theorem bounded_recursion_partial (other target : List Path) (p : Path) :
    (buildParents other target p).length ≤ target.length + (p.length - 1) := by
  unfold buildParents
  have key : ∀ (fuel : Nat) (target : List Path) (p : Path),
      (buildAccountTree other fuel target p).length ≤ target.length + (p.length - 1) := by
    intro fuel
    induction fuel with
    | zero => intro target p; simp [buildAccountTree]
    | succ n ih =>
      intro target p
      simp only [buildAccountTree]
      split
      · omega
      · split
        · omega
        · have := ih (target ++ [parentPath p]) (parentPath p)
          simp only [List.length_append, List.length_singleton, parentPath, List.length_dropLast] at this ⊢
          omega
  exact key _ _ _

/-! ## 5. Witnesses and non-vacuity

The characters of a literal are read off with `String.toList_ofList` (see `E2E.Ex.sample_parses`). -/

def utc : Time.TsCfg := Time.utcCfg

/-- a small journal is accepted by the grammar (the hypotheses of `whole_input` are satisfiable) -/
example : (parseJournal utc "\n2024-01-01 (c) 'd\n # tags: a:b, c\n ; note\n a:b  1.50 EUR @ 2 USD ; pc\n c  -3 USD\n\n2024-01-02\n x 1\n y\n".toList).isSome = true := by
  rw [String.toList_ofList]
  decide

/-- trailing garbage, a missing line ending after the last posting of a non-final transaction, an
    incomplete transaction: rejected as a whole -/
example : parseJournal utc "2024-01-01\n a 1\n b\nx".toList = none := by
  rw [String.toList_ofList]
  decide
example : parseJournal utc "2024-01-01\n a 1\n b\n2024-01-02\n a 1\n".toList = none := by
  rw [String.toList_ofList]
  decide
example : parseJournal utc "".toList = none := by decide

/-- a good file next to a bad file, in both orders: the load fails -/
example : (loadFiles utc (Settings.ofConfig false false true [] [] []) ["2024-01-01\n a 1\n b\n".toList, "2024-01-02\n a 1\n".toList]).isOk = false := by
  rw [String.toList_ofList, String.toList_ofList]
  decide
example : (loadFiles utc (Settings.ofConfig false false true [] [] []) ["2024-01-02\n a 1\n".toList, "2024-01-01\n a 1\n b\n".toList]).isOk = false := by
  rw [String.toList_ofList, String.toList_ofList]
  decide
example : (loadFiles utc (Settings.ofConfig false false true [] [] []) ["2024-01-02\n a 1\n b\n".toList, "2024-01-01\n a 1\n b\n".toList]).isOk = true := by
  rw [String.toList_ofList, String.toList_ofList]
  decide

def maxDec : Dec := ⟨false, max96, 0⟩

/-- **witness of F6**: `79228162514264337593543950335 ACME @ 79228162514264337593543950335 EUR`
    is a semantic error (`checked_mul`), as is a posting sum beyond 96 bits (`checked_add`) -/
theorem F6_mul_overflow_is_error :
    valuePosition maxDec (some ⟨"ACME", none, some (.unitPrice ⟨maxDec, "EUR"⟩)⟩) = .err := by decide

theorem F6_sum_overflow_is_error :
    (loadText utc (Settings.ofConfig false false true [] [] [])
      "2024-01-01\n a 79228162514264337593543950335\n b 79228162514264337593543950335\n c\n".toList) = .err := by
  rw [String.toList_ofList]
  decide

/-- **witness of F21**: `a :b` passes `AccountTreeNode::from` (components are validated after
    trimming) but its parent `a ` does not — the journal is an ordinary error, where
    `expect("IE: synthetic parent is invalid")` would be reached -/
theorem F21_parent_of_valid_name_invalid :
    atnOk ["a ".toList, "b".toList] = true ∧ atnOk ["a ".toList] = false := by decide

theorem F21_is_error : parseJournal utc "2024-01-01\n a :b  1\n c\n".toList = none := by
  rw [String.toList_ofList]
  decide

end C15
end Tackler
