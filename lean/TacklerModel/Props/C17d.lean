import TacklerModel.Model.BalanceLayout
import TacklerModel.Props.C17
/-!
# C17 (continued) — the column layout is display only

`Model/BalanceLayout` is the balance report's text, character for character (tied line by line to the real report
in C17's runner).  The theorems here say that the layout never touches a figure: whatever the widths derived from the
balance are, every row prints both of its figures in full (`rowLine_shows_figures`), every delta line prints its figure
in full (`deltaLine_shows_figure`), padding only adds blanks (`padL_eq`), the report has exactly one line per row, one
ruler and one line per delta, rows in the balance's order (`bodyLines_length`, `bodyLines_row`), and an empty balance
prints nothing after the title (`bodyLines_empty`).  So a figure can be mis-aligned by the layout but never shortened,
rounded again or dropped.  Alignment: `padL_length`, `padL_wide`, `rowLine_own_column`, `widths_left`,
`rulerLine_length`.  Namespace `C17`.
-/
namespace Tackler
namespace C17
open BalLayout

theorem padL_length_ge (w : Nat) (s : List Char) : s.length ≤ (padL w s).length := by
  simp [padL, spaces]

/-- `{:>w$}` writes some blanks and then the whole text -/
theorem padL_eq (w : Nat) (s : List Char) : ∃ n, padL w s = List.replicate n ' ' ++ s :=
  ⟨w - s.length, rfl⟩

/-- when the text fits the field is exactly `w` wide: figures of one column end at the same position -/
theorem padL_length (w : Nat) (s : List Char) (h : s.length ≤ w) : (padL w s).length = w := by
  simp [padL, spaces]; omega

theorem padL_wide (w : Nat) (s : List Char) (h : w ≤ s.length) : padL w s = s := by
  simp [padL, spaces, Nat.sub_eq_zero_of_le h]

theorem le_maxOf (l : List Nat) (x : Nat) (h : x ∈ l) : x ≤ maxOf l :=
  (List.max?_le_iff (xs := 0 :: l) rfl).mp (Nat.le_refl _) x (List.mem_cons_of_mem _ h)

/-- the left column is at least 12 wide and wide enough for every unrounded delta as `Display` writes it -/
theorem widths_left (sc : Scale) (b : Balance) :
    12 ≤ (widths sc b).left ∧ ∀ cd ∈ b.deltas, cd.2.toChars.length ≤ (widths sc b).left := by
  refine ⟨Nat.le_max_left _ _, ?_⟩
  intro cd hcd
  have h1 : cd.2.toChars.length ≤ maxDeltaLen b.deltas :=
    le_maxOf _ _ (List.mem_map.mpr ⟨cd, hcd, rfl⟩)
  exact Nat.le_trans h1 (Nat.le_trans (Nat.le_max_right _ _) (Nat.le_max_right _ _))

/-- **Rows print both figures in full.**  Whatever the widths: blanks, the own figure, blanks, the tree figure, the
    commodity field and the account name. -/
theorem rowLine_shows_figures (sc : Scale) (w : Widths) (r : BalRow) :
    ∃ n₁ n₂, rowLine sc w r =
      List.replicate n₁ ' ' ++ shownChars sc r.own ++ List.replicate n₂ ' ' ++ shownChars sc r.tree
        ++ commField w.comm r.comm ++ (acctName r.acct).toList := by
  refine ⟨9 + (w.left - (shownChars sc r.own).length),
    (fillerLen w.comm - 0) + (w.tree - (shownChars sc r.tree).length), ?_⟩
  rw [← List.replicate_append_replicate, ← List.replicate_append_replicate]
  simp only [rowLine, padL, spaces, List.append_assoc, List.append_nil, List.length_nil]

/-- **Delta lines print their figure in full**, followed by the commodity if there is one. -/
theorem deltaLine_shows_figure (sc : Scale) (w : Widths) (cd : String × Dec) :
    ∃ n, deltaLine sc w cd =
      List.replicate n ' ' ++ shownChars sc cd.2 ++ (if cd.1 = "" then [] else ' ' :: cd.1.toList) := by
  refine ⟨9 + (w.left - (shownChars sc cd.2).length), ?_⟩
  rw [← List.replicate_append_replicate]
  simp only [deltaLine, padL, spaces, List.append_assoc]

theorem bodyLines_empty (sc : Scale) (b : Balance) (h : b.rows = []) : bodyLines sc b = [] := by
  simp [bodyLines, h]

/-- one line per row, one ruler, one line per delta — no row or delta is dropped or repeated by the layout -/
theorem bodyLines_length (sc : Scale) (b : Balance) (h : b.rows ≠ []) :
    (bodyLines sc b).length = b.rows.length + 1 + b.deltas.length := by
  have : b.rows.isEmpty = false := by
    cases hr : b.rows with
    | nil => exact absurd hr h
    | cons _ _ => rfl
  simp [bodyLines, this]; omega

/-- the i-th line is the i-th row's line: rows are printed in the balance's order -/
theorem bodyLines_row (sc : Scale) (b : Balance) (i : Nat) (hi : i < b.rows.length) :
    (bodyLines sc b)[i]? = some (rowLine sc (widths sc b) b.rows[i]) := by
  have hne : b.rows.isEmpty = false := by
    cases hr : b.rows with
    | nil => rw [hr] at hi; cases hi
    | cons _ _ => rfl
  simp only [bodyLines, hne, Bool.false_eq_true, if_false, List.append_assoc]
  rw [List.getElem?_append_left (by simpa using hi)]
  simp [hi]

/-- **Alignment.**  Every row whose own figure fits the left column ends that figure at character `9 + left`
    (the same position for all such rows and for the `=` ruler's start of the commodity part). -/
theorem rowLine_own_column (sc : Scale) (w : Widths) (r : BalRow) (h : (shownChars sc r.own).length ≤ w.left) :
    ∃ rest, rowLine sc w r = (spaces 9 ++ padL w.left (shownChars sc r.own)) ++ rest ∧
      (spaces 9 ++ padL w.left (shownChars sc r.own)).length = 9 + w.left := by
  refine ⟨padL (fillerLen w.comm) [] ++ padL w.tree (shownChars sc r.tree) ++ commField w.comm r.comm
    ++ (acctName r.acct).toList, ?_, ?_⟩
  · simp only [rowLine, List.append_assoc]
  · rw [List.length_append, padL_length _ _ h]; simp [spaces]

theorem rulerLine_length (w : Widths) :
    (rulerLine w).length = 9 + w.left + (if w.comm = 0 then 0 else w.comm + 1) := by
  simp [rulerLine]

/-- non-vacuity: a figure wider than its column is written whole (`padL_wide`), a narrower one right-aligned -/
example : padL 3 "12345".toList = "12345".toList ∧ padL 7 "-1.50".toList = "  -1.50".toList := by decide

end C17
end Tackler
